import SpecKitV.Drv.Base
import SpecKitV.Drv.ExtBuildQ
import SpecKitV.Drv.ExtConfigGlue
import SpecKitV.Drv.ExtCtorShape
import SpecKitV.Drv.ExtDfWrappers
import SpecKitV.Drv.ExtEntryPoints
import SpecKitV.Drv.ExtFftNoise
import SpecKitV.Drv.ExtLpsdCore
import SpecKitV.Drv.ExtMiso
import SpecKitV.Drv.ExtNoiseGens
import SpecKitV.Drv.ExtNumpyKernels
import SpecKitV.Drv.ExtResultQueries
import SpecKitV.Drv.ExtRms
import SpecKitV.Drv.ExtSchedGlue
import SpecKitV.Drv.ExtTimeShift
import SpecKitV.Gen.Analysis
import SpecKitV.Gen.Attrs
import SpecKitV.Gen.BuildQ
import SpecKitV.Gen.ConfigGlue
import SpecKitV.Gen.CoreKernels
import SpecKitV.Gen.Ctor
import SpecKitV.Gen.CtorShape
import SpecKitV.Gen.CudaKernels
import SpecKitV.Gen.DfWrappers
import SpecKitV.Gen.Dsp
import SpecKitV.Gen.EntryPoints
import SpecKitV.Gen.FftNoise
import SpecKitV.Gen.GlobalState
import SpecKitV.Gen.KernelHeap
import SpecKitV.Gen.LpsdCore
import SpecKitV.Gen.Miso
import SpecKitV.Gen.Noise
import SpecKitV.Gen.NoiseGens
import SpecKitV.Gen.NumpyKernels
import SpecKitV.Gen.ResultPurity
import SpecKitV.Gen.ResultQueries
import SpecKitV.Gen.Rms
import SpecKitV.Gen.Sched
import SpecKitV.Gen.SchedGlue
import SpecKitV.Gen.TimeShift
import SpecKitV.Gen.Utils
import SpecKitV.Lemmas.AnalyzerGlue
import SpecKitV.Lemmas.Arcsin
import SpecKitV.Lemmas.Bilinear
import SpecKitV.Lemmas.Calib0
import SpecKitV.Lemmas.CalibPoly
import SpecKitV.Lemmas.CauchySchwarz
import SpecKitV.Lemmas.Chunking
import SpecKitV.Lemmas.CxC
import SpecKitV.Lemmas.Delay
import SpecKitV.Lemmas.DelayEff
import SpecKitV.Lemmas.Detrend
import SpecKitV.Lemmas.DetrendComplete
import SpecKitV.Lemmas.FftNoise
import SpecKitV.Lemmas.Goertzel
import SpecKitV.Lemmas.MisoResidual
import SpecKitV.Lemmas.Rms
import SpecKitV.Lemmas.SchedLtf
import SpecKitV.Lemmas.SchedNewVec
import SpecKitV.Lemmas.Sinusoid
import SpecKitV.Lemmas.Starts
import SpecKitV.Lemmas.StatModel
import SpecKitV.Lemmas.Taps
import SpecKitV.Lemmas.TimeShiftPaths
import SpecKitV.Lemmas.Walk
import SpecKitV.Model.Analyzer
import SpecKitV.Model.ConfigGlue
import SpecKitV.Model.CtorShape
import SpecKitV.Model.DfWrappers
import SpecKitV.Model.Dsp
import SpecKitV.Model.EntryPoints
import SpecKitV.Model.KHeap
import SpecKitV.Model.LpsdCore
import SpecKitV.Model.Miso
import SpecKitV.Model.Noise
import SpecKitV.Model.NoiseGens
import SpecKitV.Model.Pipeline
import SpecKitV.Model.Ref
import SpecKitV.Model.ResultPurity
import SpecKitV.Model.ResultQueries
import SpecKitV.Model.Sched
import SpecKitV.Model.TimeShift
import SpecKitV.Np.BuildQ
import SpecKitV.Np.ConfigGlue
import SpecKitV.Np.CtorShape
import SpecKitV.Np.DfWrappers
import SpecKitV.Np.EntryPoints
import SpecKitV.Np.FftNoise
import SpecKitV.Np.LpsdCore
import SpecKitV.Np.Miso
import SpecKitV.Np.NoiseGens
import SpecKitV.Np.NumpyKernels
import SpecKitV.Np.ResultQueries
import SpecKitV.Np.Rms
import SpecKitV.Np.SchedGlue
import SpecKitV.Np.TimeShift
import SpecKitV.Num
import SpecKitV.PReal
import SpecKitV.Props.AnalysisGen
import SpecKitV.Props.AttrsA
import SpecKitV.Props.AttrsB
import SpecKitV.Props.BuildQGen
import SpecKitV.Props.C01
import SpecKitV.Props.C02
import SpecKitV.Props.C03
import SpecKitV.Props.C04
import SpecKitV.Props.C04New
import SpecKitV.Props.C04Vec
import SpecKitV.Props.C05
import SpecKitV.Props.C13
import SpecKitV.Props.C13Finite
import SpecKitV.Props.C14
import SpecKitV.Props.ConfigGlueGen
import SpecKitV.Props.CtorShapeGen
import SpecKitV.Props.DfWrappersGen
import SpecKitV.Props.EntryPointsGen
import SpecKitV.Props.EntryPointsLpsd
import SpecKitV.Props.FftNoiseGen
import SpecKitV.Props.GlobalStateGen
import SpecKitV.Props.JdesGen
import SpecKitV.Props.KernelHeapGen
import SpecKitV.Props.LpsdCoreGen
import SpecKitV.Props.LpsdLoopGen
import SpecKitV.Props.MisoGen
import SpecKitV.Props.NoiseGen
import SpecKitV.Props.NoiseGensGen
import SpecKitV.Props.NumpyKernelsGen
import SpecKitV.Props.PipelineClosed
import SpecKitV.Props.PostGen
import SpecKitV.Props.ResultPurityGen
import SpecKitV.Props.ResultQueriesGen
import SpecKitV.Props.RmsGen
import SpecKitV.Props.SchedGen
import SpecKitV.Props.SchedGlueGen
import SpecKitV.Props.StartsGen
import SpecKitV.Props.StatModel
import SpecKitV.Props.TapsGen
import SpecKitV.Props.TimeShiftGen
import SpecKitV.Props.Utils
import SpecKitV.Props.VecGen
import SpecKitV.RealInst
