/-
  Props/NoiseGen — the machine-translated IIR cascade `Gen._numba_lfilter_cascade` and coefficient design
  `Gen._calc_filter_coeffs` (from speckit/noise.py) ARE the hand models `Model.cascadeRun` /
  `Model.filterCoeffs`, so the chunking / continuity theorems of `Lemmas/Chunking.lean` are theorems
  about the code as translated.

  The generated loops are definitionally `forRange` over explicit bodies (`gen_cascade_unfold`).  Invariant of the sample loop
  (`inner_inv`): after k steps the entries below k and the carried state are the model's `sectionRun` on the first k samples, the
  entries from k on are untouched.  Invariant of the section loop (`outer_inv`): after k sections the array is the model cascade
  over the first k sections, these sections with the states now stored are the model's final ones, and the rows from k on of the
  state matrix are untouched.  All of it is structural and holds for every `[RealLike α]`; the hypotheses `b.n = a.n`,
  `zi.n = a.n` of the main theorems are not used (arrays are total index functions).
-/
import SpecKitV.RealInst
import SpecKitV.Gen.Noise
import SpecKitV.Model.Noise
import SpecKitV.Lemmas.Chunking

/-- list view of an array -/
def Arr.toList {α : Type} (a : Arr α) : List α := (List.range a.n).map a.get
/-- the sections described by the coefficient/state matrices: row i = (a0, a1), (b0, b1), state zi[i,0] -/
def sectionsOf {α : Type} (a b zi : Arr2 α) : List (Model.Section α) :=
  (List.range a.n).map (fun i => { a0 := a.get i 0, a1 := a.get i 1, b1 := b.get i 1, z := zi.get i 0 })

theorem gen_filter_coeffs_eq_model (fmin fmax fs : ℝ) :
    Gen._calc_filter_coeffs fmin fmax fs = Model.filterCoeffs fs fmin fmax := by
  unfold Gen._calc_filter_coeffs Model.filterCoeffs
  rw [RL.lit_one, RL.ofInt_eq]
  -- each coefficient is an identity of field expressions: the order in which the Python writes the operands does not matter
  exact congrArg₂ Prod.mk (by ring) (congrArg₂ Prod.mk (by ring) (by ring))

namespace NoiseGen
variable {α : Type} [RealLike α]

/-- cascade over `l ++ [s]`: run `l`, then the last section on its output -/
theorem cascadeRun_snoc (l : List (Model.Section α)) (s : Model.Section α) (xs : List α) :
    Model.cascadeRun (l ++ [s]) xs
      = ((Model.sectionRun s.a0 s.a1 s.b1 s.z (Model.cascadeRun l xs).1).1,
         (Model.cascadeRun l xs).2
           ++ [{ s with z := (Model.sectionRun s.a0 s.a1 s.b1 s.z (Model.cascadeRun l xs).1).2 }]) := by
  induction l generalizing xs with
  | nil => rfl
  | cons t l ih => rw [List.cons_append, Model.cascadeRun_cons, ih, Model.cascadeRun_cons]; rfl

/-- the cascade never changes the coefficients of the sections -/
theorem cascadeRun_coeffs {l : List (Model.Section α)} {xs : List α} :
    (Model.cascadeRun l xs).2.map (fun s => (s.a0, s.a1, s.b1)) = l.map (fun s => (s.a0, s.a1, s.b1)) := by
  induction l generalizing xs with
  | nil => rfl
  | cons t l ih => rw [Model.cascadeRun_cons, List.map_cons, List.map_cons, ih]

theorem cascadeRun_states_length (l : List (Model.Section α)) (xs : List α) :
    (Model.cascadeRun l xs).2.length = l.length := by
  induction l generalizing xs with
  | nil => rfl
  | cons t l ih => rw [Model.cascadeRun_cons, List.length_cons, List.length_cons, ih]

/-- body of the sample loop (noise.py:119-124) -/
def innerBody (a0 a1 b1 : α) (j : ℕ) (st : Arr α × α) : Arr α × α :=
  let y := a0 * st.1.get j + st.2
  (Arr.set st.1 j y, a1 * st.1.get j - b1 * y)

/-- body of the section loop -/
def outerBody (a b : Arr2 α) (i : ℕ) (st : Arr α × Arr2 α) : Arr α × Arr2 α :=
  let r := forRange st.1.n (st.1, st.2.get i 0) (innerBody (a.get i 0) (a.get i 1) (b.get i 1))
  (r.1, Arr2.set st.2 i 0 r.2)

theorem gen_cascade_unfold (samples : Arr α) (a b zi : Arr2 α) :
    Gen._numba_lfilter_cascade samples a b zi = forRange a.n (samples, zi) (outerBody a b) := rfl

theorem inner_inv (a0 a1 b1 z : α) (x : Arr α) (k : ℕ) :
    (forRange k (x, z) (innerBody a0 a1 b1)).1.n = x.n ∧
    (∀ j, k ≤ j → (forRange k (x, z) (innerBody a0 a1 b1)).1.get j = x.get j) ∧
    ((List.range k).map (forRange k (x, z) (innerBody a0 a1 b1)).1.get,
      (forRange k (x, z) (innerBody a0 a1 b1)).2)
      = Model.sectionRun a0 a1 b1 z ((List.range k).map x.get) := by
  induction k with
  | zero => rw [forRange_zero]; exact ⟨rfl, fun _ _ => rfl, rfl⟩
  | succ k ih =>
    rw [forRange_succ]
    generalize forRange k (x, z) (innerBody a0 a1 b1) = r at ih ⊢
    obtain ⟨hn, hge, hrun⟩ := ih
    have hk : r.1.get k = x.get k := hge k le_rfl
    refine ⟨hn, fun j hj => (if_neg (by omega)).trans (hge j (by omega)), ?_⟩
    have hlt : (List.range k).map (innerBody a0 a1 b1 k r).1.get = (List.range k).map r.1.get :=
      List.map_congr_left fun j hj => if_neg (List.mem_range.1 hj).ne
    rw [List.range_succ, List.map_append, List.map_append, Model.sectionRun_append, ← hrun, hlt, List.map_cons, List.map_nil,
      List.map_cons, List.map_nil, ← hk, show (innerBody a0 a1 b1 k r).1.get k = a0 * r.1.get k + r.2 from if_pos rfl]
    rfl

theorem section_loop (a0 a1 b1 z : α) (x : Arr α) :
    ((forRange x.n (x, z) (innerBody a0 a1 b1)).1.toList, (forRange x.n (x, z) (innerBody a0 a1 b1)).2)
      = Model.sectionRun a0 a1 b1 z x.toList ∧
    (forRange x.n (x, z) (innerBody a0 a1 b1)).1.n = x.n := by
  obtain ⟨hn, _, hrun⟩ := inner_inv a0 a1 b1 z x x.n
  refine ⟨?_, hn⟩
  unfold Arr.toList
  rw [hn]
  exact hrun

theorem outer_inv (samples : Arr α) (a b zi : Arr2 α) (k : ℕ) :
    (forRange k (samples, zi) (outerBody a b)).1.toList
        = (Model.cascadeRun (sectionsOf { a with n := k } b zi) samples.toList).1 ∧
    (forRange k (samples, zi) (outerBody a b)).1.n = samples.n ∧
    (∀ i l, k ≤ i → (forRange k (samples, zi) (outerBody a b)).2.get i l = zi.get i l) ∧
    sectionsOf { a with n := k } b (forRange k (samples, zi) (outerBody a b)).2
        = (Model.cascadeRun (sectionsOf { a with n := k } b zi) samples.toList).2 := by
  induction k with
  | zero => rw [forRange_zero]; exact ⟨rfl, rfl, fun _ _ _ => rfl, rfl⟩
  | succ k ih =>
    rw [forRange_succ]
    generalize forRange k (samples, zi) (outerBody a b) = r at ih ⊢
    obtain ⟨hout, hn, hge, hst⟩ := ih
    have hsecs : ∀ z : Arr2 α, sectionsOf { a with n := k + 1 } b z = sectionsOf { a with n := k } b z
        ++ [{ a0 := a.get k 0, a1 := a.get k 1, b1 := b.get k 1, z := z.get k 0 }] := by
      intro z
      unfold sectionsOf
      rw [List.range_succ, List.map_append]
      rfl
    obtain ⟨hrun, hn'⟩ := section_loop (a.get k 0) (a.get k 1) (b.get k 1) (r.2.get k 0) r.1
    simp only [outerBody]
    generalize forRange r.1.n (r.1, r.2.get k 0) (innerBody (a.get k 0) (a.get k 1) (b.get k 1)) = q at hrun hn' ⊢
    -- the state read in iteration k is still the original one
    rw [hout, hge k 0 le_rfl] at hrun
    rw [hsecs zi, hsecs (Arr2.set r.2 k 0 q.2), cascadeRun_snoc]
    -- iteration k leaves the rows below k of the state matrix alone
    have hlt : sectionsOf { a with n := k } b (Arr2.set r.2 k 0 q.2) = sectionsOf { a with n := k } b r.2 :=
      List.map_congr_left fun j hj => congrArg (Model.Section.mk _ _ _) (if_neg fun h => (List.mem_range.1 hj).ne h.1)
    refine ⟨congrArg Prod.fst hrun, hn'.trans hn, fun i l hi => (if_neg (by omega)).trans (hge i l (by omega)), ?_⟩
    rw [hlt, hst, show (Arr2.set r.2 k 0 q.2).get k 0 = q.2 from if_pos ⟨rfl, rfl⟩, congrArg Prod.snd hrun]

/-- the whole cascade: output samples, and the sections described by the ORIGINAL coefficients and the RETURNED state matrix -/
theorem cascade_core (samples : Arr α) (a b zi : Arr2 α) :
    (Gen._numba_lfilter_cascade samples a b zi).1.toList
        = (Model.cascadeRun (sectionsOf a b zi) samples.toList).1 ∧
    (Gen._numba_lfilter_cascade samples a b zi).1.n = samples.n ∧
    sectionsOf a b (Gen._numba_lfilter_cascade samples a b zi).2
        = (Model.cascadeRun (sectionsOf a b zi) samples.toList).2 := by
  obtain ⟨h1, h2, _, h4⟩ := outer_inv samples a b zi a.n
  rw [gen_cascade_unfold]
  exact ⟨h1, h2, h4⟩  -- `{ a with n := a.n }` is `a` (eta)

omit [RealLike α] in
theorem sectionsOf_getD {a b zi : Arr2 α} {d : Model.Section α} {i : ℕ} (hi : i < a.n) :
    (sectionsOf a b zi).getD i d = ⟨a.get i 0, a.get i 1, b.get i 1, zi.get i 0⟩ := by
  unfold sectionsOf
  rw [List.getD_eq_getElem?_getD, List.getElem?_map, List.getElem?_range hi]
  rfl

omit [RealLike α] in
theorem toList_concat (s1 s2 : Arr α) :
    (⟨s1.n + s2.n, fun k => if k < s1.n then s1.get k else s2.get (k - s1.n)⟩ : Arr α).toList
      = s1.toList ++ s2.toList := by
  unfold Arr.toList
  rw [List.range_add, List.map_append, List.map_map]
  exact congrArg₂ _ (List.map_congr_left fun j hj => if_pos (List.mem_range.1 hj))
    (List.map_congr_left fun j _ => (if_neg (Nat.not_lt.2 (Nat.le_add_right _ _))).trans
      (congrArg s2.get (Nat.add_sub_cancel_left ..)))

end NoiseGen

open NoiseGen

/-- inner loop: one section over the whole block = `Model.sectionRun` -/
theorem gen_section_loop (a0 a1 b1 z : ℝ) (x : Arr ℝ) :
    let r := forRange x.n (x, z) (fun j (st : Arr ℝ × ℝ) =>
        let y := a0 * st.1.get j + st.2
        (Arr.set st.1 j y, a1 * st.1.get j - b1 * y))
    (r.1.toList, r.2) = Model.sectionRun a0 a1 b1 z x.toList ∧ r.1.n = x.n :=
  section_loop a0 a1 b1 z x

section
set_option linter.unusedVariables false  -- `hb`, `hz` (see the head of the file)

/-- the generated cascade equals the model cascade: same output samples, same final states -/
theorem gen_cascade_eq_model (samples : Arr ℝ) (a b zi : Arr2 ℝ) (hb : b.n = a.n) (hz : zi.n = a.n) :
    let g := Gen._numba_lfilter_cascade samples a b zi
    let m := Model.cascadeRun (sectionsOf a b zi) samples.toList
    g.1.toList = m.1 ∧ g.1.n = samples.n ∧
    (∀ i < a.n, g.2.get i 0 = (m.2.getD i ⟨0, 0, 0, 0⟩).z) ∧
    m.2.map (fun s => (s.a0, s.a1, s.b1)) = (sectionsOf a b zi).map (fun s => (s.a0, s.a1, s.b1)) := by
  intro g m
  obtain ⟨h1, h2, h3⟩ := cascade_core samples a b zi
  exact ⟨h1, h2, fun i hi => by rw [← h3, sectionsOf_getD hi], cascadeRun_coeffs⟩

theorem gen_cascade_chunking (s1 s2 : Arr ℝ) (a b zi : Arr2 ℝ) (hb : b.n = a.n) (hz : zi.n = a.n) :
    let whole : Arr ℝ := ⟨s1.n + s2.n, fun k => if k < s1.n then s1.get k else s2.get (k - s1.n)⟩
    let g1 := Gen._numba_lfilter_cascade s1 a b zi
    let g2 := Gen._numba_lfilter_cascade s2 a b g1.2
    let gw := Gen._numba_lfilter_cascade whole a b zi
    gw.1.toList = g1.1.toList ++ g2.1.toList ∧ ∀ i < a.n, gw.2.get i 0 = g2.2.get i 0 := by
  intro whole g1 g2 gw
  obtain ⟨w1, _, w3⟩ := cascade_core whole a b zi
  obtain ⟨p1, _, p3⟩ := cascade_core s1 a b zi
  obtain ⟨q1, _, q3⟩ := cascade_core s2 a b g1.2
  rw [toList_concat, Model.cascadeRun_append, ← p1, ← p3, ← q1, ← q3] at w1 w3
  exact ⟨w1, fun i hi => congrArg Model.Section.z (List.map_inj_left.1 w3 i (List.mem_range.2 hi))⟩

end

#print axioms gen_filter_coeffs_eq_model
#print axioms gen_section_loop
#print axioms gen_cascade_eq_model
#print axioms gen_cascade_chunking

