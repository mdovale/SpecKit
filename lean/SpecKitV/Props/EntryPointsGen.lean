/-
  SpecKitV.Props.EntryPointsGen — the TRANSLATED region `Gen/EntryPoints.lean` (regenerated from speckit/analysis.py and
  speckit/core.py on every run) is the hand specification `Model/EntryPoints.lean`, and the statements of the property text about
  `SpectrumResult.__init__`, the module-level entry points, `_select_backend` and `_check_starts_bounds` are theorems about the
  translated code.  All theorems but `normEntry_int_key_integral` (ℝ) hold for every numeric class `RealLike α`.
-/
import SpecKitV.RealInst
import SpecKitV.Gen.EntryPoints
import SpecKitV.Model.EntryPoints
import SpecKitV.Model.ResultQueries

namespace EPG
open EP

variable {α : Type}

theorem optMap_congr {β γ : Type} {f g : β → Option γ} : ∀ {l : List β}, (∀ x ∈ l, f x = g x) → optMap f l = optMap g l
  | [], _ => rfl
  | x :: xs, h => by
    have hx := h x (List.mem_cons_self)
    have ih := optMap_congr (l := xs) (fun y hy => h y (List.mem_cons_of_mem _ hy))
    simp only [optMap, hx, ih]

theorem optMap_eq_some {β γ : Type} {f : β → Option γ} :
    ∀ {l : List β} {l' : List γ}, optMap f l = some l' ↔ List.Forall₂ (fun x y => f x = some y) l l'
  | [], l' => by
    rw [List.forall₂_nil_left_iff]
    exact ⟨fun h => (Option.some.inj h).symm, fun h => h ▸ rfl⟩
  | x :: xs, l' => by
    rw [List.forall₂_cons_left_iff]
    simp only [optMap, ← optMap_eq_some (l := xs)]
    cases f x with
    | none => exact ⟨nofun, nofun⟩
    | some y =>
      cases optMap f xs with
      | none => exact ⟨nofun, nofun⟩
      | some ys =>
        exact ⟨fun h => ⟨y, ys, rfl, rfl, (Option.some.inj h).symm⟩, fun ⟨_, _, hy, hys, e⟩ => by cases hy; cases hys; rw [e]⟩

theorem optMap_eq_map {β γ : Type} {f : β → Option γ} {g : β → γ} {l : List β} (h : ∀ x ∈ l, f x = some (g x)) :
    optMap f l = some (l.map g) :=
  optMap_eq_some.mpr (List.forall₂_map_right_iff.mpr (List.forall₂_same.mpr h))

theorem optMap_id {β : Type} {f : β → Option β} {l : List β} (h : ∀ x ∈ l, f x = some x) : optMap f l = some l :=
  optMap_eq_some.mpr (List.forall₂_same.mpr h)

theorem optMap_comp {β γ δ : Type} (f : β → Option γ) (g : γ → Option δ) :
    ∀ l : List β, (optMap f l).bind (optMap g) = optMap (fun x => (f x).bind g) l
  | [] => rfl
  | x :: xs => by
    simp only [optMap, ← optMap_comp f g xs]
    cases f x with
    | none => rfl
    | some y =>
      cases optMap f xs with
      | none =>
        rw [Option.bind_some]
        cases g y <;> rfl
      | some ys => rfl

theorem optMap_map_fst {β γ κ : Type} {f : β → Option γ} (kb : β → κ) (kc : γ → κ) (hf : ∀ x y, f x = some y → kc y = kb x)
    {l : List β} {l' : List γ} (h : optMap f l = some l') : l'.map kc = l.map kb := by
  rw [← List.forall₂_eq_eq_eq, List.forall₂_map_left_iff, List.forall₂_map_right_iff]
  exact ((optMap_eq_some.mp h).imp hf).flip

theorem optMap_length {β γ : Type} {f : β → Option γ} : ∀ {l : List β} {l' : List γ}, optMap f l = some l' → l'.length = l.length :=
  fun h => (optMap_eq_some.mp h).length_eq.symm

def keys (d : Dict α) : List String := d.map Prod.fst

theorem fst_of_map_mk {κ β : Type} {o : Option β} {k : κ} {y : κ × β} (h : o.map (fun v => (k, v)) = some y) : y.1 = k := by
  cases o with
  | none => cases h
  | some v => cases h; rfl

theorem nodup_keys_of_optMap {f : String × Val α → Option (String × Val α)} (hf : ∀ x y, f x = some y → y.1 = x.1) {d d' : Dict α}
    (h : optMap f d = some d') (hk : (keys d).Nodup) : (keys d').Nodup := by
  rw [show keys d' = keys d from optMap_map_fst Prod.fst Prod.fst hf h]
  exact hk

theorem dictGet_of_not_mem {d : Dict α} {k : String} (h : k ∉ keys d) : dictGet d k = none := by
  induction d with
  | nil => rfl
  | cons p rest ih =>
    obtain ⟨k', v⟩ := p
    simp only [keys, List.map_cons, List.mem_cons, not_or] at h
    simp only [dictGet, if_neg (Ne.symm h.1)]
    exact ih h.2

theorem dictGet_mem {d : Dict α} {k : String} {v : Val α} (hk : (keys d).Nodup) (h : (k, v) ∈ d) : dictGet d k = some v := by
  induction d with
  | nil => simp at h
  | cons p rest ih =>
    obtain ⟨k', v'⟩ := p
    simp only [keys, List.map_cons, List.nodup_cons] at hk
    rcases List.mem_cons.mp h with h | h
    · simp only [Prod.mk.injEq] at h
      simp [dictGet, h.1, h.2]
    · have hne : k' ≠ k := fun e => hk.1 (e ▸ List.mem_map_of_mem (f := Prod.fst) h)
      simp only [dictGet, if_neg hne]
      exact ih hk.2 h

theorem map_replace_of_not_mem {d : Dict α} {k : String} (v : Val α) (h : k ∉ keys d) :
    d.map (fun p => if p.1 = k then (k, v) else p) = d := by
  induction d with
  | nil => rfl
  | cons p rest ih =>
    simp only [keys, List.map_cons, List.mem_cons, not_or] at h
    simp only [List.map_cons, if_neg (Ne.symm h.1)]
    rw [ih h.2]

/-- entry-wise update of the keys in `names` -/
def UN (names : List String) (c : Val α → Option (Val α)) (kv : String × Val α) : Option (String × Val α) :=
  (if kv.1 ∈ names then c kv.2 else some kv.2).map (fun v => (kv.1, v))

theorem UN_other {ns : List String} {c : Val α → Option (Val α)} {kv : String × Val α} (h : kv.1 ∉ ns) : UN ns c kv = some kv := by
  simp [UN, h]

theorem UN_keys {ns : List String} {c : Val α → Option (Val α)} : ∀ x y, UN ns c x = some y → y.1 = x.1 :=
  fun _ _ h => fst_of_map_mk h

/-- the canonical form of `if name in d: d[name] = conv(d[name])` -/
def updStep (conv : Val α → Option (Val α)) (data : Dict α) (name : String) : Option (Dict α) :=
  if dictHas data name then
    match dictGet data name with
    | none => none
    | some t =>
      match conv t with
      | none => none
      | some t2 => some (dictSet data name t2)
  else some data

theorem updStep_eq_optMap (conv : Val α → Option (Val α)) (name : String) :
    ∀ (d : Dict α), (keys d).Nodup → updStep conv d name = optMap (UN [name] conv) d
  | [], _ => by simp [updStep, dictHas, dictGet, optMap]
  | (k, v) :: rest, hk => by
    simp only [keys, List.map_cons, List.nodup_cons] at hk
    by_cases hkn : k = name
    · subst hkn
      have hid : optMap (UN [k] conv) rest = some rest :=
        optMap_id fun x hx => UN_other fun e => hk.1 (List.mem_singleton.mp e ▸ List.mem_map_of_mem (f := Prod.fst) hx)
      simp only [updStep, dictHas, dictGet, if_true, Option.isSome_some, optMap, UN, List.mem_singleton, hid]
      cases conv v with
      | none => simp
      | some t2 =>
        simp only [Option.map_some, dictSet, dictHas, dictGet, if_true, Option.isSome_some, List.map_cons]
        rw [map_replace_of_not_mem t2 hk.1]
    · have ih := updStep_eq_optMap conv name rest hk.2
      have hU : UN [name] conv (k, v) = some (k, v) := UN_other (fun e => hkn (List.mem_singleton.mp e))
      simp only [optMap, hU, ← ih]
      cases hg : dictGet rest name with
      | none => simp [updStep, dictHas, dictGet, hkn, hg]
      | some t =>
        cases hc : conv t with
        | none => simp [updStep, dictHas, dictGet, hkn, hg, hc]
        | some t2 => simp [updStep, dictHas, dictGet, dictSet, hkn, hg, hc]

/-- a loop `for k in names: if k in d: d[k] = conv(d[k])` over DISTINCT names is the entry-wise map that converts exactly the entries whose
    key is listed -/
theorem foldl_updStep (conv : Val α → Option (Val α)) (step : Dict α → String → Option (Dict α))
    (hstep : ∀ data name, step data name = updStep conv data name) :
    ∀ (names : List String) (d : Dict α), names.Nodup → (keys d).Nodup → foldlOpt step d names = optMap (UN names conv) d
  | [], d, _, _ => (optMap_id fun _ _ => UN_other List.not_mem_nil).symm
  | n :: ns, d, hn, hk => by
    simp only [List.nodup_cons] at hn
    simp only [foldlOpt, hstep, updStep_eq_optMap conv n d hk]
    have hcomp : optMap (UN (n :: ns) conv) d = (optMap (UN [n] conv) d).bind (optMap (UN ns conv)) := by
      rw [optMap_comp]
      apply optMap_congr
      intro x _
      by_cases hx : x.1 = n
      · have hx' : x.1 ∉ ns := by rw [hx]; exact hn.1
        simp only [UN, hx, List.mem_cons, true_or, if_true]
        cases conv x.2 with
        | none => simp
        | some t => simp [UN, hn.1]
      · simp [UN, hx]
    rw [hcomp]
    cases h1 : optMap (UN [n] conv) d with
    | none => simp
    | some d1 =>
      have hk1 := nodup_keys_of_optMap UN_keys h1 hk
      simp only [Option.bind_some]
      exact foldl_updStep conv step hstep ns d1 hn.2 hk1

theorem fill_aux (f : Item α → Option (Item α)) (step : Val α → Nat × Item α → Option (Val α))
    (hstep : ∀ arr it, step arr it = match f it.2 with
                                      | none => none
                                      | some t => objSet arr it.1 t) :
    ∀ (rest done : List (Item α)),
      foldlOpt step (.objvec (done ++ List.replicate rest.length Item.none)) (enumFrom done.length rest)
        = (optMap f rest).map (fun ys => Val.objvec (done ++ ys))
  | [], done => by simp [foldlOpt, enumFrom, optMap]
  | x :: rest, done => by
    simp only [enumFrom, foldlOpt, hstep, optMap, List.length_cons, List.replicate_succ]
    cases hf : f x with
    | none => simp
    | some t =>
      have hlt : done.length < (done ++ Item.none :: List.replicate rest.length Item.none).length := by simp
      simp only [objSet, hlt, if_true, List.set_append_right _ _ le_rfl, Nat.sub_self, List.set_cons_zero]
      have ih := fill_aux f step hstep rest (done ++ [t])
      simp only [List.length_append, List.length_cons, List.length_nil, List.append_assoc, List.cons_append, List.nil_append] at ih
      rw [ih]
      cases optMap f rest <;> simp

/-- `arr = np.empty(len(items), dtype=object); for i, d in enumerate(items): arr[i] = f(d)` is ALWAYS the 1-D object array `[f(d) for d in items]` -/
theorem fill_eq (f : Item α → Option (Item α)) (step : Val α → Nat × Item α → Option (Val α))
    (hstep : ∀ arr it, step arr it = match f it.2 with
                                      | none => none
                                      | some t => objSet arr it.1 t) (items : List (Item α)) :
    foldlOpt step (emptyObject items.length) (enumerate items) = (optMap f items).map Val.objvec := by
  simpa [emptyObject, enumerate] using fill_aux f step hstep items []

theorem emptyObjectFill_eq (f : Item α → Option (Item α)) (items : List (Item α)) :
    Np.emptyObjectFill f items = (optMap f items).map Val.objvec :=
  fill_eq f _ (fun _ _ => rfl) items

/-- first pass of `__init__` (lists become arrays), entry by entry -/
def pass1Entry [RealLike α] (kv : String × Val α) : Option (String × Val α) := (Model.listToArray kv.1 kv.2).map (fun v => (kv.1, v))

def pass1Step [RealLike α] (data : Dict α) (kv : String × Val α) : Option (Dict α) :=
  if isinstanceList kv.2 then
    match Model.listToArray kv.1 kv.2 with
    | none => none
    | some t => some (dictSet data kv.1 t)
  else some data

theorem listToArray_of_not_list [RealLike α] (k : String) (v : Val α) (h : isinstanceList v = false) : Model.listToArray k v = some v := by
  cases v with
  | pylist xs => cases h
  | _ => rfl

theorem dictSet_mid (pre suf : Dict α) (k : String) (v t : Val α) (h1 : k ∉ keys pre) (h2 : k ∉ keys suf) :
    dictSet (pre ++ (k, v) :: suf) k t = pre ++ (k, t) :: suf := by
  have hg : dictGet (pre ++ (k, v) :: suf) k = some v := by
    induction pre with
    | nil => simp [dictGet]
    | cons p ps ih =>
      simp only [keys, List.map_cons, List.mem_cons, not_or] at h1
      simp only [List.cons_append, dictGet, if_neg (Ne.symm h1.1)]
      exact ih h1.2
  simp only [dictSet, dictHas, hg, Option.isSome_some, if_true, List.map_append, List.map_cons]
  rw [map_replace_of_not_mem t h1, map_replace_of_not_mem t h2]

theorem pass1Step_mid [RealLike α] (pre suf : Dict α) (k : String) (v : Val α) (h1 : k ∉ keys pre) (h2 : k ∉ keys suf) :
    pass1Step (pre ++ (k, v) :: suf) (k, v) = (Model.listToArray k v).map (fun t => pre ++ (k, t) :: suf) := by
  unfold pass1Step
  by_cases hl : isinstanceList v = true
  · simp only [hl, if_true]
    cases Model.listToArray k v with
    | none => rfl
    | some t => simp only [Option.map_some, dictSet_mid pre suf k v t h1 h2]
  · have hl' : isinstanceList v = false := by simpa using hl
    simp only [hl', Bool.false_eq_true, if_false, listToArray_of_not_list k v hl', Option.map_some]

theorem foldl_pass1 [RealLike α] (step : Dict α → String × Val α → Option (Dict α)) (hstep : ∀ data kv, step data kv = pass1Step data kv) :
    ∀ (suf pre : Dict α), (keys pre ++ keys suf).Nodup → foldlOpt step (pre ++ suf) suf = (optMap pass1Entry suf).map (fun ys => pre ++ ys)
  | [], pre, _ => by simp [foldlOpt, optMap]
  | (k, v) :: rest, pre, hk => by
    have hnot : k ∉ keys pre ++ keys rest := (List.nodup_cons.mp (List.nodup_middle.mp hk)).1
    rw [List.mem_append, not_or] at hnot
    simp only [foldlOpt, hstep, pass1Step_mid pre rest k v hnot.1 hnot.2, optMap, pass1Entry]
    cases Model.listToArray k v with
    | none => rfl
    | some t =>
      have ih := foldl_pass1 step hstep rest (pre ++ [(k, t)]) (by simpa [keys] using hk)
      rw [List.append_assoc] at ih
      simp only [Option.map_some, List.singleton_append] at ih ⊢
      rw [ih]
      cases optMap pass1Entry rest with
      | none => rfl
      | some ys => exact congrArg some (List.append_assoc pre [(k, t)] ys)

theorem pass1Entry_keys [RealLike α] : ∀ (x y : String × Val α), pass1Entry x = some y → y.1 = x.1 :=
  fun _ _ h => fst_of_map_mk h

theorem dictSet_self {data : Dict α} {k : String} {v : Val α} (hk : (keys data).Nodup) (hh : dictHas data k = true)
    (hg : dictGet data k = some v) : dictSet data k v = data := by
  have : updStep (fun x => some x) data k = some data := by
    rw [updStep_eq_optMap _ _ data hk]
    exact optMap_id (fun x _ => by simp [UN])
  simpa [updStep, hh, hg] using this

/-- the translated body of a dtype loop is `updStep` behind an eta-expansion of `Option`
    (`hstep` of `dtype_pass` unifies the generated body with this side) -/
theorem updStep_eta {conv : Val α → Option (Val α)} {data : Dict α} {name : String} :
    (match (if dictHas data name then
        (match dictGet data name with
        | none => none
        | some t =>
          (match conv t with
          | none => none
          | some t2 => some (dictSet data name t2)))
      else some data) with
    | none => none
    | some x => some x) = updStep conv data name := by
  unfold updStep
  generalize (if dictHas data name then _ else some data) = o
  cases o <;> rfl

/-- one dtype loop of `__init__`; `names` is the key tuple as written in the source, in any order -/
theorem dtype_pass {conv : Val α → Option (Val α)} {step : Dict α → String → Option (Dict α)} {names : List String} (ks : List String) (d : Dict α)
    (hstep : ∀ data name, step data name = updStep conv data name) (hn : names.Nodup) (hperm : names.Perm ks) (hk : (keys d).Nodup) :
    foldlOpt step d names = optMap (UN ks conv) d := by
  rw [foldl_updStep conv step hstep names d hn hk]
  congr 1
  funext kv
  simp only [UN, hperm.mem_iff]

/-- one stage of `__init__`: the loop `a` is the entry-wise map `o`, and what follows it need only agree on the dictionaries `o` can return -/
theorem stage {C : Type} {a o : Option (Dict α)} {k k' : Dict α → Option (Result α C)} :
    a = o → (∀ s, o = some s → k s = k' s) →
      (match a with
       | none => none
       | some s => k s) = o.bind k' := by
  rintro rfl hk
  cases a with
  | none => rfl
  | some s => exact hk s rfl

section main
variable [RealLike α] {C : Type}

theorem foldl_pass1_nil (step : Dict α → String × Val α → Option (Dict α)) (d : Dict α) (hstep : ∀ data kv, step data kv = pass1Step data kv)
    (hk : (keys d).Nodup) : foldlOpt step d d = optMap pass1Entry d := by
  simpa using foldl_pass1 step hstep d [] (by simpa [keys] using hk)

theorem opt_eta {β : Type} (o : Option β) : (match o with
    | none => none
    | some x => some x) = o := by cases o <;> rfl

theorem UN_eq_onKeys (ks : List String) (c : Val α → Option (Val α)) (k : String) (v : Val α) :
    UN ks c (k, v) = (Model.onKeys ks c k v).map (fun w => (k, w)) := rfl

theorem normDict_passes (d : Dict α) :
    Model.normDict d =
      ((((optMap pass1Entry d).bind (optMap (UN Model.floatKeys (ascontiguousarray .float64)))).bind
          (optMap (UN Model.complexKeys (ascontiguousarray .complex128)))).bind
          (optMap (UN Model.intKeys (ascontiguousarray .int64)))).bind (optMap (UN ["D"] Model.startsToInt64)) := by
  rw [optMap_comp, optMap_comp, optMap_comp, optMap_comp]
  unfold Model.normDict
  apply optMap_congr
  intro kv _
  obtain ⟨k, v⟩ := kv
  simp only [pass1Entry, Model.normEntry]
  cases Model.listToArray k v with
  | none => rfl
  | some v1 =>
    simp only [Option.map_some, Option.bind_some, UN_eq_onKeys]
    cases Model.onKeys Model.floatKeys (ascontiguousarray DType.float64) k v1 with
    | none => rfl
    | some v2 =>
      simp only [Option.map_some, Option.bind_some, UN_eq_onKeys]
      cases Model.onKeys Model.complexKeys (ascontiguousarray DType.complex128) k v2 with
      | none => rfl
      | some v3 =>
        simp only [Option.map_some, Option.bind_some, UN_eq_onKeys]
        cases Model.onKeys Model.intKeys (ascontiguousarray DType.int64) k v3 with
        | none => rfl
        | some v4 =>
          simp only [Option.map_some, Option.bind_some, UN_eq_onKeys]

theorem resultInit_eq_bind (d : Dict α) (config : C) (iscsd : Bool) (fs : α) :
    Model.resultInit d config iscsd fs = (Model.normDict d).bind fun data =>
      ((dictGet data "f").elim (some 0) shape0).map fun nf =>
        { data := data, config := config, iscsd := iscsd, fs := fs, cache := [], nf := nf } := by
  unfold Model.resultInit
  cases Model.normDict d with
  | none => rfl
  | some data =>
    dsimp only [Option.bind_some]
    cases dictGet data "f" with
    | none => rfl
    | some f =>
      dsimp only [Option.elim]
      cases shape0 f <;> rfl

/-- `hk`, here and below: a Python dict has distinct keys; the model's `Dict` is an association list -/
theorem gen_result_init_eq_model (d : Dict α) (config : C) (iscsd : Bool) (fs : α) (hk : (keys d).Nodup) :
    Gen.result_init d config iscsd fs = Model.resultInit d config iscsd fs := by
  rw [resultInit_eq_bind, normDict_passes, Option.bind_assoc, Option.bind_assoc, Option.bind_assoc, Option.bind_assoc]
  unfold Gen.result_init
  -- stage by stage; each keeps the keys, hence their distinctness, which the next one needs
  refine stage (foldl_pass1_nil _ d ?hstep hk) fun d1 h1 => ?_
  case hstep =>
    rintro data ⟨k, v⟩
    cases v with
    | pylist xs =>
      simp only [pass1Step, isinstanceList, Model.listToArray, if_true, beq_iff_eq]
      split_ifs
      · simp only [len, iter, Option.map_some]
        rw [fill_eq (fun d => some d), optMap_id (fun _ _ => rfl)]
        · rfl
        · intro arr it
          dsimp only
          cases objSet arr it.1 it.2 <;> rfl
      · rfl
    | _ => rfl
  have hk1 := nodup_keys_of_optMap pass1Entry_keys h1 hk
  refine stage (dtype_pass Model.floatKeys d1 (fun _ _ => updStep_eta) (by decide) (by decide) hk1)
    fun d2 h2 => ?_
  have hk2 := nodup_keys_of_optMap UN_keys h2 hk1
  refine stage (dtype_pass Model.complexKeys d2 (fun _ _ => updStep_eta) (by decide) (by decide) hk2)
    fun d3 h3 => ?_
  have hk3 := nodup_keys_of_optMap UN_keys h3 hk2
  refine stage (dtype_pass Model.intKeys d3 (fun _ _ => updStep_eta) (by decide) (by decide) hk3)
    fun d4 h4 => ?_
  have hk4 := nodup_keys_of_optMap UN_keys h4 hk3
  refine stage ((?_ : _ = updStep Model.startsToInt64 d4 "D").trans (updStep_eq_optMap _ _ d4 hk4)) fun d5 _ => ?_
  · unfold updStep
    refine if_ctx_congr Iff.rfl (fun hh => ?_) fun _ => rfl
    cases hg : dictGet d4 "D" with
    | none => rfl
    | some v =>
      dsimp only
      unfold Model.startsToInt64
      cases dtypeIsObject v with
      | none => rfl
      | some b =>
        cases b with
        | false => exact congrArg some (dictSet_self hk4 hh hg).symm
        | true =>
          simp only [if_true, len]
          cases iter v with
          | none => rfl
          | some cells =>
            simp only [Option.map_some]
            rw [fill_eq asarrayItemInt64 _ ?_ cells]
            · cases optMap asarrayItemInt64 cells <;> rfl
            · intro arr it
              cases asarrayItemInt64 it.2 with
              | none => rfl
              | some t =>
                dsimp only
                cases objSet arr it.1 t <;> rfl
  · unfold dictGetD
    cases dictGet d5 "f" with
    | none => rfl
    | some f =>
      dsimp only [Option.getD_some, Option.elim]
      cases shape0 f <;> rfl

end main

theorem dictGet_optMap (g : String → Val α → Option (Val α)) {d d' : Dict α}
    (h : optMap (fun kv => (g kv.1 kv.2).map (fun v => (kv.1, v))) d = some d') (k : String) :
    dictGet d' k = (dictGet d k).bind (g k) := by
  have H := optMap_eq_some.mp h
  clear h
  induction H with
  | nil => rfl
  | @cons x y _ _ hxy _ ih =>
    obtain ⟨k0, v0⟩ := x
    cases hg : g k0 v0 with
    | none => simp [hg] at hxy
    | some w =>
      simp only [hg, Option.map_some, Option.some.injEq] at hxy
      subst hxy
      simp only [dictGet]
      split_ifs with hk
      · subst hk
        exact hg.symm
      · exact ih

theorem all_isInt_not_cplx (xs : List (Num α)) (h : xs.all Num.isInt = true) : xs.any Num.isCplx = false := by
  rw [List.any_eq_false]
  intro x hx
  have := List.all_eq_true.mp h x hx
  cases x with
  | cplx z => exact absurd this Bool.false_ne_true
  | _ => exact Bool.false_ne_true

section semantics
variable [RealLike α] {C : Type}

theorem gen_result_init_some (d : Dict α) (config : C) (iscsd : Bool) (fs : α) (hk : (keys d).Nodup) (res : Result α C)
    (h : Gen.result_init d config iscsd fs = some res) :
    Model.normDict d = some res.data ∧
      (match dictGet res.data "f" with
       | some f => shape0 f = some res.nf
       | none => res.nf = 0) := by
  rw [gen_result_init_eq_model d config iscsd fs hk, resultInit_eq_bind] at h
  obtain ⟨data, hn, h⟩ := Option.bind_eq_some_iff.mp h
  obtain ⟨nf, hnf, rfl⟩ := Option.map_eq_some_iff.mp h
  refine ⟨hn, ?_⟩
  revert hnf
  cases dictGet data "f" with
  | none => exact fun h => (Option.some.inj h).symm
  | some f => exact id

/-- every stored value is `normEntry key value` of the input entry; no key is added or removed -/
theorem gen_result_entry (d : Dict α) (config : C) (iscsd : Bool) (fs : α) (hk : (keys d).Nodup) (res : Result α C)
    (h : Gen.result_init d config iscsd fs = some res) (k : String) :
    dictGet res.data k = (dictGet d k).bind (Model.normEntry k) ∧ keys res.data = keys d := by
  have hn := (gen_result_init_some d config iscsd fs hk res h).1
  exact ⟨dictGet_optMap Model.normEntry hn k, optMap_map_fst Prod.fst Prod.fst (fun _ _ hxy => fst_of_map_mk hxy) hn⟩

/-- `nf` is the length of the first axis of the stored `f`, and 0 when there is no `f` -/
theorem gen_result_nf (d : Dict α) (config : C) (iscsd : Bool) (fs : α) (hk : (keys d).Nodup) (res : Result α C)
    (h : Gen.result_init d config iscsd fs = some res) :
    (match dictGet res.data "f" with
     | some f => shape0 f = some res.nf
     | none => res.nf = 0) ∧ Gen.result_len res = res.nf :=
  ⟨(gen_result_init_some d config iscsd fs hk res h).2, rfl⟩

theorem asarrayItemInt64_of_ints (r : Item α) (v : List Int) (h : Model.itemInts? r = some v) : asarrayItemInt64 r = some (.ivec v) := by
  cases r with
  | ivec w => simp [Model.itemInts?] at h; simp [asarrayItemInt64, h]
  | pylist xs | pytuple xs =>
    by_cases ha : xs.all Num.isInt = true
    · simp [Model.itemInts?, ha] at h
      simp [asarrayItemInt64, all_isInt_not_cplx xs ha, h]
    · simp [Model.itemInts?, ha] at h
  | _ => simp [Model.itemInts?] at h

theorem normEntry_D_rows (rows : List (Item α)) (hrows : ∀ r ∈ rows, (Model.itemInts? r).isSome = true) :
    Model.normEntry "D" (.pylist rows) = some (.objvec (rows.map (fun r => Item.ivec ((Model.itemInts? r).getD [])))) := by
  have hmap : optMap asarrayItemInt64 rows = some (rows.map (fun r => Item.ivec ((Model.itemInts? r).getD []))) := by
    refine optMap_eq_map fun r hr => ?_
    obtain ⟨v, hv⟩ := Option.isSome_iff_exists.mp (hrows r hr)
    rw [hv]
    exact asarrayItemInt64_of_ints r v hv
  have h : "D" ∉ Model.floatKeys ∧ "D" ∉ Model.complexKeys ∧ "D" ∉ Model.intKeys := by decide
  simp [Model.normEntry, Model.listToArray, Model.onKeys, h, Model.startsToInt64, dtypeIsObject, iter, hmap]

/-- **the statement about `D`** — for EVERY list of start vectors (all equal lengths, all of length 1, ragged, one bin, no bin): the constructor
    stores a 1-D object array of `len(D)` cells whose i-th cell is the i-th input start vector as an int64 vector -/
theorem gen_result_D_rows (d : Dict α) (config : C) (iscsd : Bool) (fs : α) (hk : (keys d).Nodup) (rows : List (Item α))
    (hD : dictGet d "D" = some (.pylist rows)) (hrows : ∀ r ∈ rows, (Model.itemInts? r).isSome = true)
    (res : Result α C) (h : Gen.result_init d config iscsd fs = some res) :
    dictGet res.data "D" = some (.objvec (rows.map (fun r => Item.ivec ((Model.itemInts? r).getD [])))) := by
  rw [(gen_result_entry d config iscsd fs hk res h "D").1, hD, Option.bind_some, normEntry_D_rows rows hrows]

/-- corollary: every bin has the SAME number `K` of segments — `D` is still 1-D with one length-`K` int64 vector per bin -/
theorem gen_result_D_uniform (d : Dict α) (config : C) (iscsd : Bool) (fs : α) (hk : (keys d).Nodup) (K : Nat) (vs : List (List Int))
    (hK : ∀ v ∈ vs, v.length = K) (hD : dictGet d "D" = some (.pylist (vs.map Item.ivec)))
    (res : Result α C) (h : Gen.result_init d config iscsd fs = some res) :
    dictGet res.data "D" = some (.objvec (vs.map Item.ivec)) ∧ shape0 (Val.objvec (vs.map (Item.ivec (α := α)))) = some vs.length
      ∧ ∀ c ∈ vs.map (Item.ivec (α := α)), ∃ v, c = Item.ivec v ∧ v.length = K := by
  refine ⟨?_, congrArg some (List.length_map _), ?_⟩
  · rw [gen_result_D_rows d config iscsd fs hk (vs.map Item.ivec) hD (List.forall_mem_map.mpr fun _ _ => rfl) res h, List.map_map]
    rfl
  · exact List.forall_mem_map.mpr fun v hv => ⟨v, rfl, hK v hv⟩

/-- …whereas NumPy's `np.array(list, dtype=object)` stacks equal-length vectors into a 2-D array (the defect this region guards against) -/
theorem objectArrayOfList_uniform (v0 : List Int) (vs : List (List Int)) (hK : ∀ v ∈ vs, v.length = v0.length) :
    Np.objectArrayOfList ((v0 :: vs).map (Item.ivec (α := α))) = .objmat v0.length ((v0 :: vs).map (fun v => v.map Num.int)) := by
  unfold Np.objectArrayOfList
  simp only [List.map_cons, show (Item.ivec v0 : Item α).seq? = some (v0.map .int) from rfl]
  rw [if_pos, List.length_map, List.map_map]
  · rfl
  · rw [List.all_cons, List.all_map, Bool.and_eq_true, List.all_eq_true]
    refine ⟨beq_self_eq_true _, fun v hv => ?_⟩
    show ((v.map Num.int).length == (v0.map Num.int).length) = true
    rw [List.length_map, List.length_map, hK v hv]
    exact beq_self_eq_true _

end semantics

section coercions
variable [RealLike α] {C : Type}

/-- the elements of a numeric ndarray always convert (a complex one loses its imaginary part) -/
theorem optMap_castNum_nd (dt : DType) (xs : List (Num α)) :
    optMap (castNum dt true) xs = some (xs.map (fun x => match dt with
      | .complex128 => .cplx x.toCx
      | .float64 => .real x.re
      | .int64 => .int x.toInt)) :=
  optMap_eq_map (fun x _ => by cases dt <;> simp [castNum])

theorem asF_fvec (v : List α) : ascontiguousarray .float64 (.fvec v) = some (.fvec v) := by
  simp [ascontiguousarray, elems?, optMap_castNum_nd, List.map_map, Function.comp_def, Num.re]

theorem asF_ivec (v : List Int) : ascontiguousarray .float64 (.ivec v) = some (.fvec (v.map (RealLike.ofInt : Int → α))) := by
  simp [ascontiguousarray, elems?, optMap_castNum_nd, List.map_map, Function.comp_def, Num.re]

theorem asI_ivec (v : List Int) : ascontiguousarray .int64 (.ivec v : Val α) = some (.ivec v) := by
  simp [ascontiguousarray, elems?, optMap_castNum_nd, List.map_map, Function.comp_def, Num.toInt]

/-- int64 ← float64 TRUNCATES (as NumPy does) -/
theorem asI_fvec (v : List α) : ascontiguousarray .int64 (.fvec v) = some (.ivec (v.map RealLike.trunc)) := by
  simp [ascontiguousarray, elems?, optMap_castNum_nd, List.map_map, Function.comp_def, Num.toInt]

theorem asC_cvec (v : List (Cx α)) : ascontiguousarray .complex128 (.cvec v) = some (.cvec v) := by
  simp [ascontiguousarray, elems?, optMap_castNum_nd, List.map_map, Function.comp_def, Num.toCx]

/-- the key classes of `__init__` do not overlap, so an entry meets at most one conversion -/
theorem floatKeys_disjoint : ∀ k ∈ Model.floatKeys, k ∉ Model.complexKeys ∧ k ∉ Model.intKeys ∧ k ≠ "D" := by decide

theorem intKeys_disjoint : ∀ k ∈ Model.intKeys, k ∉ Model.floatKeys ∧ k ∉ Model.complexKeys ∧ k ≠ "D" := by decide

theorem normEntry_float_key (k : String) (hk : k ∈ Model.floatKeys) (v : List α) (z : List Int) :
    Model.normEntry k (.fvec v) = some (.fvec v) ∧ Model.normEntry k (.ivec z : Val α) = some (.fvec (z.map RealLike.ofInt)) := by
  obtain ⟨h2, h3, h4⟩ := floatKeys_disjoint k hk
  simp [Model.normEntry, Model.listToArray, Model.onKeys, hk, h2, h3, h4, asF_fvec, asF_ivec]

theorem normEntry_int_key (k : String) (hk : k ∈ Model.intKeys) (v : List α) (z : List Int) :
    Model.normEntry k (.ivec z : Val α) = some (.ivec z) ∧ Model.normEntry k (.fvec v) = some (.ivec (v.map RealLike.trunc)) := by
  obtain ⟨h1, h2, h4⟩ := intKeys_disjoint k hk
  simp [Model.normEntry, Model.listToArray, Model.onKeys, hk, h1, h2, h4, asI_fvec, asI_ivec]

theorem normEntry_XY (v : List (Cx α)) : Model.normEntry "XY" (.cvec v) = some (.cvec v) := by
  simp [Model.normEntry, Model.listToArray, Model.onKeys, Model.floatKeys, Model.complexKeys, Model.intKeys, asC_cvec]

theorem normEntry_unknown_key (k : String) (v : Val α) (h1 : k ∉ Model.floatKeys) (h2 : k ∉ Model.complexKeys) (h3 : k ∉ Model.intKeys) (h4 : k ≠ "D")
    (hl : isinstanceList v = false) : Model.normEntry k v = some v := by
  simp [Model.normEntry, listToArray_of_not_list k v hl, Model.onKeys, h1, h2, h3, h4]

/-- over ℝ: integral floats under an int key are value-preserved (`trunc (z : ℝ) = z`) -/
theorem normEntry_int_key_integral (k : String) (hk : k ∈ Model.intKeys) (z : List Int) :
    Model.normEntry k (.fvec (List.map (RealLike.ofInt : Int → ℝ) z)) = some (.ivec z) := by
  rw [(normEntry_int_key k hk _ z).2, List.map_map, List.map_id'' (f := RealLike.trunc ∘ RealLike.ofInt) RL.trunc_intCast]

end coercions

section transfer
variable [RealLike α] {C : Type}

theorem gen_result_float_preserved (d : Dict α) (config : C) (iscsd : Bool) (fs : α) (hk : (keys d).Nodup) (res : Result α C)
    (h : Gen.result_init d config iscsd fs = some res) (k : String) (hkf : k ∈ Model.floatKeys) (v : List α)
    (hv : dictGet d k = some (.fvec v)) : dictGet res.data k = some (.fvec v) := by
  rw [(gen_result_entry d config iscsd fs hk res h k).1, hv, Option.bind_some, (normEntry_float_key k hkf v []).1]

/-- int keys: an int64 vector is value-preserved; a float64 vector is truncated toward zero element by element (as NumPy casts) -/
theorem gen_result_int_preserved (d : Dict α) (config : C) (iscsd : Bool) (fs : α) (hk : (keys d).Nodup) (res : Result α C)
    (h : Gen.result_init d config iscsd fs = some res) (k : String) (hki : k ∈ Model.intKeys) :
    (∀ z, dictGet d k = some (.ivec z) → dictGet res.data k = some (.ivec z))
    ∧ (∀ v, dictGet d k = some (.fvec v) → dictGet res.data k = some (.ivec (v.map RealLike.trunc))) := by
  refine ⟨fun z hz => ?_, fun v hv => ?_⟩
  · rw [(gen_result_entry d config iscsd fs hk res h k).1, hz, Option.bind_some, (normEntry_int_key k hki [] z).1]
  · rw [(gen_result_entry d config iscsd fs hk res h k).1, hv, Option.bind_some, (normEntry_int_key k hki v []).2]

theorem gen_result_XY_preserved (d : Dict α) (config : C) (iscsd : Bool) (fs : α) (hk : (keys d).Nodup) (res : Result α C)
    (h : Gen.result_init d config iscsd fs = some res) (v : List (Cx α)) (hv : dictGet d "XY" = some (.cvec v)) :
    dictGet res.data "XY" = some (.cvec v) := by
  rw [(gen_result_entry d config iscsd fs hk res h "XY").1, hv, Option.bind_some, normEntry_XY v]

/-- unknown keys pass through; absent keys stay absent -/
theorem gen_result_unknown_passthrough (d : Dict α) (config : C) (iscsd : Bool) (fs : α) (hk : (keys d).Nodup) (res : Result α C)
    (h : Gen.result_init d config iscsd fs = some res) (k : String)
    (h1 : k ∉ Model.floatKeys) (h2 : k ∉ Model.complexKeys) (h3 : k ∉ Model.intKeys) (h4 : k ≠ "D") :
    (∀ v, dictGet d k = some v → isinstanceList v = false → dictGet res.data k = some v) ∧ (dictGet d k = none → dictGet res.data k = none) := by
  refine ⟨fun v hv hl => ?_, fun hn => ?_⟩
  · rw [(gen_result_entry d config iscsd fs hk res h k).1, hv, Option.bind_some, normEntry_unknown_key k v h1 h2 h3 h4 hl]
  · rw [(gen_result_entry d config iscsd fs hk res h k).1, hn]; rfl

/-- `.shape` and `isinstance(·, np.ndarray)` of a modelled value -/
def valShape : Val α → List Nat
  | .bvec v => [v.length]
  | .ivec v => [v.length]
  | .fvec v => [v.length]
  | .cvec v => [v.length]
  | .objvec c => [c.length]
  | .objmat m rows => [rows.length, m]
  | _ => []

def valIsNdarray : Val α → Bool
  | .pylist _ => false
  | .pytuple _ => false
  | .scalar _ => false
  | .opaque _ => false
  | _ => true

/-- the stored `D` of a result with `nf` bins is a per-bin COLUMN in the sense of `Model.exportFrame` and has exactly ONE dimension — whatever the
    segment counts; the 2-D array NumPy's `np.array(list, dtype=object)` builds from equal-length vectors also passes the column test of
    `to_dataframe` (first dimension = nf) but has TWO dimensions, which pandas rejects -/
theorem gen_result_D_column (d : Dict α) (config : C) (iscsd : Bool) (fs : α) (hk : (keys d).Nodup) (rows : List (Item α))
    (hD : dictGet d "D" = some (.pylist rows)) (hrows : ∀ r ∈ rows, (Model.itemInts? r).isSome = true)
    (res : Result α C) (h : Gen.result_init d config iscsd fs = some res) :
    ∃ D, dictGet res.data "D" = some D ∧ valShape D = [rows.length]
      ∧ Model.perBin (fun _ => false) valIsNdarray valShape rows.length D = true := by
  refine ⟨_, gen_result_D_rows d config iscsd fs hk rows hD hrows res h, ?_, ?_⟩
  · simp [valShape]
  · simp [Model.perBin, valShape, valIsNdarray]

theorem objectArrayOfList_uniform_shape (v0 : List Int) (vs : List (List Int)) (hK : ∀ v ∈ vs, v.length = v0.length) :
    valShape (Np.objectArrayOfList ((v0 :: vs).map (Item.ivec (α := α)))) = [vs.length + 1, v0.length] := by
  rw [objectArrayOfList_uniform v0 vs hK]
  simp [valShape]

end transfer

section wrappers
variable {V E A R : Type}

/-- a wrapper that re-raises whatever the constructor or the method raised is their composition -/
theorem call_then (c : Except E A) (m : A → Except E R) :
    (match c with
     | .error e => .error e
     | .ok a =>
       match m a with
       | .error e => .error e
       | .ok r => .ok r) = c >>= m := by
  cases c with
  | error e => rfl
  | ok a =>
    simp only [bind, Except.bind]
    cases m a <;> rfl

/-- every public entry point is the same analysis: `lpsd` = `compute_spectrum` = construct `SpectrumAnalyzer(data, fs, **kwargs)` and call
    `.compute()`; `compute_single_bin` = the same construction followed by `.compute_single_bin(freq=freq, fres=fres, L=L)` — argument by
    argument, for every constructor / method behaviour (exceptions included) -/
theorem gen_entry_points_forward (ctor : CallArgs V → Except E A) (method : String → A → CallArgs V → Except E R)
    (data fs freq fres L : V) (kwargs : List (String × V)) :
    Gen.compute_spectrum ctor method data fs kwargs = Model.entrySpectrum ctor method data fs kwargs
    ∧ Gen.lpsd ctor method data fs kwargs = Model.entrySpectrum ctor method data fs kwargs
    ∧ Gen.compute_single_bin ctor method data fs freq fres L kwargs = Model.entrySingleBin ctor method data fs freq fres L kwargs := by
  have h1 : Gen.compute_spectrum ctor method data fs kwargs = Model.entrySpectrum ctor method data fs kwargs := call_then _ _
  refine ⟨h1, ?_, call_then _ _⟩
  unfold Gen.lpsd
  rw [h1]
  cases Model.entrySpectrum ctor method data fs kwargs <;> rfl

/-- the signatures: `(data, fs, **kwargs)` twice; `(data, fs, freq, *, fres=None, L=None, **kwargs)` -/
theorem gen_entry_points_sigs :
    Gen.compute_spectrum_sig = ⟨["data", "fs"], [], true⟩ ∧ Gen.lpsd_sig = ⟨["data", "fs"], [], true⟩
    ∧ Gen.compute_single_bin_sig = ⟨["data", "fs", "freq"], [("fres", true), ("L", true)], true⟩ := ⟨rfl, rfl, rfl⟩

end wrappers

/-- the translation differs from the table only in how the tests are spelt (`==`, `not`, `and`, `>`) -/
theorem gen_select_backend_eq_model (cuda numba : Bool) (K : Int) (hint : String) :
    Gen._select_backend cuda numba K hint = Model.selectBackend cuda numba K hint := by
  unfold Gen._select_backend Model.selectBackend
  -- `and_comm` is idle on `_CUDA_ENABLED and K > 1000`; it is there for the operands the other way round
  simp only [beq_iff_eq, Bool.not_eq_true', ← Bool.not_eq_true, ite_not, Bool.and_eq_true, decide_eq_true_eq, gt_iff_lt, and_comm]

theorem gen_select_backend_table (cuda numba : Bool) (K : Int) (hint : String) :
    (hint = "cuda" → Gen._select_backend cuda numba K hint = if cuda then .ok "cuda" else .error .RuntimeError)
    ∧ (hint = "numba" → Gen._select_backend cuda numba K hint = if numba then .ok "numba" else .error .RuntimeError)
    ∧ (hint = "numpy" → Gen._select_backend cuda numba K hint = .ok "numpy")
    ∧ (hint ≠ "cuda" → hint ≠ "numba" → hint ≠ "numpy" →
        Gen._select_backend cuda numba K hint =
          .ok (if cuda = true ∧ 1000 < K then "cuda" else if numba = true then "numba" else "numpy"))
    ∧ (∀ b, Gen._select_backend cuda numba K hint = .ok b → b = "cuda" ∨ b = "numba" ∨ b = "numpy")
    ∧ Gen._select_backend_default = "auto" := by
  rw [gen_select_backend_eq_model]
  unfold Model.selectBackend
  refine ⟨?_, ?_, ?_, ?_, ?_, rfl⟩
  · rintro rfl
    exact if_pos rfl
  · rintro rfl
    exact (if_neg (by decide)).trans (if_pos rfl)
  · rintro rfl
    exact (if_neg (by decide)).trans ((if_neg (by decide)).trans (if_pos rfl))
  · intro h1 h2 h3
    rw [if_neg h1, if_neg h2, if_neg h3, apply_ite Except.ok, apply_ite Except.ok]
  · -- every leaf of the table is an error or one of the three names (splitting the whole nest of tests is slow to check)
    let P (r : Except PyExc String) : Prop := ∀ b, r = .ok b → b = "cuda" ∨ b = "numba" ∨ b = "numpy"
    have node (c : Prop) [Decidable c] (x y : Except PyExc String) (hx : P x) (hy : P y) : P (if c then x else y) := by
      by_cases h : c
      · rwa [if_pos h]
      · rwa [if_neg h]
    have err : P (.error .RuntimeError) := fun _ => nofun
    have cu : P (.ok "cuda") := fun b hb => Or.inl (Except.ok.inj hb).symm
    have nb : P (.ok "numba") := fun b hb => Or.inr (Or.inl (Except.ok.inj hb).symm)
    have np : P (.ok "numpy") := fun b hb => Or.inr (Or.inr (Except.ok.inj hb).symm)
    exact node _ _ _ (node _ _ _ cu err) (node _ _ _ (node _ _ _ nb err) (node _ _ _ np (node _ _ _ cu (node _ _ _ nb np))))

/-- a fold that keeps the smaller element (`min`, as `min_def_lt` spells it) ends on a lower bound that is attained; in the dual order: `amax` -/
theorem foldl_keep_lt {β : Type} [LinearOrder β] (xs : List β) (x : β) :
    (∀ s ∈ x :: xs, xs.foldl (fun m y => if y < m then y else m) x ≤ s) ∧ xs.foldl (fun m y => if y < m then y else m) x ∈ x :: xs := by
  simp only [← min_def_lt]
  induction xs generalizing x with
  | nil => exact ⟨fun s hs => (List.mem_singleton.mp hs).ge, List.mem_singleton_self x⟩
  | cons y ys ih =>
    obtain ⟨h1, h2⟩ := ih (min y x)
    refine ⟨fun s hs => ?_, ?_⟩
    · rcases List.mem_cons.mp hs with rfl | hs
      · exact (h1 _ List.mem_cons_self).trans (min_le_right y s)
      · rcases List.mem_cons.mp hs with rfl | hs
        · exact (h1 _ List.mem_cons_self).trans (min_le_left s x)
        · exact h1 s (List.mem_cons_of_mem _ hs)
    · rcases List.mem_cons.mp h2 with h2 | h2
      · rw [List.foldl_cons, h2]
        exact List.mem_cons.mpr ((min_choice y x).symm.imp_right fun h => List.mem_cons.mpr (Or.inl h))
      · exact List.mem_cons_of_mem _ (List.mem_cons_of_mem _ h2)

theorem foldl_max_ge (xs : List Int) (x : Int) :
    (∀ s ∈ x :: xs, s ≤ xs.foldl (fun m y => if m < y then y else m) x) ∧ xs.foldl (fun m y => if m < y then y else m) x ∈ x :: xs :=
  foldl_keep_lt (β := Intᵒᵈ) xs x

theorem check_starts_bounds_cons (N : Int) (x : Int) (xs : List Int) (L : Int) :
    Gen._check_starts_bounds N (x :: xs) L =
      if xs.foldl (fun m y => if y < m then y else m) x < 0 ∨ N < xs.foldl (fun m y => if m < y then y else m) x + L
      then .error .ValueError else .ok () := by
  unfold Gen._check_starts_bounds
  simp only [size, List.length_cons, amin, amax, Nat.succ_ne_zero, decide_false, Bool.false_eq_true, if_false]
  -- the guard as the source spells it against the canonical one: linear arithmetic, whatever the spelling or the temporaries
  refine if_congr ⟨fun h => ?_, fun h => ?_⟩ rfl rfl
  · simp only [Bool.or_eq_true, decide_eq_true_eq] at h
    omega
  · simp only [Bool.or_eq_true, decide_eq_true_eq]
    omega

/-- `_check_starts_bounds` raises (ValueError) exactly when some segment `[s, s+L)` leaves the record: `starts` non-empty and
    (`min < 0` or `max + L > N`); otherwise it returns — and then every start is in range (`Model.startsInBounds`) -/
theorem gen_check_starts_bounds_iff (N : Int) (starts : List Int) (L : Int) :
    (Gen._check_starts_bounds N starts L = .error .ValueError ↔ ∃ s ∈ starts, s < 0 ∨ N < s + L)
    ∧ (Gen._check_starts_bounds N starts L = .ok () ↔ Model.startsInBounds N starts L)
    ∧ (Gen._check_starts_bounds N starts L = .error .ValueError ∨ Gen._check_starts_bounds N starts L = .ok ()) := by
  cases starts with
  | nil =>
    rw [show Gen._check_starts_bounds N [] L = .ok () from rfl]
    exact ⟨iff_of_false nofun fun ⟨_, hs, _⟩ => List.not_mem_nil hs, iff_of_true rfl fun _ hs => absurd hs List.not_mem_nil, .inr rfl⟩
  | cons x xs =>
    rw [check_starts_bounds_cons]
    obtain ⟨hmin, hminmem⟩ := foldl_keep_lt xs x
    obtain ⟨hmax, hmaxmem⟩ := foldl_max_ge xs x
    generalize xs.foldl (fun m y => if y < m then y else m) x = smin at hmin hminmem
    generalize xs.foldl (fun m y => if m < y then y else m) x = smax at hmax hmaxmem
    -- the two extremes decide for every start
    have key : (smin < 0 ∨ N < smax + L) ↔ ∃ s ∈ x :: xs, s < 0 ∨ N < s + L :=
      ⟨fun h => h.elim (fun h => ⟨smin, hminmem, .inl h⟩) (fun h => ⟨smax, hmaxmem, .inr h⟩),
       fun ⟨s, hs, h⟩ => h.imp (lt_of_le_of_lt (hmin s hs)) (fun h => lt_of_lt_of_le h (Int.add_le_add_right (hmax s hs) L))⟩
    have hin : Model.startsInBounds N (x :: xs) L ↔ ¬ ∃ s ∈ x :: xs, s < 0 ∨ N < s + L := by
      simp only [Model.startsInBounds, not_exists, not_and, not_or, not_lt]
    rw [hin, ← key]
    by_cases hbad : smin < 0 ∨ N < smax + L
    · rw [if_pos hbad]
      exact ⟨iff_of_true rfl hbad, iff_of_false nofun (not_not.mpr hbad), .inl rfl⟩
    · rw [if_neg hbad]
      exact ⟨iff_of_false nofun hbad, iff_of_true rfl hbad, .inr rfl⟩

/-! a concrete uniform-`K` dictionary meets the hypotheses, over ℝ -/

example :
    Gen.result_init (α := ℝ) [("f", .fvec [1, 2]), ("D", .pylist [.ivec [0, 5], .ivec [1, 6]]), ("K", .pylist [.num (.int 2), .num (.int 2)])] () false 1
      = some { data := [("f", .fvec [1, 2]), ("D", .objvec [.ivec [0, 5], .ivec [1, 6]]), ("K", .ivec [2, 2])],
               config := (), iscsd := false, fs := 1, cache := [], nf := 2 } := by
  rw [gen_result_init_eq_model _ _ _ _ (by decide)]
  rfl

example : Np.objectArrayOfList [Item.ivec (α := ℝ) [0, 5], .ivec [1, 6]] = .objmat 2 [[.int 0, .int 5], [.int 1, .int 6]] := rfl

example : Gen._check_starts_bounds 10 [0, 3, 6] 4 = .ok () := by decide
example : Gen._check_starts_bounds 10 [0, 3, 7] 4 = .error .ValueError := by decide
example : Gen._select_backend true true 1001 "auto" = .ok "cuda" ∧ Gen._select_backend true true 1000 "auto" = .ok "numba" := by decide

end EPG

#print axioms EPG.gen_result_init_eq_model
#print axioms EPG.gen_result_entry
#print axioms EPG.gen_result_D_rows
#print axioms EPG.gen_result_D_uniform
#print axioms EPG.gen_result_nf
#print axioms EPG.emptyObjectFill_eq
#print axioms EPG.objectArrayOfList_uniform
#print axioms EPG.normEntry_D_rows
#print axioms EPG.normEntry_float_key
#print axioms EPG.normEntry_int_key
#print axioms EPG.normEntry_int_key_integral
#print axioms EPG.normEntry_XY
#print axioms EPG.normEntry_unknown_key
#print axioms EPG.gen_entry_points_forward
#print axioms EPG.gen_entry_points_sigs
#print axioms EPG.gen_select_backend_eq_model
#print axioms EPG.gen_select_backend_table
#print axioms EPG.gen_check_starts_bounds_iff
#print axioms EPG.gen_result_float_preserved
#print axioms EPG.gen_result_int_preserved
#print axioms EPG.gen_result_XY_preserved
#print axioms EPG.gen_result_unknown_passthrough
#print axioms EPG.gen_result_D_column
#print axioms EPG.objectArrayOfList_uniform_shape
