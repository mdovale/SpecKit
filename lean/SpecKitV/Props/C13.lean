/-
  Props/C13 — inputs are sanitised, never modified, layout-independent.
  The constructor's buffer operations are GENERATED from analysis.py (Gen/Ctor.lean); the aliasing
  semantics of each operation is the hand model `Model.heapStep`, validated against NumPy by the
  correspondence (`np.shares_memory`).
-/
import SpecKitV.Gen.Ctor
import SpecKitV.Lemmas.AnalyzerGlue

open Model Gen

/-- no in-place sanitiser is left in any constructor path -/
theorem ctor_ops_copying :
    HeapOp.nanToNumInPlace ∉ ctorOps1D ∧ HeapOp.nanToNumInPlace ∉ ctorOps2DRows ∧ HeapOp.nanToNumInPlace ∉ ctorOps2DCols := by
  decide

/-- for EVERY input (any buffer, contiguity, dtype, container) the constructor writes no buffer
    other than ones it allocates itself -/
theorem ctor_writes_nothing (input : ArrDesc) :
    (heapRun ctorOps1D input).written = [] ∧ (heapRun ctorOps2DRows input).written = [] ∧
    (heapRun ctorOps2DCols input).written = [] :=
  ⟨Model.ctor_copy_no_write input _ ctor_ops_copying.1, Model.ctor_copy_no_write input _ ctor_ops_copying.2.1,
   Model.ctor_copy_no_write input _ ctor_ops_copying.2.2⟩

/-- whatever the op sequence, a written buffer is never older than the input buffer id … -/
theorem ctor_written_ge (input : ArrDesc) (ops : List HeapOp) :
    ∀ b ∈ (heapRun ops input).written, input.buf ≤ b := Model.heapRun_written_ge ops input

/-- … and on the sanitising path (non-finite samples present: the op lists describe that path; for an all-finite
    input the sanitiser is skipped and nothing at all is written) the stored record is a fresh buffer -/
theorem ctor_result_fresh (input : ArrDesc) :
    input.buf < (heapRun ctorOps1D input).cur.buf ∧ input.buf < (heapRun ctorOps2DRows input).cur.buf ∧
    input.buf < (heapRun ctorOps2DCols input).cur.buf :=
  -- `ctorOps* = ctorOps*.dropLast ++ [.nanToNumCopy]` by evaluation, whatever comes before the sanitiser: an op sequence that
  -- ends otherwise shows up here as a type mismatch
  ⟨Model.heapRun_copy_last ctorOps1D.dropLast input, Model.heapRun_copy_last ctorOps2DRows.dropLast input,
    Model.heapRun_copy_last ctorOps2DCols.dropLast input⟩

/-- the aliasing model is sharp enough to exhibit the defect class it guards against: with an in-place sanitiser a
    Fortran-ordered N×2 float64 array (its `.T` is C-contiguous, so nothing is copied) would be written -/
theorem inplace_would_write_fortran_Nx2 :
    (0 : ℕ) ∈ (heapRun [HeapOp.asarray, .transposeView, .ascontig64, .nanToNumInPlace] ⟨0, false, true, true, true⟩).written := by
  decide

#print axioms inplace_would_write_fortran_Nx2
#print axioms ctor_ops_copying
#print axioms ctor_writes_nothing
#print axioms ctor_written_ge
#print axioms ctor_result_fresh
