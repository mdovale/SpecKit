/-
  Props/ResultPurityGen — no method of a `SpectrumResult` writes, in place, an array that the result's `_data` / `_cache` slots hold (or an
  array argument of the caller), and no method other than the constructor binds a slot other than the one `__getattr__` is serving.

  `Gen.rpAll` (regenerated from speckit/analysis.py + speckit/dsp.py on every run by vk/regions/result_purity.py) lists, per method of the class
  (`__getattr__`: per arm of its name dispatch), the buffer effects of its statements.  `Model.RPurity.cRun` is the concrete aliasing semantics
  (one buffer per variable; the entry variables hold ARBITRARY existing buffers, several may hold the same one; run-time choices by an arbitrary
  oracle), `Model.RPurity.aRun` the may-alias abstraction.
  For EVERY oracle, entry assignment and op list the concrete run is simulated by the abstract run up to the renaming `RPSim.ren` of the
  entry buffers (`RPSim.Rel`), so a list whose abstract run is clean has only clean concrete runs (`cRun_clean_of_clean`); the abstract runs
  of the generated lists are evaluated by `decide`.  A run also keeps `RPSim.CInv` and only grows the protected set, which gives the same for
  any HISTORY of calls on one result (`gen_session_pure`: the corollary of C14 / C20 "reading attributes and calling read-only methods in
  any order returns the same arrays").  The same predicate REJECTS the effect lists of four stored property-breaking edits, and
  `c10g_plot_witness` is a concrete run of the first that writes a protected buffer: it is not vacuous.
-/
import SpecKitV.Gen.ResultPurity

open Model Model.RPurity

namespace RPSim

@[simp] theorem cset_env (s : CSt) (v b : Nat) : (s.set v b).env = fun k => if k = v then b else s.env k := rfl
@[simp] theorem cset_next (s : CSt) (v b : Nat) : (s.set v b).next = s.next := rfl
@[simp] theorem cset_prot (s : CSt) (v b : Nat) : (s.set v b).prot = s.prot := rfl
@[simp] theorem cset_viol (s : CSt) (v b : Nat) : (s.set v b).viol = s.viol := rfl
@[simp] theorem cset_slot (s : CSt) (v b : Nat) : (s.set v b).slotBad = s.slotBad := rfl
@[simp] theorem cwr_env (s : CSt) (b : Nat) : (s.wr b).env = s.env := by unfold CSt.wr; split <;> rfl
@[simp] theorem cwr_next (s : CSt) (b : Nat) : (s.wr b).next = s.next := by unfold CSt.wr; split <;> rfl
@[simp] theorem cwr_prot (s : CSt) (b : Nat) : (s.wr b).prot = s.prot := by unfold CSt.wr; split <;> rfl
@[simp] theorem cwr_slot (s : CSt) (b : Nat) : (s.wr b).slotBad = s.slotBad := by unfold CSt.wr; split <;> rfl
@[simp] theorem aset_env (s : ASt) (v : Nat) (bs : List Nat) : (s.set v bs).env = fun k => if k = v then bs else s.env k := rfl
@[simp] theorem aset_next (s : ASt) (v : Nat) (bs : List Nat) : (s.set v bs).next = s.next := rfl
@[simp] theorem aset_prot (s : ASt) (v : Nat) (bs : List Nat) : (s.set v bs).prot = s.prot := rfl
@[simp] theorem aset_viol (s : ASt) (v : Nat) (bs : List Nat) : (s.set v bs).viol = s.viol := rfl
@[simp] theorem aset_slot (s : ASt) (v : Nat) (bs : List Nat) : (s.set v bs).slotBad = s.slotBad := rfl
@[simp] theorem awr_env (s : ASt) (bs : List Nat) : (s.wr bs).env = s.env := rfl
@[simp] theorem awr_next (s : ASt) (bs : List Nat) : (s.wr bs).next = s.next := rfl
@[simp] theorem awr_prot (s : ASt) (bs : List Nat) : (s.wr bs).prot = s.prot := rfl
@[simp] theorem awr_slot (s : ASt) (bs : List Nat) : (s.wr bs).slotBad = s.slotBad := rfl

/-- abstract buffer ↦ concrete buffer: entry buffer `i < k` is whatever entry variable `i` holds, the `j`-th allocation is `n0 + j` -/
def ren (k n0 : Nat) (init : Nat → Nat) (b : Nat) : Nat := if b < k then init b else b - k + n0

section
variable {k n0 : Nat} {init : Nat → Nat}

theorem ren_lt (hinit : ∀ i, init i < n0) {b : Nat} (hb : b < k) : ren k n0 init b < n0 := by
  simp [ren, hb, hinit b]

theorem ren_of_ge {b : Nat} (hb : k ≤ b) : ren k n0 init b = b - k + n0 := if_neg (Nat.not_lt.mpr hb)

theorem ren_ge {b : Nat} (hb : k ≤ b) : n0 ≤ ren k n0 init b := by
  rw [ren_of_ge hb]
  omega

theorem ren_inj {b1 b2 : Nat} (h1 : k ≤ b1) (h2 : k ≤ b2) (h : ren k n0 init b1 = ren k n0 init b2) : b1 = b2 := by
  rw [ren_of_ge h1, ren_of_ge h2] at h
  omega

/-- `kle`: abstract allocations start at `k`; `ent`: the abstract entry buffers (`< k`) stay protected; `ok`: while the abstract run has
    charged no write, the concrete run has made none -/
structure Rel (k n0 : Nat) (init : Nat → Nat) (c : CSt) (a : ASt) : Prop where
  next : c.next + k = a.next + n0
  kle : k ≤ a.next
  env : ∀ v, ∃ b ∈ a.env v, ren k n0 init b = c.env v
  prot : ∀ b, ren k n0 init b ∈ c.prot → b ∈ a.prot
  ent : ∀ i, i < k → i ∈ a.prot
  ok : a.viol = [] → c.viol = []
  slot : c.slotBad = a.slotBad

theorem rel_wr {c : CSt} {a : ASt} (h : Rel k n0 init c a) (x : Nat) : Rel k n0 init (c.wr (c.env x)) (a.wr (a.env x)) := by
  refine ⟨by simpa using h.next, by simpa using h.kle, by simpa using h.env, by simpa using h.prot, by simpa using h.ent, ?_,
    by simpa using h.slot⟩
  -- the abstract write charged nothing, so no may-alias of `x` is protected; the buffer `x` holds is the image of one of them
  intro hav
  simp only [ASt.wr, List.append_eq_nil_iff, List.filter_eq_nil_iff, decide_eq_true_eq] at hav
  unfold CSt.wr
  split
  · rename_i hin
    obtain ⟨b, hb, hr⟩ := h.env x
    exact absurd (h.prot b (hr ▸ hin)) (hav.1 b hb)
  · exact h.ok hav.2

/-- binding `d` to related buffers while `δ` buffers are allocated keeps the relation, whatever the oracle counter becomes -/
theorem rel_set {c : CSt} {a : ASt} (h : Rel k n0 init c a) (d : Nat) {bc : Nat} {bas : List Nat} (hb : ∃ b ∈ bas, ren k n0 init b = bc)
    (δ : Nat) {t : Nat} :
    Rel k n0 init ⟨fun u => if u = d then bc else c.env u, c.next + δ, c.prot, c.viol, c.slotBad, t⟩
      ⟨fun u => if u = d then bas else a.env u, a.next + δ, a.prot, a.viol, a.slotBad⟩ := by
  refine ⟨by rw [Nat.add_right_comm, h.next, Nat.add_right_comm], Nat.le_add_right_of_le h.kle, fun v => ?_, h.prot, h.ent, h.ok, h.slot⟩
  by_cases hv : v = d
  · simpa [hv] using hb
  · simpa [hv] using h.env v

theorem rel_step (hinit : ∀ i, init i < n0) (ch : Nat → Bool) (c : CSt) (a : ASt) (h : Rel k n0 init c a) (op : ROp) :
    Rel k n0 init (cStep ch c op) (aStep a op) := by
  have hfr : ∀ l, ∃ b ∈ a.next :: l, ren k n0 init b = c.next := fun l =>
    ⟨a.next, List.mem_cons_self, (ren_of_ge h.kle).trans (by have := h.next; have := h.kle; omega)⟩
  cases op with
  | asarray d x =>
    simp only [cStep, aStep]
    split
    · obtain ⟨b, hb, hr⟩ := h.env x
      exact rel_set h d ⟨b, List.mem_cons_of_mem _ hb, hr⟩ 1
    · exact rel_set h d (hfr _) 1
  | fancy d x => exact rel_set h d (hfr _) 1
  | basic d x => exact rel_set h d (h.env x) 0
  | bind d x => exact rel_set h d (h.env x) 0
  | fresh d => exact rel_set h d (hfr _) 1
  | nanToNum d x copy =>
    cases copy with
    | true => exact rel_set h d (hfr _) 1
    | false => exact rel_set (rel_wr h x) d (by simpa using h.env x) 0
  | write v => exact rel_wr h v
  | phi d x y =>
    simp only [cStep, aStep]
    split
    · obtain ⟨b, hb, hr⟩ := h.env x
      exact rel_set h d ⟨b, List.mem_append_left _ hb, hr⟩ 0
    · obtain ⟨b, hb, hr⟩ := h.env y
      exact rel_set h d ⟨b, List.mem_append_right _ hb, hr⟩ 0
  | protect v =>
    refine ⟨h.next, h.kle, h.env, ?_, fun i hi => List.mem_append_right _ (h.ent i hi), h.ok, h.slot⟩
    intro b hb
    simp only [cStep, List.mem_cons] at hb
    rcases hb with hb | hb
    · -- `b` is an entry buffer (protected from the start), or an allocation, and then THE may-alias of `v` with that image
      obtain ⟨b0, hb0, hr0⟩ := h.env v
      rcases Nat.lt_or_ge b k with hbk | hbk
      · exact List.mem_append_right _ (h.ent b hbk)
      · rcases Nat.lt_or_ge b0 k with h0 | h0
        · have := ren_lt (k := k) hinit h0
          have := ren_ge (n0 := n0) (init := init) hbk
          omega
        · exact List.mem_append_left _ (ren_inj hbk h0 (hb.trans hr0.symm) ▸ hb0)
    · exact List.mem_append_right _ (h.prot b hb)
  | slotStore own =>
    cases own with
    | true => exact h
    | false => exact ⟨h.next, h.kle, h.env, h.prot, h.ent, h.ok, congrArg (· + 1) h.slot⟩

theorem rel_foldl (hinit : ∀ i, init i < n0) (ch : Nat → Bool) (ops : List ROp) :
    ∀ (c : CSt) (a : ASt), Rel k n0 init c a → Rel k n0 init (ops.foldl (cStep ch) c) (ops.foldl aStep a) :=
  fun _ _ h => List.foldl_rel h fun op _ c a h => rel_step hinit ch c a h op

end

structure CInv (s : CSt) : Prop where
  env : ∀ v, s.env v < s.next
  prot : ∀ b ∈ s.prot, b < s.next

def Grows (s s' : CSt) : Prop := CInv s' ∧ s.next ≤ s'.next ∧ ∀ b ∈ s.prot, b ∈ s'.prot

/-- binding `d` to an allocated buffer while `δ` buffers are allocated -/
theorem grows_set {s : CSt} (h : CInv s) (d : Nat) {b : Nat} (δ : Nat) (hb : b < s.next + δ) {v : List Nat} {sl t : Nat} :
    Grows s ⟨fun u => if u = d then b else s.env u, s.next + δ, s.prot, v, sl, t⟩ :=
  ⟨⟨fun u => by
      show (if u = d then b else s.env u) < s.next + δ
      split
      · exact hb
      · exact Nat.lt_add_right δ (h.env u),
     fun x hx => Nat.lt_add_right δ (h.prot x hx)⟩,
   Nat.le_add_right _ _, fun _ hx => hx⟩

theorem grows_wr {s : CSt} (h : CInv s) (b : Nat) : Grows s (s.wr b) :=
  ⟨⟨fun u => by simpa using h.env u, fun x hx => by simpa using h.prot x (by simpa using hx)⟩, by simp, fun x hx => by simpa using hx⟩

theorem Grows.refl {s : CSt} (h : CInv s) : Grows s s := ⟨h, Nat.le_refl _, fun _ hb => hb⟩

theorem Grows.trans {s s' s'' : CSt} (h1 : Grows s s') (h2 : Grows s' s'') : Grows s s'' :=
  ⟨h2.1, Nat.le_trans h1.2.1 h2.2.1, fun b hb => h2.2.2 b (h1.2.2 b hb)⟩

theorem grows_step (ch : Nat → Bool) (s : CSt) (h : CInv s) (op : ROp) : Grows s (cStep ch s op) := by
  cases op with
  | asarray d x =>
    simp only [cStep]
    split
    · exact grows_set h d 1 (Nat.lt_succ_of_lt (h.env x))
    · exact grows_set h d 1 (Nat.lt_succ_self _)
  | fancy d x => exact grows_set h d 1 (Nat.lt_succ_self _)
  | basic d x => exact grows_set h d 0 (h.env x)
  | bind d x => exact grows_set h d 0 (h.env x)
  | fresh d => exact grows_set h d 1 (Nat.lt_succ_self _)
  | nanToNum d x copy =>
    cases copy with
    | true => exact grows_set h d 1 (Nat.lt_succ_self _)
    | false => exact (grows_wr h _).trans (grows_set (grows_wr h _).1 d 0 (by simpa using h.env x))
  | write v => exact grows_wr h _
  | phi d x y =>
    simp only [cStep]
    split
    · exact grows_set h d 0 (h.env x)
    · exact grows_set h d 0 (h.env y)
  | protect v =>
    exact ⟨⟨h.env, fun b hb => (List.mem_cons.mp hb).elim (fun e => e ▸ h.env v) (h.prot b)⟩, Nat.le_refl _, fun b hb => List.mem_cons_of_mem _ hb⟩
  | slotStore own =>
    cases own with
    | true => exact .refl h
    | false => exact ⟨⟨h.env, h.prot⟩, Nat.le_refl _, fun b hb => hb⟩

theorem grows_foldl (ch : Nat → Bool) (ops : List ROp) (s : CSt) (h : CInv s) : Grows s (ops.foldl (cStep ch) s) :=
  List.foldlRecOn ops (cStep ch) (.refl h) fun s' hs op _ => hs.trans (grows_step ch s' hs.1 op)

theorem rel_entry {k n0 : Nat} {init : Nat → Nat} (hk : 0 < k) (P : List Nat) (hP : ∀ b ∈ P, b < n0) :
    Rel k n0 init (cEntry k init P n0 [] 0) (aInit k) := by
  refine ⟨Nat.add_comm _ _, Nat.le_refl _, fun v => ?_, fun b hb => ?_, fun i hi => List.mem_range.2 hi, fun _ => rfl, rfl⟩
  · by_cases hv : v < k
    · exact ⟨v, by simp [aInit, hv], by simp [ren, cEntry, hv]⟩
    · exact ⟨0, by simp [aInit, hv], by simp [ren, cEntry, hv, hk]⟩
  · rcases Nat.lt_or_ge b k with hlt | hge
    · exact List.mem_range.2 hlt
    · have h1 : n0 ≤ ren k n0 init b := ren_ge hge
      have h2 := hP _ hb
      omega

theorem clean_iff (k : Nat) (ops : List ROp) : clean k ops = true ↔ (aRun k ops).viol = [] ∧ (aRun k ops).slotBad = 0 := by
  simp [clean, List.isEmpty_iff]

end RPSim

open RPSim

/-- SIMULATION: a clean abstract run bounds every concrete run — whatever the entry variables hold (`init`, possibly the same buffer several
    times), whichever buffers the slots hold (`P`), however the run-time choices fall (`ch`): no protected buffer is written in place, no foreign
    slot is bound.  Hypotheses: the entry variables and the slots hold EXISTING buffers (ids below the allocation counter `n0`); `0 < k`
    (the generator always reserves entry variable 0). -/
theorem cRun_clean_of_clean (ch : Nat → Bool) (k n0 : Nat) (init : Nat → Nat) (P : List Nat) (ops : List ROp)
    (hk : 0 < k) (hinit : ∀ i, init i < n0) (hP : ∀ b ∈ P, b < n0) (hc : clean k ops = true) :
    (cRun ch k init P n0 ops).viol = [] ∧ (cRun ch k init P n0 ops).slotBad = 0 := by
  obtain ⟨hv, hs⟩ := (clean_iff k ops).1 hc
  have h := rel_foldl hinit ch ops _ _ (rel_entry (init := init) hk P hP)
  exact ⟨h.ok hv, h.slot.trans hs⟩

example : clean 2 [.bind 2 1, .fresh 3, .write 3, .protect 3, .slotStore true] = true := by decide
example : (cRun (fun _ => true) 2 (fun _ => 0) [0] 1 [.bind 2 1, .fresh 3, .write 3, .protect 3, .slotStore true]).viol = [] :=
  (cRun_clean_of_clean _ 2 1 _ [0] _ (by decide) (fun _ => by decide) (by decide) (by decide)).1

/-- EVALUATION of the generated lists: the abstract run of every method other than the constructor charges no object that may alias a
    `_cache` / `_data` entry (or a caller argument) with an in-place write and binds no slot but the one being served -/
theorem gen_result_methods_write_no_cached_array : ∀ p ∈ Gen.rpAll, 0 < p.1 ∧ clean p.1 p.2 = true := by
  decide +kernel

/-- … and the same for the constructor (every slot store is its own; no caller array is written in place) -/
theorem gen_result_ctor_clean : ∀ p ∈ Gen.rpCtor, 0 < p.1 ∧ clean p.1 p.2 = true := by
  decide +kernel

theorem pure_of_clean (L : List (Nat × List ROp)) (hL : ∀ p ∈ L, 0 < p.1 ∧ clean p.1 p.2 = true) (ch : Nat → Bool) (n0 : Nat)
    (init : Nat → Nat) (P : List Nat) (hinit : ∀ i, init i < n0) (hP : ∀ b ∈ P, b < n0) :
    ∀ p ∈ L, (cRun ch p.1 init P n0 p.2).viol = [] ∧ (cRun ch p.1 init P n0 p.2).slotBad = 0 :=
  fun p hp => cRun_clean_of_clean ch p.1 n0 init P p.2 (hL p hp).1 hinit hP (hL p hp).2

/-- no execution of any method of a result writes an array held by a slot (or handed in by the caller) in place, nor binds a foreign slot -/
theorem gen_result_methods_pure (ch : Nat → Bool) (n0 : Nat) (init : Nat → Nat) (P : List Nat)
    (hinit : ∀ i, init i < n0) (hP : ∀ b ∈ P, b < n0) :
    ∀ p ∈ Gen.rpAll, (cRun ch p.1 init P n0 p.2).viol = [] ∧ (cRun ch p.1 init P n0 p.2).slotBad = 0 :=
  pure_of_clean _ gen_result_methods_write_no_cached_array ch n0 init P hinit hP

theorem gen_result_ctor_pure (ch : Nat → Bool) (n0 : Nat) (init : Nat → Nat) (P : List Nat)
    (hinit : ∀ i, init i < n0) (hP : ∀ b ∈ P, b < n0) :
    ∀ p ∈ Gen.rpCtor, (cRun ch p.1 init P n0 p.2).viol = [] ∧ (cRun ch p.1 init P n0 p.2).slotBad = 0 :=
  pure_of_clean _ gen_result_ctor_clean ch n0 init P hinit hP

-- the hypotheses are satisfiable: a result holding 3 buffers, all entry variables on buffer 2 (maximal aliasing), always-alias oracle
example : ∀ p ∈ Gen.rpAll, (cRun (fun _ => true) p.1 (fun _ => 2) [0, 1, 2] 3 p.2).viol = [] :=
  fun p hp => (gen_result_methods_pure _ 3 _ [0, 1, 2] (fun _ => by decide) (by decide) p hp).1

/-- a well-formed history state: something is allocated, the slots hold allocated buffers, nothing has gone wrong yet -/
structure HistOk (h : Hist) : Prop where
  pos : 0 < h.next
  prot : ∀ b ∈ h.prot, b < h.next
  viol : h.viol = []
  slot : h.slotBad = 0

theorem callStep_ok (h : Hist) (hh : HistOk h) (c : Call) (hk : 0 < c.k) (hc : clean c.k c.ops = true) :
    HistOk (callStep h c) ∧ ∀ b ∈ h.prot, b ∈ (callStep h c).prot := by
  obtain ⟨hpos, hprot, hviol, hslot⟩ := hh
  have hinit : ∀ i, c.init i % h.next < h.next := fun i => Nat.mod_lt _ hpos
  have hrel := rel_foldl hinit c.ch c.ops _ _ (rel_entry (init := fun v => c.init v % h.next) hk h.prot hprot)
  obtain ⟨hv, hs⟩ := (clean_iff c.k c.ops).1 hc
  obtain ⟨hinv, hmono, hsub⟩ := grows_foldl c.ch c.ops (cEntry c.k (fun v => c.init v % h.next) h.prot h.next [] 0) ⟨fun v => hinit _, hprot⟩
  unfold callStep
  rw [hviol, hslot]
  exact ⟨⟨Nat.lt_of_lt_of_le hpos hmono, hinv.prot, hrel.ok hv, hrel.slot.trans hs⟩, hsub⟩

/-- ANY history of calls whose lists are clean, from any well-formed state: no protected buffer is ever written, no foreign slot is ever
    bound, and the set of protected buffers only grows -/
theorem session_pure (calls : List Call) (hc : ∀ c ∈ calls, 0 < c.k ∧ clean c.k c.ops = true) :
    ∀ h : Hist, HistOk h → HistOk (session h calls) ∧ ∀ b ∈ h.prot, b ∈ (session h calls).prot :=
  fun h hh => List.foldlRecOn calls callStep (motive := fun h' => HistOk h' ∧ ∀ b ∈ h.prot, b ∈ h'.prot) ⟨hh, fun _ hb => hb⟩
    fun h' ⟨hh', hs⟩ c hcm =>
      let ⟨h1, hs1⟩ := callStep_ok h' hh' c (hc c hcm).1 (hc c hcm).2
      ⟨h1, fun b hb => hs1 b (hs b hb)⟩

/-- COROLLARY (C14 / C20 in words: reading attributes and calling the read-only methods of a result in any order returns the same arrays):
    along any history of calls of the generated methods — any order, any repetition, any aliasing among the objects the slots hold, any
    run-time choices — no array held by a slot is written in place and no slot other than the one being served is bound; the objects the
    slots hold at the start are still held, unchanged, at the end. -/
theorem gen_session_pure (calls : List Call) (hgen : ∀ c ∈ calls, (c.k, c.ops) ∈ Gen.rpAll) (h : Hist) (hh : HistOk h) :
    (session h calls).viol = [] ∧ (session h calls).slotBad = 0 ∧ ∀ b ∈ h.prot, b ∈ (session h calls).prot := by
  obtain ⟨h1, h2⟩ := session_pure calls (fun c hc => gen_result_methods_write_no_cached_array (c.k, c.ops) (hgen c hc)) h hh
  exact ⟨h1.viol, h1.slot, h2⟩

example : HistOk { prot := [0, 1, 2], next := 3, viol := [], slotBad := 0 } := ⟨by decide, by decide, rfl, rfl⟩

-- a history: plot, get_measurement, plot again — different aliasing among the entry variables and different run-time choices each time
example : (session { prot := [0, 1, 2], next := 3, viol := [], slotBad := 0 }
    [⟨Gen.rp_plot.1, Gen.rp_plot.2, fun v => v, fun _ => true⟩,
     ⟨Gen.rp_get_measurement.1, Gen.rp_get_measurement.2, fun _ => 1, fun _ => false⟩,
     ⟨Gen.rp_plot.1, Gen.rp_plot.2, fun v => 2 * v, fun n => n % 2 == 0⟩]).viol = [] :=
  (gen_session_pure _ (by decide +kernel) _ ⟨by decide, by decide, rfl, rfl⟩).1

/-- `plot` after the stored change C10g (/verif/seeded/C10g/patch.diff: `mag_error *= sigma`, `phase_error *= sigma`, `err *= sigma`): the effect
    list vk/regions/result_purity.py prints for /repo with that patch applied, kept here as a constant.  Entry variables: 0 = any slot object, 1 = **kwargs, 2 = self.f,
    3 = self.psd, 4 = self.asd, 5 = self.coh, 6 = self.csd, 7 = self.cf, 8 = self.cf_db, 9 = self.Hxy_mag_error, 10 = self.cf_rad,
    11 = self.Hxy_deg_error, 12 = self.Hxy_rad_error, 13 = self.Gxx_dev, 14 = self.Gxx, 15 = self.coh_dev, 16 = self.Gxy_dev, 17 = self.Hxy_dev.
    `.bind 22 9, .write 22` is `mag_error = self.Hxy_mag_error; mag_error *= sigma`; `.phi 44 11 12, .bind 45 44, .write 45` is
    `phase_error = self.Hxy_deg_error if deg else self.Hxy_rad_error; phase_error *= sigma`; the third in-place scaling (`err = err[finite_mask];
    err *= sigma`, a masked COPY) is harmless and is not charged. -/
def c10gPlot : Nat × List ROp := (18,
  [.fresh 18,
   .bind 19 2,
   .phi 19 19 3,
   .phi 19 19 2,
   .phi 19 19 4,
   .phi 19 19 2,
   .phi 19 19 5,
   .phi 19 19 2,
   .phi 19 19 18,
   .phi 19 19 2,
   .phi 19 19 7,
   .phi 20 8 7,
   .bind 21 20,
   .bind 22 9,
   .write 22,
   .fresh 23,
   .fresh 24,
   .bind 25 24,
   .fresh 26,
   .fresh 27,
   .bind 28 27,
   .fresh 29,
   .fresh 30,
   .bind 31 30,
   .fresh 32,
   .fresh 33,
   .bind 34 33,
   .phi 35 31 25,
   .phi 36 34 28,
   .basic 37 1,
   .fresh 38,
   .phi 39 38 10,
   .bind 40 39,
   .fresh 41,
   .phi 42 41 40,
   .bind 43 42,
   .phi 44 11 12,
   .bind 45 44,
   .write 45,
   .fresh 46,
   .fresh 47,
   .basic 48 1,
   .basic 49 19,
   .basic 50 49,
   .bind 51 50,
   .basic 52 49,
   .bind 53 52,
   .basic 54 49,
   .bind 55 54,
   .basic 56 49,
   .bind 57 56,
   .asarray 58 53,
   .bind 59 58,
   .asarray 60 55,
   .bind 61 60,
   .fresh 62,
   .fresh 63,
   .fresh 64,
   .bind 65 64,
   .fancy 66 59,
   .bind 67 66,
   .fancy 68 61,
   .bind 69 68,
   .fresh 70,
   .fresh 71,
   .fresh 72,
   .fresh 73,
   .bind 74 73,
   .phi 74 74 13,
   .phi 74 74 15,
   .phi 74 74 16,
   .phi 74 74 17,
   .basic 75 74,
   .bind 76 75,
   .fancy 77 76,
   .bind 78 77,
   .write 78,
   .fresh 79,
   .fresh 80,
   .basic 81 1,
   .phi 82 78 76])

/-- the predicate rejects it, and names the cache entries that are overwritten: Hxy_mag_error, Hxy_deg_error, Hxy_rad_error — and no other -/
theorem c10g_plot_rejected : clean c10gPlot.1 c10gPlot.2 = false ∧ (entriesWritten c10gPlot.1 c10gPlot.2).eraseDups = [11, 12, 9] := by
  decide +kernel

/-- … and there IS a concrete run of it that writes protected buffers (the rejection is not an artefact of the abstraction): every entry
    variable on its own buffer, all run-time choices "first alternative" (dB, deg) -/
theorem c10g_plot_witness : (cRun (fun _ => true) c10gPlot.1 (fun v => v) (List.range 18) 18 c10gPlot.2).viol = [11, 9] := by
  decide +kernel

/-- `__getattr__` arm GyyRx after C09g: `val = self.Gyy` (.bind 3 1); `val -= self.GyyCx` (.write 3); store -/
def c09gArm : Nat × List ROp := (3, [.bind 3 1, .write 3, .bind 4 3, .slotStore true, .protect 4])

theorem c09g_arm_rejected : clean c09gArm.1 c09gArm.2 = false := by decide

/-- `get_measurement` after C20c: `target_signal = getattr(self, which)` (.bind 3 0); `np.nan_to_num(target_signal, copy=False)` -/
def c20cGetMeasurement : Nat × List ROp := (3, [.bind 3 0, .asarray 4 1, .nanToNum 5 3 false, .fresh 6])

theorem c20c_get_measurement_rejected : clean c20cGetMeasurement.1 c20cGetMeasurement.2 = false := by decide

/-- `__getattr__` error arm after C20d: `self._cache.setdefault("coh", np.ones_like(navg))` binds the slot of ANOTHER attribute -/
def c20dArm : Nat × List ROp := (2, [.bind 2 1, .fresh 3, .slotStore false, .protect 3, .fresh 4, .bind 5 4, .slotStore true, .protect 5])

theorem c20d_arm_rejected : clean c20dArm.1 c20dArm.2 = false ∧ (aRun c20dArm.1 c20dArm.2).viol = [] := by decide

/-- order matters: writing a freshly allocated array BEFORE it is stored is fine, writing it AFTER the store is not -/
theorem write_before_store_ok : clean 1 [.fresh 1, .write 1, .slotStore true, .protect 1] = true := by decide
theorem write_after_store_rejected : clean 1 [.fresh 1, .slotStore true, .protect 1, .write 1] = false := by decide

/-- a masked copy may be scaled in place (the single-axis branch of C10g, which is harmless): `err = err[finite_mask]; err *= sigma` -/
theorem masked_copy_write_ok : clean 2 [.bind 2 1, .fresh 3, .fancy 4 2, .bind 5 4, .write 5] = true := by decide
/-- a basic slice is a view: `err = err[1:]; err *= sigma` would reach the cached array -/
theorem slice_view_write_rejected : clean 2 [.bind 2 1, .basic 4 2, .bind 5 4, .write 5] = false := by decide

/-- the generated lists are not empty shells: one list per name in `rpNames`, at least 20 of them, and the methods DO allocate, write (their own
    buffers) and store -/
theorem gen_result_methods_nontrivial : Gen.rpAll.length = Gen.rpNames.length ∧ 20 ≤ Gen.rpAll.length ∧
    (Gen.rpAll.any fun p => p.2.any fun op => match op with | .slotStore true => true | _ => false) = true ∧
    (Gen.rpAll.any fun p => p.2.any fun op => match op with | .write _ => true | _ => false) = true ∧
    (Gen.rpAll.any fun p => p.2.any fun op => match op with | .protect _ => true | _ => false) = true := by
  decide +kernel

#print axioms RPSim.rel_step
#print axioms RPSim.rel_foldl
#print axioms cRun_clean_of_clean
#print axioms gen_result_methods_write_no_cached_array
#print axioms gen_result_ctor_clean
#print axioms gen_result_methods_pure
#print axioms gen_result_ctor_pure
#print axioms session_pure
#print axioms gen_session_pure
#print axioms c10g_plot_rejected
#print axioms c10g_plot_witness
#print axioms c09g_arm_rejected
#print axioms c20c_get_measurement_rejected
#print axioms c20d_arm_rejected
#print axioms write_before_store_ok
#print axioms write_after_store_rejected
#print axioms masked_copy_write_ok
#print axioms slice_view_write_rejected
#print axioms gen_result_methods_nontrivial
