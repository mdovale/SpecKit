/-
  SpecKitV.Props.BuildQGen — the library's own detrend basis satisfies the contract of the detrending theorems.

  `Gen._build_Q L order` is `speckit.core._build_Q` as translated from the source on every run (Gen/BuildQ.lean, vk/regions/build_q.py):
  order validation, `np.linspace(-1, 1, L)`, the Vandermonde columns read from the source, the reduced QR factor as the stated contract
  `Np.qrReducedQ` (Gram–Schmidt; Np/BuildQ.lean).  Over ℝ, for every `L ≥ 1` and `order ∈ {1, 2}` it returns `some Q`, `Q` of shape
  `L × min(L, order+1)` with orthonormal columns whose span is exactly the polynomials of degree `< min(L, order+1)` in the SAMPLE INDEX
  (`IsPolyBasis`, `gen_build_Q_isPolyBasis`).  Hence every hypothesis the kernel / detrend theorems put on the basis holds of
  `libQ L order := the value of Gen._build_Q L order`, and the C01 / C08 statements hold for the three backends called with the library's
  own basis with no hypothesis on the basis left.

  Ingredients: Gram–Schmidt of linearly independent columns is orthonormal with the same flag of spans (`qr_spec`, any number of columns);
  Vandermonde columns on pairwise distinct nodes are independent (`vander_indep`, root count of a polynomial); polynomials in a variable
  that is affine in the index with a non-zero slope are the polynomials in the index (`AffineGrid`: the nodes of `linspace`, and the
  index `s + n` of a segment seen from the record).
-/
import SpecKitV.Lemmas.DetrendComplete
import SpecKitV.Props.C01
import SpecKitV.Props.NumpyKernelsGen
import SpecKitV.Gen.BuildQ
import Mathlib.Algebra.Polynomial.Roots
import Mathlib.Data.List.GetD
open Finset

namespace BuildQ

section span
variable {f f' : ℕ → ℕ → ℝ} {L k k' : ℕ} {g g' h : ℕ → ℝ}

theorem inSpan_congr (hgg : ∀ n < L, g n = g' n) (hg : InSpan f L k g) : InSpan f L k g' := by
  obtain ⟨a, ha⟩ := hg
  exact ⟨a, fun n hn => by rw [← hgg n hn, ha n hn]⟩

theorem inSpan_congr_basis (hff : ∀ n < L, ∀ j < k, f n j = f' n j) (hg : InSpan f L k g) :
    InSpan f' L k g := by
  obtain ⟨a, ha⟩ := hg
  refine ⟨a, fun n hn => ?_⟩
  rw [ha n hn]
  exact sum_congr rfl (fun j hj => by rw [hff n hn j (mem_range.1 hj)])

theorem inSpan_zero : InSpan f L k (fun _ => 0) :=
  ⟨fun _ => 0, fun n _ => by simp⟩

theorem inSpan_add (hg : InSpan f L k g) (hh : InSpan f L k h) : InSpan f L k (fun n => g n + h n) := by
  obtain ⟨a, ha⟩ := hg
  obtain ⟨b, hb⟩ := hh
  exact ⟨fun i => a i + b i, fun n hn => by simp only [ha n hn, hb n hn, add_mul, sum_add_distrib]⟩

theorem inSpan_smul (c : ℝ) (hg : InSpan f L k g) : InSpan f L k (fun n => c * g n) := by
  obtain ⟨a, ha⟩ := hg
  exact ⟨fun i => c * a i, fun n hn => by simp only [ha n hn, mul_sum, mul_assoc]⟩

theorem inSpan_sub (hg : InSpan f L k g) (hh : InSpan f L k h) : InSpan f L k (fun n => g n - h n) := by
  have := inSpan_add hg (inSpan_smul (-1) hh)
  exact inSpan_congr (fun n _ => by ring) this

theorem inSpan_col {j : ℕ} (hj : j < k) : InSpan f L k (fun n => f n j) := by
  refine ⟨fun i => if i = j then 1 else 0, fun n _ => ?_⟩
  simp only [ite_mul, one_mul, zero_mul]
  rw [sum_ite_eq' (range k) j, if_pos (mem_range.2 hj)]

theorem inSpan_sum {ι : Type} (s : Finset ι) (c : ι → ℝ) (G : ι → ℕ → ℝ)
    (hG : ∀ i ∈ s, InSpan f L k (G i)) : InSpan f L k (fun n => ∑ i ∈ s, c i * G i n) := by
  classical
  induction s using Finset.induction_on with
  | empty => simpa using (inSpan_zero (f := f) (L := L) (k := k))
  | insert i s hi ih =>
    simp only [sum_insert hi]
    exact inSpan_add (inSpan_smul _ (hG i (mem_insert_self _ _)))
      (ih (fun j hj => hG j (mem_insert_of_mem hj)))

theorem inSpan_trans (hcols : ∀ j < k, InSpan f' L k' (fun n => f n j)) (hg : InSpan f L k g) :
    InSpan f' L k' g := by
  obtain ⟨a, ha⟩ := hg
  exact inSpan_congr (fun n hn => (ha n hn).symm)
    (inSpan_sum (range k) a (fun j n => f n j) (fun j hj => hcols j (mem_range.1 hj)))

theorem inSpan_of_le (hkk : k ≤ k') (hg : InSpan f L k g) : InSpan f L k' g :=
  inSpan_trans (fun _ hj => inSpan_col (lt_of_lt_of_le hj hkk)) hg

end span

/-- the first `r` columns of `v` (entry `v n k`: row `n`, column `k`) are linearly independent on the `L`-point grid -/
def LinIndepCols (v : ℕ → ℕ → ℝ) (L r : ℕ) : Prop :=
  ∀ c : ℕ → ℝ, (∀ n < L, ∑ k ∈ range r, c k * v n k = 0) → ∀ k < r, c k = 0

theorem linIndepCols_congr {v v' : ℕ → ℕ → ℝ} {L r : ℕ} (hvv : ∀ n < L, ∀ k < r, v n k = v' n k)
    (h : LinIndepCols v L r) : LinIndepCols v' L r := by
  intro c hc
  refine h c (fun n hn => ?_)
  rw [← hc n hn]
  exact sum_congr rfl (fun k hk => by rw [hvv n hn k (mem_range.1 hk)])

theorem linIndepCols_not_inSpan {v : ℕ → ℕ → ℝ} {L r k : ℕ} (h : LinIndepCols v L r) (hk : k < r) :
    ¬ InSpan v L k (fun n => v n k) := by
  rintro ⟨a, ha⟩
  -- the relation `Σ_{j<k} a j · v_j − v_k = 0`, padded with zeros up to `r`
  have h1 := h (fun j => if j < k then a j else if j = k then -1 else 0) (fun n hn => by
    rw [← sum_subset (range_subset_range.2 hk) (fun j _ hj => by
        have := not_lt.1 (mt mem_range.2 hj)
        rw [if_neg (by omega), if_neg (by omega), zero_mul]),
      sum_range_succ, if_neg (lt_irrefl k), if_pos rfl, sum_congr rfl (fun j hj => by rw [if_pos (mem_range.1 hj)]), ← ha n hn]
    ring) k hk
  rw [if_neg (lt_irrefl k), if_pos rfl] at h1
  exact absurd h1 (by norm_num)

/-- the matrix whose columns are the arrays of the list -/
noncomputable def QM (qs : List (Arr ℝ)) : ℕ → ℕ → ℝ := fun n j => (Np.colOf qs j).get n

theorem QM_append_lt (qs : List (Arr ℝ)) (q : Arr ℝ) (n j : ℕ) (hj : j < qs.length) :
    QM (qs ++ [q]) n j = QM qs n j := by
  unfold QM Np.colOf
  rw [List.getD_append _ _ _ _ hj]

theorem QM_append_eq (qs : List (Arr ℝ)) (q : Arr ℝ) (n : ℕ) :
    QM (qs ++ [q]) n qs.length = q.get n := by
  unfold QM Np.colOf
  rw [List.getD_append_right _ _ _ _ (le_refl _), Nat.sub_self, List.getD_cons_zero]

/-- the loop invariant: `k` orthonormal columns spanning what the first `k` columns of `V` span -/
structure GSInv (V : ℕ → ℕ → ℝ) (L k : ℕ) (Q : ℕ → ℕ → ℝ) : Prop where
  ortho : OrthoCols Q L k
  v_in_q : ∀ j < k, InSpan Q L k (fun n => V n j)
  q_in_v : ∀ j < k, InSpan V L k (fun n => Q n j)

theorem gsInv_zero {V Q : ℕ → ℕ → ℝ} {L : ℕ} : GSInv V L 0 Q :=
  ⟨fun k hk => absurd hk (Nat.not_lt_zero k), fun j hj => absurd hj (Nat.not_lt_zero j), fun j hj => absurd hj (Nat.not_lt_zero j)⟩

/-- one Gram–Schmidt step: `Q'` keeps the `k` columns of `Q` and gets `u / ‖u‖` as column `k`, `u` = column `k` of `V` minus its
    projection on the columns of `Q` -/
theorem gsInv_step {V Q Q' : ℕ → ℕ → ℝ} {L k : ℕ} (h : GSInv V L k Q) (hnot : ¬ InSpan V L k (fun n => V n k)) {u : ℕ → ℝ}
    (hu : ∀ n, u n = V n k - ∑ j ∈ range k, (∑ m ∈ range L, Q m j * V m k) * Q n j)
    (hold : ∀ n, ∀ j < k, Q' n j = Q n j) (hnew : ∀ n, Q' n k = u n / Real.sqrt (∑ m ∈ range L, u m * u m)) :
    GSInv V L (k + 1) Q' := by
  obtain ⟨hO, hvq, hqv⟩ := h
  set c : ℕ → ℝ := fun j => ∑ m ∈ range L, Q m j * V m k
  set S : ℝ := ∑ m ∈ range L, u m * u m
  -- `u` is orthogonal to the old columns: the projection part has coefficients `c` in them
  have hperp : ∀ j < k, ∑ n ∈ range L, Q n j * u n = 0 := fun j hj => by
    simp only [hu, mul_sub, sum_sub_distrib]
    rw [coeff_of_span hO (a := c) (t := fun n => ∑ i ∈ range k, c i * Q n i) (fun n _ => rfl) hj]
    exact sub_self _
  -- `u` does not vanish on the grid: column `k` of `V` would be in the span of the earlier ones
  have hSpos : 0 < S := by
    refine (sum_nonneg fun m _ => mul_self_nonneg (u m)).lt_of_ne' fun h0 => ?_
    have hz : ∀ n ∈ range L, u n * u n = 0 := (sum_eq_zero_iff_of_nonneg fun m _ => mul_self_nonneg (u m)).1 h0
    exact hnot (inSpan_trans hqv
      ⟨c, fun n hn => sub_eq_zero.1 ((hu n).symm.trans (mul_self_eq_zero.1 (hz n (mem_range.2 hn))))⟩)
  have hs0 : Real.sqrt S ≠ 0 := (Real.sqrt_pos.2 hSpos).ne'
  refine ⟨orthoCols_succ (orthoCols_congr hold hO) (fun j hj => ?_) ?_, fun j hj => ?_, fun j hj => ?_⟩
  · rw [← zero_div (Real.sqrt S), ← hperp j hj, sum_div]
    exact sum_congr rfl (fun n _ => by rw [hold n j hj, hnew n, mul_div_assoc])
  · rw [sum_congr rfl (fun n _ => by rw [hnew n, div_mul_div_comm, Real.mul_self_sqrt hSpos.le] : ∀ n ∈ range L, Q' n k * Q' n k = u n * u n / S),
      ← sum_div]
    exact div_self hSpos.ne'
  · rcases Nat.lt_succ_iff_lt_or_eq.1 hj with hjk | rfl
    · exact inSpan_of_le (Nat.le_succ k) (inSpan_congr_basis (fun n _ i hi => (hold n i hi).symm) (hvq j hjk))
    · refine ⟨fun i => if i = j then Real.sqrt S else c i, fun n _ => ?_⟩
      beta_reduce
      rw [sum_range_succ, if_pos rfl, hnew n, mul_div_cancel₀ _ hs0, hu n, sum_congr rfl (fun i hi => by
        rw [if_neg (mem_range.1 hi).ne, hold n i (mem_range.1 hi)] : ∀ i ∈ range j, (if i = j then Real.sqrt S else c i) * Q' n i = c i * Q n i)]
      exact (add_sub_cancel _ _).symm
  · rcases Nat.lt_succ_iff_lt_or_eq.1 hj with hjk | rfl
    · exact inSpan_of_le (Nat.le_succ k) (inSpan_congr (fun n _ => (hold n j hjk).symm) (hqv j hjk))
    · exact inSpan_congr (fun n _ => by rw [hnew n, hu n, one_div, inv_mul_eq_div])
        (inSpan_smul (1 / Real.sqrt S) (inSpan_sub (inSpan_col (Nat.lt_succ_self j))
          (inSpan_sum (range j) c (fun i n => Q n i) (fun i hi => inSpan_of_le (Nat.le_succ j) (hqv i (mem_range.1 hi))))))

/-- `Np.gsStep` appends `u / ‖u‖` -/
theorem gsStep_eq (V : Arr2 ℝ) (k : ℕ) (qs : List (Arr ℝ)) :
    ∃ u : ℕ → ℝ, (∀ n, u n = V.get n k - ∑ j ∈ range k, (∑ m ∈ range V.n, QM qs m j * V.get m k) * QM qs n j) ∧
      Np.gsStep V k qs = qs ++ [⟨V.n, fun n => u n / Real.sqrt (∑ m ∈ range V.n, u m * u m)⟩] :=
  ⟨_, fun _ => rfl, by simp only [Np.gsStep, Arr.memo_eq, sumRange_eq_sum, RL.sqrt_eq, QM]⟩

theorem gs_length (V : Arr2 ℝ) (r : ℕ) : (forRange r ([] : List (Arr ℝ)) (fun k qs => Np.gsStep V k qs)).length = r :=
  forRange_inv (fun it (qs : List (Arr ℝ)) => qs.length = it) _ _ _ rfl fun it qs _ h => by
    simp only [Np.gsStep, List.length_append, List.length_cons, List.length_nil, h]

/-- Gram–Schmidt of a matrix whose first `min(rows, cols)` columns are independent: orthonormal columns, the same flag of spans -/
theorem qr_spec (V : Arr2 ℝ) (hind : LinIndepCols V.get V.n (min V.n V.m)) :
    (Np.qrReducedQ V).n = V.n ∧ (Np.qrReducedQ V).m = min V.n V.m ∧
    OrthoCols (Np.qrReducedQ V).get V.n (min V.n V.m) ∧
    (∀ j < min V.n V.m, InSpan (Np.qrReducedQ V).get V.n (min V.n V.m) (fun n => V.get n j)) ∧
    (∀ j < min V.n V.m, InSpan V.get V.n (min V.n V.m) (fun n => (Np.qrReducedQ V).get n j)) := by
  have key := forRange_inv (fun k qs => qs.length = k ∧ GSInv V.get V.n k (QM qs)) (min V.n V.m) []
    (fun k qs => Np.gsStep V k qs) ⟨rfl, gsInv_zero⟩ (fun k qs hk ih => by
      obtain ⟨rfl, h⟩ := ih
      obtain ⟨u, hu, e⟩ := gsStep_eq V qs.length qs
      rw [e]
      exact ⟨List.length_append, gsInv_step h (linIndepCols_not_inSpan hind hk) hu (QM_append_lt qs _) (QM_append_eq qs _)⟩)
  exact ⟨rfl, rfl, key.2.ortho, key.2.v_in_q, key.2.q_in_v⟩

section
open Polynomial

theorem vander_indep (t : ℕ → ℝ) (L r : ℕ) (hr : r ≤ L)
    (hinj : ∀ i < L, ∀ j < L, t i = t j → i = j) : LinIndepCols (fun n k => t n ^ k) L r := by
  intro c hc k hk
  set P : ℝ[X] := ∑ i ∈ range r, C (c i) * X ^ i with hP
  have hdeg : P.natDegree ≤ r - 1 :=
    natDegree_sum_le_of_forall_le _ _ fun i hi => (natDegree_C_mul_X_pow_le (c i) i).trans (Nat.le_pred_of_lt (mem_range.1 hi))
  -- `P` has degree `< r ≤ L` and vanishes at the `L` distinct nodes
  have hzero : P = 0 := eq_zero_of_natDegree_lt_card_of_eval_eq_zero P (f := fun i : Fin L => t i)
    (fun i j h => Fin.ext (hinj i i.2 j j.2 h))
    (fun i => by
      rw [hP, eval_finsetSum, ← hc i i.2]
      exact sum_congr rfl fun j _ => by rw [eval_mul_X_pow, eval_C])
    (by rw [Fintype.card_fin]; omega)
  have hcoeff : P.coeff k = c k := by
    rw [hP, finsetSum_coeff]
    simp only [coeff_C_mul_X_pow]
    rw [sum_ite_eq (range r) k c, if_pos (mem_range.2 hk)]
  rw [← hcoeff, hzero, coeff_zero]

end

/-- the monomial "matrix": entry `(n, k)` is `n^k` -/
noncomputable def mono : ℕ → ℕ → ℝ := fun n k => (n : ℝ) ^ k

/-- `(a + b·t)^k` is a polynomial of degree `k` in `t`, for any node function `t` (binomial theorem) -/
theorem pow_affine_inSpan_pow (t : ℕ → ℝ) (a b : ℝ) (L k : ℕ) :
    InSpan (fun n j => t n ^ j) L (k + 1) (fun n => (a + b * t n) ^ k) :=
  ⟨fun m => b ^ m * a ^ (k - m) * (k.choose m : ℝ), fun n _ => by
    beta_reduce
    rw [add_comm, add_pow]
    exact sum_congr rfl (fun m _ => by rw [mul_pow]; ring)⟩

/-- the nodes are `a + b·n` with a non-zero slope on the `L`-point grid -/
def AffineGrid (t : ℕ → ℝ) (L : ℕ) : Prop := ∃ a b : ℝ, b ≠ 0 ∧ ∀ n < L, t n = a + b * n

namespace AffineGrid
variable {t : ℕ → ℝ} {L : ℕ}

theorem inj (h : AffineGrid t L) :
    ∀ i < L, ∀ j < L, t i = t j → i = j := by
  obtain ⟨a, b, hb, ht⟩ := h
  intro i hi j hj hij
  rw [ht i hi, ht j hj] at hij
  have : (i : ℝ) = j := mul_left_cancel₀ hb (add_left_cancel hij)
  exact_mod_cast this

theorem pow_inSpan_mono (h : AffineGrid t L) (k : ℕ) : InSpan mono L (k + 1) (fun n => t n ^ k) := by
  obtain ⟨a, b, _, ht⟩ := h
  exact inSpan_congr (fun n hn => by rw [ht n hn]) (pow_affine_inSpan_pow (fun n => (n : ℝ)) a b L k)

/-- conversely `n = −a/b + t/b` -/
theorem mono_inSpan_pow (h : AffineGrid t L) (k : ℕ) : InSpan (fun n j => t n ^ j) L (k + 1) (fun n => (n : ℝ) ^ k) := by
  obtain ⟨a, b, hb, ht⟩ := h
  exact inSpan_congr (fun n hn => by
      rw [ht n hn, neg_div, neg_add_eq_sub, one_div, inv_mul_eq_div, ← sub_div, add_sub_cancel_left, mul_div_cancel_left₀ _ hb])
    (pow_affine_inSpan_pow t (-a / b) (1 / b) L k)

end AffineGrid

/-- the segment index seen from the record: `s + n` -/
theorem affineGrid_shift (s L : ℕ) : AffineGrid (fun n => ((s + n : ℕ) : ℝ)) L :=
  ⟨s, 1, one_ne_zero, fun n _ => by simp only [one_mul, Nat.cast_add]⟩

/-- `np.linspace(lo, hi, L)`, `L ≥ 2`: node `n` is `lo + n·(hi−lo)/(L−1)`, also the last one, which NumPy overwrites by `hi` -/
theorem linspace_get (lo hi : ℝ) {L : ℕ} (hL : 2 ≤ L) (n : ℕ) :
    (Np.linspace lo hi L).get n = lo + (hi - lo) / ((L - 1 : ℕ) : ℝ) * n := by
  simp only [Np.linspace, RL.ofNat_eq, if_neg (Nat.not_le.2 hL)]
  by_cases hlast : n + 1 = L
  · subst hlast
    rw [if_pos (beq_self_eq_true _), Nat.add_sub_cancel, div_mul_cancel₀ _ (Nat.cast_ne_zero.2 (by omega)), add_sub_cancel]
  · rw [if_neg (mt beq_iff_eq.1 hlast), add_comm, mul_comm]

/-- for `L = 1` the single node is `lo` -/
theorem linspace_affine (lo hi : ℝ) (hne : lo ≠ hi) (L : ℕ) (hL : 1 ≤ L) :
    AffineGrid (Np.linspace lo hi L).get L := by
  rcases Nat.lt_or_ge 1 L with h2 | h1
  · exact ⟨lo, _, div_ne_zero (sub_ne_zero.2 hne.symm) (Nat.cast_ne_zero.2 (by omega)), fun n _ => linspace_get lo hi h2 n⟩
  · refine ⟨lo, 1, one_ne_zero, fun n hn => ?_⟩
    obtain rfl : n = 0 := by omega
    exact (if_pos h1).trans (by rw [Nat.cast_zero, mul_zero, add_zero])

/-- `np.linspace(lo, hi, L+1)[:-1]` is an affine grid too: node `n` is `lo + n·(hi−lo)/L` -/
theorem linspace_slice_affine (lo hi : ℝ) (hne : lo ≠ hi) (L : ℕ) (hL : 1 ≤ L) :
    AffineGrid (Np.slice (Np.linspace lo hi (L + 1)) 0 (-1)).get L := by
  refine ⟨lo, (hi - lo) / (L : ℝ), div_ne_zero (sub_ne_zero.2 hne.symm) (Nat.cast_ne_zero.2 (by omega)), fun n _ => ?_⟩
  -- `a[0:-1]` starts at index 0
  change (Np.linspace lo hi (L + 1)).get (0 + n) = _
  rw [Nat.zero_add, linspace_get lo hi (by omega), Nat.add_sub_cancel]

/-- what the detrending theorems need of the basis for segments of length `L` and detrend order `p`:
    shape `L × r`, `r = min(L, p+1)`, orthonormal columns, span = polynomials of degree `< r` in the sample index -/
structure IsPolyBasis (Q : Arr2 ℝ) (L p : ℕ) : Prop where
  n_eq : Q.n = L
  m_eq : Q.m = min L (p + 1)
  ortho : OrthoCols Q.get L (min L (p + 1))
  mono_in_span : ∀ k < min L (p + 1), InSpan Q.get L (min L (p + 1)) (fun n => (n : ℝ) ^ k)
  cols_poly : ∀ j < min L (p + 1), InSpan mono L (min L (p + 1)) (fun n => Q.get n j)

/-- reduced QR (Gram–Schmidt) of a Vandermonde matrix `[1, t, (t·t)]` whose node column `t = V[:,1]` is affine in the sample index -/
theorem vander_qr_isPolyBasis (V : Arr2 ℝ) (L p : ℕ) (hp : p = 1 ∨ p = 2) (hn : V.n = L) (hm : V.m = p + 1)
    (h0 : ∀ n < L, V.get n 0 = 1) (h2 : p = 2 → ∀ n < L, V.get n 2 = V.get n 1 * V.get n 1)
    (ht : AffineGrid (fun n => V.get n 1) L) :
    IsPolyBasis (Np.qrReducedQ V) L p := by
  subst hn
  have hV : ∀ n < V.n, ∀ k < p + 1, V.get n k = V.get n 1 ^ k := by
    intro n hn' k hk
    have hk3 : k = 0 ∨ k = 1 ∨ (k = 2 ∧ p = 2) := by omega
    rcases hk3 with rfl | rfl | ⟨rfl, hp2⟩
    · rw [h0 n hn', pow_zero]
    · rw [pow_one]
    · rw [h2 hp2 n hn', pow_two]
  have hrp : min V.n (p + 1) ≤ p + 1 := min_le_right _ _
  obtain ⟨h1, h2', h3, h4, h5⟩ := qr_spec V (hm ▸ linIndepCols_congr (fun n hn' k hk => (hV n hn' k (hk.trans_le hrp)).symm)
      (vander_indep _ V.n _ (min_le_left _ _) ht.inj))
  rw [hm] at h2' h3 h4 h5
  refine ⟨h1, h2', h3, fun k hk => ?_, fun j hj => ?_⟩
  · exact inSpan_trans h4 (inSpan_congr_basis (fun n hn' j hj => (hV n hn' j (hj.trans_le hrp)).symm)
      (inSpan_of_le (by omega) (ht.mono_inSpan_pow k)))
  · exact inSpan_trans (fun k hk => inSpan_congr (fun n hn' => (hV n hn' k (hk.trans_le hrp)).symm)
      (inSpan_of_le (by omega) (ht.pow_inSpan_mono k))) (h5 j hj)

/-- the orders the Python rejects (`raise ValueError`): the translated function returns `none` -/
theorem gen_build_Q_none (L : ℕ) (order : ℤ) (h1 : order ≠ 1) (h2 : order ≠ 2) :
    Gen._build_Q (α := ℝ) L order = none := by
  unfold Gen._build_Q
  simp [h1, h2]

/-- the translated function at the two orders it accepts is the reduced QR of a matrix `V`.  Of `V` only what `vander_qr_isPolyBasis`
    asks is read off the translated text, each fact by unfolding `Np.stackCols` at its column: the shape, the ones column, at order 2 the
    square, and a node column that is `np.linspace(lo, hi, L)` or `np.linspace(lo, hi, L + 1)[:-1]` with `lo ≠ hi`.  The order tests are
    closed Boolean terms and are evaluated, so neither their spelling nor that of the columns is looked at. -/
theorem build_Q_vander (L p : ℕ) (hp : p = 1 ∨ p = 2) :
    ∃ V : Arr2 ℝ, Gen._build_Q (α := ℝ) L (p : ℤ) = some (Np.qrReducedQ V) ∧ V.n = L ∧ V.m = p + 1 ∧ (∀ n, V.get n 0 = 1)
      ∧ (p = 2 → ∀ n, V.get n 2 = V.get n 1 * V.get n 1) ∧ (1 ≤ L → AffineGrid (fun n => V.get n 1) L) := by
  rcases hp with rfl | rfl
  · simp (config := {decide := true}) only [Gen._build_Q, ↓reduceIte]
    -- in the order of the statement; the ones column reads `RealLike.ofNat 1`, hence `Nat.cast_one`
    refine ⟨_, rfl, rfl, rfl, fun _ => Nat.cast_one, fun h => absurd h (by decide), fun hL => ?_⟩
    apply_rules [linspace_affine, linspace_slice_affine]
    simp only [RL.ofSci_eq]
    norm_num
  · simp (config := {decide := true}) only [Gen._build_Q, ↓reduceIte]
    refine ⟨_, rfl, rfl, rfl, fun _ => Nat.cast_one, fun _ _ => rfl, fun hL => ?_⟩
    apply_rules [linspace_affine, linspace_slice_affine]
    simp only [RL.ofSci_eq]
    norm_num

theorem gen_build_Q_isPolyBasis (L : ℕ) (hL : 1 ≤ L) (p : ℕ) (hp : p = 1 ∨ p = 2) :
    ∃ Q : Arr2 ℝ, Gen._build_Q (α := ℝ) L (p : ℤ) = some Q ∧ IsPolyBasis Q L p := by
  obtain ⟨V, hV, hn, hm, h0, h2, ht⟩ := build_Q_vander L p hp
  exact ⟨_, hV, vander_qr_isPolyBasis V L p hp hn hm (fun n _ => h0 n) (fun h n _ => h2 h n) (ht hL)⟩

/-- the library's own basis: the value of the translated `_build_Q` (the empty matrix where the Python raises) -/
noncomputable def libQ (L : ℕ) (order : ℤ) : Arr2 ℝ :=
  (Gen._build_Q (α := ℝ) L order).getD ⟨0, 0, fun _ _ => 0⟩

theorem libQ_eq_some (L : ℕ) (hL : 1 ≤ L) (p : ℕ) (hp : p = 1 ∨ p = 2) :
    Gen._build_Q (α := ℝ) L (p : ℤ) = some (libQ L p) := by
  obtain ⟨Q, hQ, _⟩ := gen_build_Q_isPolyBasis L hL p hp
  rw [libQ, hQ, Option.getD_some]

theorem libQ_isPolyBasis (L : ℕ) (hL : 1 ≤ L) (p : ℕ) (hp : p = 1 ∨ p = 2) : IsPolyBasis (libQ L p) L p := by
  obtain ⟨Q, hQ, hB⟩ := gen_build_Q_isPolyBasis L hL p hp
  rwa [libQ, hQ, Option.getD_some]

/-- the columns that do not exist (`k ≥ min(rows, cols)`) read as 0 (`Np.colOf` beyond the list of Gram–Schmidt columns) -/
theorem qrReducedQ_get_beyond {V : Arr2 ℝ} {n k : ℕ} (hk : min V.n V.m ≤ k) : (Np.qrReducedQ V).get n k = 0 := by
  simp only [Np.qrReducedQ, Np.colOf]
  rw [List.getD_eq_default _ _ (by rw [gs_length]; exact hk)]
  exact Nat.cast_zero

theorem libQ_get_beyond (L p : ℕ) (hp : p = 1 ∨ p = 2) (n k : ℕ) (hk : min L (p + 1) ≤ k) : (libQ L p).get n k = 0 := by
  obtain ⟨V, hV, hn, hm, _⟩ := build_Q_vander L p hp
  rw [libQ, hV, Option.getD_some]
  exact qrReducedQ_get_beyond (by rwa [hn, hm])

/-- for EVERY segment length the reference of order `p` with the library's basis removes the projection onto the `min(L, p+1)` columns
    the basis has: the hypothesis of the kernel theorems `*_eq_ref_of` -/
theorem libQ_detrIsProj (L p : ℕ) (hp : p = 1 ∨ p = 2) : DetrIsProj (p : ℤ) (libQ L p).get (libQ L p) L := by
  intro x s n hn
  have hm := (libQ_isPolyBasis L (by omega) p hp).m_eq
  exact detrIsProj_of_beyond p (by omega) (by omega) (fun _ _ _ => rfl) (fun n k hk => libQ_get_beyond L p hp n k (hm ▸ hk)) L x s n hn

/-- not vacuous: `L = 4`, order 2 -/
example : ∃ Q : Arr2 ℝ, Gen._build_Q (α := ℝ) 4 (2 : ℕ) = some Q ∧ Q.n = 4 ∧ Q.m = 3 ∧ OrthoCols Q.get 4 3 := by
  obtain ⟨Q, hQ, hB⟩ := gen_build_Q_isPolyBasis 4 (by norm_num) 2 (Or.inr rfl)
  exact ⟨Q, hQ, hB.n_eq, hB.m_eq, hB.ortho⟩

section full
variable (L : ℕ) (p : ℕ) (hp : p = 1 ∨ p = 2) (hLp : p + 1 ≤ L)
include hp hLp

theorem libQ_m : (libQ L p).m = p + 1 :=
  min_eq_right hLp ▸ (libQ_isPolyBasis L (by omega) p hp).m_eq

theorem libQ_n : (libQ L p).n = L := (libQ_isPolyBasis L (by omega) p hp).n_eq

theorem libQ_ortho : OrthoCols (libQ L p).get L (p + 1) :=
  min_eq_right hLp ▸ (libQ_isPolyBasis L (by omega) p hp).ortho

theorem libQ_inSpan_mono (k : ℕ) (hk : k ≤ p) : InSpan (libQ L p).get L (p + 1) (fun n => (n : ℝ) ^ k) :=
  (min_eq_right hLp ▸ (libQ_isPolyBasis L (by omega) p hp).mono_in_span) k (by omega)

theorem libQ_cols_poly (j : ℕ) (hj : j < p + 1) : InSpan mono L (p + 1) (fun n => (libQ L p).get n j) :=
  (min_eq_right hLp ▸ (libQ_isPolyBasis L (by omega) p hp).cols_poly) j hj

end full

/-- a polynomial of degree ≤ p in the ABSOLUTE sample index `m`: `Σ_{j ≤ p} c j · m^j` -/
noncomputable def polyN (p : ℕ) (c : ℕ → ℝ) (m : ℕ) : ℝ := ∑ j ∈ range (p + 1), c j * (m : ℝ) ^ j

/-- a polynomial in the absolute sample index is one of the same degree in the index within a segment, wherever the segment starts -/
theorem libQ_inSpan_poly (L p : ℕ) (hp : p = 1 ∨ p = 2) (hLp : p + 1 ≤ L) (c : ℕ → ℝ) (s : ℕ) :
    InSpan (libQ L p).get L (p + 1) (fun n => polyN p c (s + n)) := by
  unfold polyN
  refine inSpan_sum (range (p + 1)) c (fun j n => (((s + n : ℕ) : ℝ)) ^ j) (fun j hj => ?_)
  have hj' : j < p + 1 := mem_range.1 hj
  exact inSpan_trans (k := p + 1) (fun k hk => libQ_inSpan_mono L p hp hLp k (by omega))
    (inSpan_of_le (by omega) ((affineGrid_shift s L).pow_inSpan_mono j))

theorem libQ_inSpan_line (L : ℕ) (hL : 2 ≤ L) (c d : ℝ) : InSpan (libQ L 1).get L 2 (fun n => c + d * n) := by
  have h := libQ_inSpan_poly L 1 (Or.inl rfl) hL (fun j => if j = 0 then c else d) 0
  refine inSpan_congr (fun n _ => ?_) h
  simp [polyN, sum_range_succ]

/-- what the order-1 line-invariance theorems of the per-bin loop (`lpsdCore_order1_add_line_*`) assume of the basis, at one segment length -/
theorem libQ_line_contract (L : ℕ) (hL : 2 ≤ L) :
    (libQ L 1).m = 2 ∧ OrthoCols (libQ L 1).get L 2 ∧ ∀ c d : ℝ, InSpan (libQ L 1).get L 2 (fun n => c + d * n) :=
  ⟨libQ_m L 1 (Or.inl rfl) hL, libQ_ortho L 1 (Or.inl rfl) hL, fun c d => libQ_inSpan_line L hL c d⟩

/-- "and nothing else": for `L ≥ p + 2` the monomial of degree `p+1` (from any segment start) is NOT in the span -/
theorem libQ_next_degree_not_inSpan (L p : ℕ) (hp : p = 1 ∨ p = 2) (hLp : p + 2 ≤ L) (s : ℕ) :
    ¬ InSpan (libQ L p).get L (p + 1) (fun n => (((s + n : ℕ) : ℝ)) ^ (p + 1)) := by
  intro h
  have hg := affineGrid_shift s L
  -- the columns are polynomials of degree ≤ p in `s + n` as well, and the powers of `s + n` up to `p + 1` are independent
  refine linIndepCols_not_inSpan (vander_indep _ L (p + 2) hLp hg.inj) (Nat.lt_succ_self _) (inSpan_trans (fun j hj => ?_) h)
  exact inSpan_trans (fun k hk => inSpan_of_le (by omega) (hg.mono_inSpan_pow k)) (libQ_cols_poly L p hp (by omega) j hj)

section transfer
variable (L : ℕ) (p : ℕ) (hp : p = 1 ∨ p = 2) (hLp : p + 1 ≤ L)
include hp hLp

/-- C08 on the reference: adding ANY polynomial of degree ≤ p in the sample index to the record leaves the windowed, detrended DFT of
    every segment unchanged, with the library's basis -/
theorem segDFT_libQ_add_poly (x : ℕ → ℝ) (c : ℕ → ℝ) (s : ℕ) (w : ℕ → ℝ) (ω : ℝ) :
    Model.segDFT (p : ℤ) (libQ L p).get (fun m => x m + polyN p c m) s L w ω
      = Model.segDFT (p : ℤ) (libQ L p).get x s L w ω :=
  segDFT_add_trend (by omega) (libQ_ortho L p hp hLp) x (polyN p c) s (libQ_inSpan_poly L p hp hLp c s) w ω

theorem refStats_libQ_add_poly (x1 x2 : ℕ → ℝ) (c1 c2 : ℕ → ℝ) (starts : ℕ → ℕ) (K : ℕ) (w : ℕ → ℝ) (ω : ℝ) :
    Model.refStats (p : ℤ) (libQ L p).get (fun m => x1 m + polyN p c1 m) (fun m => x2 m + polyN p c2 m) starts K L w ω
      = Model.refStats (p : ℤ) (libQ L p).get x1 x2 starts K L w ω := by
  unfold Model.refStats
  simp only [segDFT_libQ_add_poly L p hp hLp]

theorem refStatsAuto_libQ_add_poly (x : ℕ → ℝ) (c : ℕ → ℝ) (starts : ℕ → ℕ) (K : ℕ) (w : ℕ → ℝ) (ω : ℝ) :
    Model.refStatsAuto (p : ℤ) (libQ L p).get (fun m => x m + polyN p c m) starts K L w ω
      = Model.refStatsAuto (p : ℤ) (libQ L p).get x starts K L w ω := by
  unfold Model.refStatsAuto
  simp only [segDFT_libQ_add_poly L p hp hLp]

/-! C01: the polynomial kernels of the three backends, CALLED WITH THE LIBRARY'S OWN BASIS, equal the reference estimator of order p -/

theorem stats_poly_csd_libQ_eq_ref (x1 x2 : Arr ℝ) (starts : Arr ℕ) (hK : 0 < starts.n) (w : Arr ℝ) (ω : ℝ) :
    Gen._stats_poly_csd x1 x2 starts L w ω (libQ L p)
      = Model.refStats (p : ℤ) (libQ L p).get x1.get x2.get starts.get starts.n L w.get ω :=
  stats_poly_csd_eq_ref x1 x2 starts hK L w ω (libQ L p) p (by omega) (libQ_m L p hp hLp)

theorem stats_poly_auto_libQ_eq_ref (x : Arr ℝ) (starts : Arr ℕ) (hK : 0 < starts.n) (w : Arr ℝ) (ω : ℝ) :
    Gen._stats_poly_auto x starts L w ω (libQ L p)
      = Model.refStatsAuto (p : ℤ) (libQ L p).get x.get starts.get starts.n L w.get ω :=
  stats_poly_auto_eq_ref x starts hK L w ω (libQ L p) p (by omega) (libQ_m L p hp hLp)

theorem stats_poly_csd_cuda_libQ_eq_ref (x1 x2 : Arr ℝ) (starts : Arr ℕ) (hK : 0 < starts.n) (w : Arr ℝ) (ω : ℝ) :
    Gen._stats_poly_csd_cuda x1 x2 starts L w ω (libQ L p)
      = Model.refStats (p : ℤ) (libQ L p).get x1.get x2.get starts.get starts.n L w.get ω :=
  stats_poly_csd_cuda_eq_ref x1 x2 starts hK L w ω (libQ L p) p (by omega) (libQ_m L p hp hLp)

theorem stats_poly_auto_cuda_libQ_eq_ref (x : Arr ℝ) (starts : Arr ℕ) (hK : 0 < starts.n) (w : Arr ℝ) (ω : ℝ) :
    Gen._stats_poly_auto_cuda x starts L w ω (libQ L p)
      = Model.refStatsAuto (p : ℤ) (libQ L p).get x.get starts.get starts.n L w.get ω :=
  stats_poly_auto_cuda_eq_ref x starts hK L w ω (libQ L p) p (by omega) (libQ_m L p hp hLp)

theorem np_poly_csd_libQ_eq_ref (x1 x2 : Arr ℝ) (starts : Arr ℕ) (hK : 0 < starts.n) (w : Arr ℝ) (ω : ℝ)
    (c : ℕ) (hc : 1 ≤ c) (u : ℕ → ℕ → ℝ) :
    Gen._stats_poly_csd_np x1 x2 starts L w ω (libQ L p) c u
      = Model.refStats (p : ℤ) (libQ L p).get x1.get x2.get starts.get starts.n L w.get ω :=
  gen_np_poly_csd_eq_ref x1 x2 starts hK L w ω (libQ L p) p (by omega) (libQ_m L p hp hLp) c hc u

theorem np_poly_auto_libQ_eq_ref (x : Arr ℝ) (starts : Arr ℕ) (hK : 0 < starts.n) (w : Arr ℝ) (ω : ℝ)
    (c : ℕ) (hc : 1 ≤ c) (u : ℕ → ℕ → ℝ) :
    Gen._stats_poly_auto_np x starts L w ω (libQ L p) c u
      = Model.refStatsAuto (p : ℤ) (libQ L p).get x.get starts.get starts.n L w.get ω :=
  gen_np_poly_auto_eq_ref x starts hK L w ω (libQ L p) p (by omega) (libQ_m L p hp hLp) c hc u

/-! C08 on the translated kernels themselves: a polynomial trend of degree ≤ p added to either channel changes NOTHING in the 5-tuple -/

theorem stats_poly_csd_libQ_add_poly (x1 x2 : Arr ℝ) (c1 c2 : ℕ → ℝ) (starts : Arr ℕ) (hK : 0 < starts.n) (w : Arr ℝ) (ω : ℝ) :
    Gen._stats_poly_csd ⟨x1.n, fun m => x1.get m + polyN p c1 m⟩ ⟨x2.n, fun m => x2.get m + polyN p c2 m⟩ starts L w ω (libQ L p)
      = Gen._stats_poly_csd x1 x2 starts L w ω (libQ L p) := by
  rw [stats_poly_csd_libQ_eq_ref L p hp hLp _ _ starts hK w ω, stats_poly_csd_libQ_eq_ref L p hp hLp x1 x2 starts hK w ω]
  exact refStats_libQ_add_poly L p hp hLp x1.get x2.get c1 c2 starts.get starts.n w.get ω

theorem stats_poly_auto_libQ_add_poly (x : Arr ℝ) (c : ℕ → ℝ) (starts : Arr ℕ) (hK : 0 < starts.n) (w : Arr ℝ) (ω : ℝ) :
    Gen._stats_poly_auto ⟨x.n, fun m => x.get m + polyN p c m⟩ starts L w ω (libQ L p)
      = Gen._stats_poly_auto x starts L w ω (libQ L p) := by
  rw [stats_poly_auto_libQ_eq_ref L p hp hLp _ starts hK w ω, stats_poly_auto_libQ_eq_ref L p hp hLp x starts hK w ω]
  exact refStatsAuto_libQ_add_poly L p hp hLp x.get c starts.get starts.n w.get ω

theorem stats_poly_csd_cuda_libQ_add_poly (x1 x2 : Arr ℝ) (c1 c2 : ℕ → ℝ) (starts : Arr ℕ) (hK : 0 < starts.n) (w : Arr ℝ) (ω : ℝ) :
    Gen._stats_poly_csd_cuda ⟨x1.n, fun m => x1.get m + polyN p c1 m⟩ ⟨x2.n, fun m => x2.get m + polyN p c2 m⟩ starts L w ω (libQ L p)
      = Gen._stats_poly_csd_cuda x1 x2 starts L w ω (libQ L p) := by
  rw [stats_poly_csd_cuda_libQ_eq_ref L p hp hLp _ _ starts hK w ω, stats_poly_csd_cuda_libQ_eq_ref L p hp hLp x1 x2 starts hK w ω]
  exact refStats_libQ_add_poly L p hp hLp x1.get x2.get c1 c2 starts.get starts.n w.get ω

theorem stats_poly_auto_cuda_libQ_add_poly (x : Arr ℝ) (c : ℕ → ℝ) (starts : Arr ℕ) (hK : 0 < starts.n) (w : Arr ℝ) (ω : ℝ) :
    Gen._stats_poly_auto_cuda ⟨x.n, fun m => x.get m + polyN p c m⟩ starts L w ω (libQ L p)
      = Gen._stats_poly_auto_cuda x starts L w ω (libQ L p) := by
  rw [stats_poly_auto_cuda_libQ_eq_ref L p hp hLp _ starts hK w ω, stats_poly_auto_cuda_libQ_eq_ref L p hp hLp x starts hK w ω]
  exact refStatsAuto_libQ_add_poly L p hp hLp x.get c starts.get starts.n w.get ω

theorem np_poly_csd_libQ_add_poly (x1 x2 : Arr ℝ) (c1 c2 : ℕ → ℝ) (starts : Arr ℕ) (hK : 0 < starts.n) (w : Arr ℝ) (ω : ℝ)
    (c : ℕ) (hc : 1 ≤ c) (u : ℕ → ℕ → ℝ) :
    Gen._stats_poly_csd_np ⟨x1.n, fun m => x1.get m + polyN p c1 m⟩ ⟨x2.n, fun m => x2.get m + polyN p c2 m⟩ starts L w ω (libQ L p) c u
      = Gen._stats_poly_csd_np x1 x2 starts L w ω (libQ L p) c u := by
  rw [np_poly_csd_libQ_eq_ref L p hp hLp _ _ starts hK w ω c hc u, np_poly_csd_libQ_eq_ref L p hp hLp x1 x2 starts hK w ω c hc u]
  exact refStats_libQ_add_poly L p hp hLp x1.get x2.get c1 c2 starts.get starts.n w.get ω

theorem np_poly_auto_libQ_add_poly (x : Arr ℝ) (c' : ℕ → ℝ) (starts : Arr ℕ) (hK : 0 < starts.n) (w : Arr ℝ) (ω : ℝ)
    (c : ℕ) (hc : 1 ≤ c) (u : ℕ → ℕ → ℝ) :
    Gen._stats_poly_auto_np ⟨x.n, fun m => x.get m + polyN p c' m⟩ starts L w ω (libQ L p) c u
      = Gen._stats_poly_auto_np x starts L w ω (libQ L p) c u := by
  rw [np_poly_auto_libQ_eq_ref L p hp hLp _ starts hK w ω c hc u, np_poly_auto_libQ_eq_ref L p hp hLp x starts hK w ω c hc u]
  exact refStatsAuto_libQ_add_poly L p hp hLp x.get c' starts.get starts.n w.get ω

end transfer

/-- the hypotheses of the transfer theorems can be met: `L = 5`, order 2, two segment starts -/
example : ∃ (L p : ℕ) (starts : Arr ℕ), (p = 1 ∨ p = 2) ∧ p + 1 ≤ L ∧ 0 < starts.n :=
  ⟨5, 2, ⟨2, fun j => 3 * j⟩, Or.inr rfl, by norm_num, by norm_num⟩

/-! "…and nothing else": with `L ≥ p + 2` a trend of degree `p + 1` is NOT annihilated -/

theorem detr_libQ_next_degree (L p : ℕ) (hp : p = 1 ∨ p = 2) (hLp : p + 2 ≤ L) (s : ℕ) :
    ∃ n < L, Model.detr (p : ℤ) (libQ L p).get (fun m => (m : ℝ) ^ (p + 1)) s L n ≠ 0 := by
  by_contra hcon
  push Not at hcon
  refine libQ_next_degree_not_inSpan L p hp hLp s
    ⟨fun k => ∑ m ∈ range L, (libQ L p).get m k * (((s + m : ℕ) : ℝ)) ^ (p + 1), fun n hn => ?_⟩
  have h := hcon n hn
  rw [detr_poly_eq p (by omega)] at h
  exact (sub_eq_zero.1 h).trans (sum_congr rfl fun k _ => mul_comm _ _)

/-- hence there is a window for which the windowed, detrended DFT of the pure degree-`p+1` trend is non-zero (at ω = 0),
    whereas it is zero for every trend of degree ≤ p -/
theorem segDFT_libQ_next_degree_ne_zero (L p : ℕ) (hp : p = 1 ∨ p = 2) (hLp : p + 2 ≤ L) (s : ℕ) :
    ∃ w : ℕ → ℝ, (Model.segDFT (p : ℤ) (libQ L p).get (fun m => (m : ℝ) ^ (p + 1)) s L w 0).re ≠ 0 := by
  obtain ⟨n0, hn0, hne⟩ := detr_libQ_next_degree L p hp hLp s
  refine ⟨fun n => if n = n0 then 1 else 0, ?_⟩
  simp only [segDFT_eq, zero_mul, Real.cos_zero, mul_one, ite_mul, one_mul]
  rw [sum_ite_eq' (range L) n0, if_pos (mem_range.2 hn0)]
  exact hne

example : ∃ (L p : ℕ), (p = 1 ∨ p = 2) ∧ p + 2 ≤ L := ⟨4, 2, Or.inr rfl, le_refl _⟩

/-! Short segments `1 ≤ L ≤ p + 1`: the basis is a complete orthonormal `L × L` matrix, the detrended segment is identically zero -/

theorem libQ_complete (L p : ℕ) (hp : p = 1 ∨ p = 2) (hL : 1 ≤ L) (hLp : L ≤ p + 1) :
    (libQ L p).m = L ∧ OrthoCols (libQ L p).get L L := by
  have h := libQ_isPolyBasis L hL p hp
  have hm := h.m_eq
  have ho := h.ortho
  rw [min_eq_left hLp] at hm ho
  exact ⟨hm, ho⟩

theorem refStats_zero_of_segDFT_zero (order : ℤ) (Q : ℕ → ℕ → ℝ) (x y : ℕ → ℝ) (starts : ℕ → ℕ) (K L : ℕ) (w : ℕ → ℝ) (ω : ℝ)
    (hx : ∀ s, Model.segDFT order Q x s L w ω = ⟨0, 0⟩) (hy : ∀ s, Model.segDFT order Q y s L w ω = ⟨0, 0⟩) :
    Model.refStats order Q x y starts K L w ω = (0, 0, 0, 0, 0) := by
  unfold Model.refStats Model.reduceStats
  simp [hx, hy, Cx.normSq, Cx.conj, sumRange_eq_sum, Cx.mul_re, Cx.mul_im]

theorem refStatsAuto_zero_of_segDFT_zero (order : ℤ) (Q : ℕ → ℕ → ℝ) (x : ℕ → ℝ) (starts : ℕ → ℕ) (K L : ℕ) (w : ℕ → ℝ) (ω : ℝ)
    (hx : ∀ s, Model.segDFT order Q x s L w ω = ⟨0, 0⟩) :
    Model.refStatsAuto order Q x starts K L w ω = (0, 0, 0, 0, 0) := by
  unfold Model.refStatsAuto Model.reduceStats
  simp [hx, Cx.normSq, sumRange_eq_sum]

theorem segDFT_libQ_short {L p : ℕ} (hp : p = 1 ∨ p = 2) (hL : 1 ≤ L) (hLp : L ≤ p + 1) {x : ℕ → ℝ} {s : ℕ} {w : ℕ → ℝ} {ω : ℝ} :
    Model.segDFT (p : ℤ) (libQ L p).get x s L w ω = ⟨0, 0⟩ :=
  segDFT_zero_of_detr_zero
    ((libQ_detrIsProj L p hp).zero_of_complete (libQ_complete L p hp hL hLp).1 (libQ_complete L p hp hL hLp).2 x s)

theorem stats_poly_csd_libQ_zero (L p : ℕ) (hp : p = 1 ∨ p = 2) (hL : 1 ≤ L) (hLp : L ≤ p + 1)
    (x1 x2 : Arr ℝ) (starts : Arr ℕ) (hK : 0 < starts.n) (w : Arr ℝ) (ω : ℝ) :
    Gen._stats_poly_csd x1 x2 starts L w ω (libQ L p) = (0, 0, 0, 0, 0) := by
  rw [stats_poly_csd_eq_ref_of hK (libQ_detrIsProj L p hp)]
  exact refStats_zero_of_segDFT_zero _ _ _ _ _ _ _ _ _ (fun _ => segDFT_libQ_short hp hL hLp) fun _ => segDFT_libQ_short hp hL hLp

theorem stats_poly_csd_libQ_short (L p : ℕ) (hp : p = 1 ∨ p = 2) (hL : 2 ≤ L) (hLp : L ≤ p + 1)
    (x1 x2 : Arr ℝ) (starts : Arr ℕ) (hK : 0 < starts.n) (w : Arr ℝ) (ω : ℝ) :
    Gen._stats_poly_csd x1 x2 starts L w ω (libQ L p) = (0, 0, 0, 0, 0) :=
  stats_poly_csd_libQ_zero L p hp (by omega) hLp x1 x2 starts hK w ω

example : ∃ (L p : ℕ), (p = 1 ∨ p = 2) ∧ 2 ≤ L ∧ L ≤ p + 1 := ⟨2, 2, Or.inr rfl, le_refl _, by norm_num⟩

theorem stats_poly_auto_libQ_zero (L p : ℕ) (hp : p = 1 ∨ p = 2) (hL : 1 ≤ L) (hLp : L ≤ p + 1)
    (x : Arr ℝ) (starts : Arr ℕ) (hK : 0 < starts.n) (w : Arr ℝ) (ω : ℝ) :
    Gen._stats_poly_auto x starts L w ω (libQ L p) = (0, 0, 0, 0, 0) := by
  rw [stats_poly_auto_eq_ref_of hK (libQ_detrIsProj L p hp)]
  exact refStatsAuto_zero_of_segDFT_zero _ _ _ _ _ _ _ _ fun _ => segDFT_libQ_short hp hL hLp

theorem stats_poly_auto_libQ_short (L p : ℕ) (hp : p = 1 ∨ p = 2) (hL : 2 ≤ L) (hLp : L ≤ p + 1)
    (x : Arr ℝ) (starts : Arr ℕ) (hK : 0 < starts.n) (w : Arr ℝ) (ω : ℝ) :
    Gen._stats_poly_auto x starts L w ω (libQ L p) = (0, 0, 0, 0, 0) :=
  stats_poly_auto_libQ_zero L p hp (by omega) hLp x starts hK w ω

/-! the other backends on short segments, through the backend-agreement theorems (which need nothing of the basis) -/

theorem stats_poly_csd_cuda_libQ_short (L p : ℕ) (hp : p = 1 ∨ p = 2) (hL : 2 ≤ L) (hLp : L ≤ p + 1)
    (x1 x2 : Arr ℝ) (starts : Arr ℕ) (hK : 0 < starts.n) (w : Arr ℝ) (ω : ℝ) :
    Gen._stats_poly_csd_cuda x1 x2 starts L w ω (libQ L p) = (0, 0, 0, 0, 0) := by
  rw [numba_cuda_agree_poly_csd]
  exact stats_poly_csd_libQ_short L p hp hL hLp x1 x2 starts hK w ω

theorem stats_poly_auto_cuda_libQ_short (L p : ℕ) (hp : p = 1 ∨ p = 2) (hL : 2 ≤ L) (hLp : L ≤ p + 1)
    (x : Arr ℝ) (starts : Arr ℕ) (hK : 0 < starts.n) (w : Arr ℝ) (ω : ℝ) :
    Gen._stats_poly_auto_cuda x starts L w ω (libQ L p) = (0, 0, 0, 0, 0) := by
  rw [numba_cuda_agree_poly_auto]
  exact stats_poly_auto_libQ_short L p hp hL hLp x starts hK w ω

theorem np_poly_csd_libQ_short (L p : ℕ) (hp : p = 1 ∨ p = 2) (hL : 2 ≤ L) (hLp : L ≤ p + 1)
    (x1 x2 : Arr ℝ) (starts : Arr ℕ) (hK : 0 < starts.n) (w : Arr ℝ) (ω : ℝ) (c : ℕ) (hc : 1 ≤ c) (u : ℕ → ℕ → ℝ) :
    Gen._stats_poly_csd_np x1 x2 starts L w ω (libQ L p) c u = (0, 0, 0, 0, 0) := by
  rw [np_eq_numba_poly_csd hc]
  exact stats_poly_csd_libQ_short L p hp hL hLp x1 x2 starts hK w ω

theorem np_poly_auto_libQ_short (L p : ℕ) (hp : p = 1 ∨ p = 2) (hL : 2 ≤ L) (hLp : L ≤ p + 1)
    (x : Arr ℝ) (starts : Arr ℕ) (hK : 0 < starts.n) (w : Arr ℝ) (ω : ℝ) (c : ℕ) (hc : 1 ≤ c) (u : ℕ → ℕ → ℝ) :
    Gen._stats_poly_auto_np x starts L w ω (libQ L p) c u = (0, 0, 0, 0, 0) := by
  rw [np_eq_numba_poly_auto hc]
  exact stats_poly_auto_libQ_short L p hp hL hLp x starts hK w ω

/-! `L = 1`: the basis is the `1 × 1` matrix `[±1]` -/

theorem libQ_L1 (p : ℕ) (hp : p = 1 ∨ p = 2) :
    (libQ 1 p).m = 1 ∧ (libQ 1 p).get 0 0 * (libQ 1 p).get 0 0 = 1 := by
  obtain ⟨hm, ho⟩ := libQ_complete 1 p hp le_rfl (by omega)
  have h := ho 0 Nat.one_pos 0 Nat.one_pos
  rw [sum_range_one, if_pos rfl] at h
  exact ⟨hm, h⟩

theorem stats_poly_csd_libQ_L1 (p : ℕ) (hp : p = 1 ∨ p = 2) (x1 x2 : Arr ℝ) (starts : Arr ℕ) (hK : 0 < starts.n) (w : Arr ℝ) (ω : ℝ) :
    Gen._stats_poly_csd x1 x2 starts 1 w ω (libQ 1 p) = (0, 0, 0, 0, 0) ∧
    Gen._stats_poly_csd_cuda x1 x2 starts 1 w ω (libQ 1 p) = (0, 0, 0, 0, 0) := by
  have h := stats_poly_csd_libQ_zero 1 p hp le_rfl (by omega) x1 x2 starts hK w ω
  exact ⟨h, (numba_cuda_agree_poly_csd ..).trans h⟩

theorem stats_poly_auto_libQ_L1 (p : ℕ) (hp : p = 1 ∨ p = 2) (x : Arr ℝ) (starts : Arr ℕ) (hK : 0 < starts.n) (w : Arr ℝ) (ω : ℝ) :
    Gen._stats_poly_auto x starts 1 w ω (libQ 1 p) = (0, 0, 0, 0, 0) ∧
    Gen._stats_poly_auto_cuda x starts 1 w ω (libQ 1 p) = (0, 0, 0, 0, 0) := by
  have h := stats_poly_auto_libQ_zero 1 p hp le_rfl (by omega) x starts hK w ω
  exact ⟨h, (numba_cuda_agree_poly_auto ..).trans h⟩

end BuildQ

#print axioms BuildQ.qr_spec
#print axioms BuildQ.vander_indep
#print axioms BuildQ.linspace_affine
#print axioms BuildQ.linspace_slice_affine
#print axioms BuildQ.vander_qr_isPolyBasis
#print axioms BuildQ.gen_build_Q_none
#print axioms BuildQ.gen_build_Q_isPolyBasis
#print axioms BuildQ.libQ_eq_some
#print axioms BuildQ.libQ_isPolyBasis
#print axioms BuildQ.libQ_m
#print axioms BuildQ.libQ_n
#print axioms BuildQ.libQ_ortho
#print axioms BuildQ.libQ_inSpan_mono
#print axioms BuildQ.libQ_cols_poly
#print axioms BuildQ.libQ_inSpan_poly
#print axioms BuildQ.libQ_inSpan_line
#print axioms BuildQ.libQ_next_degree_not_inSpan
#print axioms BuildQ.libQ_complete
#print axioms BuildQ.libQ_line_contract
#print axioms BuildQ.segDFT_libQ_add_poly
#print axioms BuildQ.refStats_libQ_add_poly
#print axioms BuildQ.refStatsAuto_libQ_add_poly
#print axioms BuildQ.stats_poly_csd_libQ_eq_ref
#print axioms BuildQ.stats_poly_auto_libQ_eq_ref
#print axioms BuildQ.stats_poly_csd_cuda_libQ_eq_ref
#print axioms BuildQ.stats_poly_auto_cuda_libQ_eq_ref
#print axioms BuildQ.np_poly_csd_libQ_eq_ref
#print axioms BuildQ.np_poly_auto_libQ_eq_ref
#print axioms BuildQ.stats_poly_csd_libQ_add_poly
#print axioms BuildQ.stats_poly_auto_libQ_add_poly
#print axioms BuildQ.stats_poly_csd_cuda_libQ_add_poly
#print axioms BuildQ.stats_poly_auto_cuda_libQ_add_poly
#print axioms BuildQ.np_poly_csd_libQ_add_poly
#print axioms BuildQ.np_poly_auto_libQ_add_poly
#print axioms BuildQ.detr_libQ_next_degree
#print axioms BuildQ.segDFT_libQ_next_degree_ne_zero
#print axioms BuildQ.stats_poly_csd_libQ_short
#print axioms BuildQ.stats_poly_auto_libQ_short
#print axioms BuildQ.stats_poly_csd_cuda_libQ_short
#print axioms BuildQ.stats_poly_auto_cuda_libQ_short
#print axioms BuildQ.np_poly_csd_libQ_short
#print axioms BuildQ.np_poly_auto_libQ_short
#print axioms BuildQ.stats_poly_csd_libQ_L1
#print axioms BuildQ.stats_poly_auto_libQ_L1
