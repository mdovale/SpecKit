/-
  The translated Lagrange fractional-delay taps (`Gen.lagrange_taps`, regenerated from speckit/dsp.py on every run) ARE the hand
  model `Model.tap`, tap by tap, for every half-length `h ≥ 1` and every real shift `d`; hence the theorems of `Lemmas/Taps.lean`
  are theorems about the code as translated.
-/
import SpecKitV.RealInst
import SpecKitV.Gen.Dsp
import SpecKitV.Model.TimeShift
import SpecKitV.Lemmas.Taps

namespace TapsGenAux

/-- invariant of the first loop: after `i` passes the running factor is `tapsFactor … i` and the `i` taps on either side of the
    centre pair hold their raw values -/
def P1 (h : ℕ) (d : ℝ) (i : ℕ) (st : ℝ × Arr ℝ) : Prop :=
  st.1 = Model.tapsFactor h d i ∧ st.2.n = 2 * h ∧
    ∀ k, (h ≤ k + 1 + i ∧ k + 1 < h) ∨ (h < k ∧ k ≤ h + i) → st.2.get k = Model.tapRaw h d k

theorem idx_low (n h i : ℕ) (hi : i + 2 ≤ h) :
    Np.pyIndex n ((h : ℤ) - 1 - (1 + (i : ℤ))) = h - 2 - i := by
  rw [Np.pyIndex_nonneg _ _ (by omega)]; omega

theorem idx_up (n h i : ℕ) : Np.pyIndex n ((h : ℤ) + (1 + (i : ℤ))) = h + 1 + i := by
  rw [Np.pyIndex_nonneg _ _ (by omega)]; omega

end TapsGenAux

open TapsGenAux

set_option linter.unusedSimpArgs false   -- `mul_comm` is idle where the source spells a product as the model does

/-- generated = model, tap by tap, for every half-length `h ≥ 1` and EVERY real `d` (no range restriction) -/
theorem gen_taps_eq_model (h : ℕ) (hh : 1 ≤ h) (d : ℝ) :
    (Gen.lagrange_taps d (h : ℤ)).n = 2 * h
      ∧ ∀ k < 2 * h, (Gen.lagrange_taps d (h : ℤ)).get k = Model.tap h d k := by
  unfold Gen.lagrange_taps
  -- temporaries are `let`s, also inside the loop bodies: inline them; the loops are named by pattern
  dsimp only
  rcases Nat.eq_or_lt_of_le hh with rfl | hh
  · -- `h = 1` (dsp.py:1313-1316): both taps stored directly
    rw [if_pos (by simp)]
    refine ⟨by simp [Arr.set], fun k hk => ?_⟩
    have hk' : k = 0 ∨ k = 1 := by omega
    rcases hk' with rfl | rfl <;> simp [Arr.set, TapsAux.tap_one]
  rw [if_neg (by rw [decide_eq_true_eq]; omega)]
  -- first loop (dsp.py:1327-1331): factor and the outer taps
  generalize hst1 : forRange (Int.toNat ((h : ℤ) - 1)) _ _ = st1
  obtain ⟨-, hn, hg⟩ : P1 h d (Int.toNat ((h : ℤ) - 1)) st1 := by
    rw [← hst1]
    refine forRange_inv (P1 h d) _ _ _ ⟨by simp [TapsAux.tapsFactor_zero, mul_comm], by simp only; omega, fun k hk => by omega⟩
      (fun i st hi ⟨hf, hn, hg⟩ => ?_)
    -- the new `factor`, named by its shape `factor * _`: the multiplier's spelling is left to `ring`
    generalize hF : st.1 * _ = F
    obtain rfl : F = Model.tapsFactor h d (i + 1) := by
      rw [← hF, TapsAux.tapsFactor_succ, hf]
      simp only [RL.ofInt_eq, RL.ofNat_eq]
      push_cast
      ring
    simp only [P1, RL.ofInt_eq, RL.ofNat_eq, Nat.cast_one, Arr.set, idx_low _ h i (by omega), idx_up, true_and]
    refine ⟨hn, fun k hk => ?_⟩
    by_cases hk1 : k = h + 1 + i
    · rw [if_pos hk1, hk1, show h + 1 + i = h + (i + 1) by omega, TapsAux.tapRaw_up h d (i + 1) (by omega)]
      push_cast; ring
    · rw [if_neg hk1]
      by_cases hk2 : k = h - 2 - i
      · rw [if_pos hk2, TapsAux.tapRaw_low h d k (i + 1) (by omega) (by omega)]
        push_cast; ring
      · rw [if_neg hk2]
        exact hg k (by omega)
  clear hst1
  -- the two central stores (dsp.py:1334-1335)
  generalize hmid : Arr.set (Arr.set st1.2 _ _) _ _ = mid
  have h3 : mid.n = 2 * h ∧ ∀ k < 2 * h, mid.get k = Model.tapRaw h d k := by
    rw [← hmid]
    refine ⟨hn, fun k hk => ?_⟩
    simp only [Arr.set, Np.pyIndex_nonneg _ ((h : ℤ) - 1) (by omega), Np.pyIndex_nonneg _ (h : ℤ) (by omega),
      RL.ofNat_eq, Nat.cast_one, Int.toNat_natCast]
    by_cases hk1 : k = h
    · rw [if_pos hk1, hk1, TapsAux.tapRaw_centre_succ]
    · rw [if_neg hk1]
      by_cases hk2 : k = ((h : ℤ) - 1).toNat
      · rw [if_pos hk2, TapsAux.tapRaw_centre h d k (by omega)]
      · rw [if_neg hk2]
        exact hg k (by omega)
  clear hmid
  -- second loop (dsp.py:1339-1340): the whole array is scaled, so tap `k` runs through the model's own loop
  generalize hst2 : forRange (Int.toNat ((h : ℤ) - 2)) _ _ = st2
  have h4 : st2.n = 2 * h ∧ ∀ k < 2 * h, st2.get k = forRange (Int.toNat ((h : ℤ) - 2)) (Model.tapRaw h d k)
      (fun i acc => acc * (RealLike.one - d / RealLike.ofNat (i + 2) * (d / RealLike.ofNat (i + 2)))) := by
    rw [← hst2]
    refine forRange_inv (fun i (s : Arr ℝ) => s.n = 2 * h ∧ ∀ k < 2 * h, s.get k = forRange i (Model.tapRaw h d k) _) _ _ _
      ⟨h3.1, fun k hk => by rw [forRange_zero, h3.2 k hk]⟩ (fun i s _ ⟨hsn, hsg⟩ => ⟨hsn, fun k hk => ?_⟩)
    rw [forRange_succ, ← hsg k hk]
    simp only [Arr.scale, RL.ofNat_eq, RL.one_eq, RL.ofInt_eq]
    push_cast
    rw [add_comm (2 : ℝ)]
  refine ⟨h4.1, fun k hk => ?_⟩
  rw [Model.tap, if_neg (by omega)]
  simp only [Arr.scale, h4.2 k hk, show Int.toNat ((h : ℤ) - 2) = h - 2 by omega, RL.ofInt_eq, RL.ofNat_eq, RL.one_eq,
    Nat.cast_one, Int.cast_natCast, mul_comm]

/-- the translated taps are exactly the Lagrange basis weights on the nodes `-(h-1), …, h` -/
theorem gen_taps_eq_lagrange (h : ℕ) (hh : 1 ≤ h) (d : ℝ) (hd0 : 0 ≤ d) (hd1 : d < 1) (k : ℕ) (hk : k < 2 * h) :
    (Gen.lagrange_taps d (h : ℤ)).get k
      = ∏ m ∈ (Finset.range (2 * h)).erase k, (d - tapNode h m) / (tapNode h k - tapNode h m) := by
  rw [(gen_taps_eq_model h hh d).2 k hk]
  exact tap_eq_lagrange h hh d hd0 hd1 k hk

theorem gen_taps_sum_one (h : ℕ) (hh : 1 ≤ h) (d : ℝ) (hd0 : 0 ≤ d) (hd1 : d < 1) :
    ∑ k ∈ Finset.range (2 * h), (Gen.lagrange_taps d (h : ℤ)).get k = 1 := by
  rw [← taps_sum_one h hh d hd0 hd1]
  apply Finset.sum_congr rfl
  intro k hk
  exact (gen_taps_eq_model h hh d).2 k (Finset.mem_range.mp hk)

theorem gen_taps_reproduce_poly (h : ℕ) (hh : 1 ≤ h) (d : ℝ) (hd0 : 0 ≤ d) (hd1 : d < 1)
    (p : Polynomial ℝ) (hp : p.natDegree < 2 * h) :
    ∑ k ∈ Finset.range (2 * h), (Gen.lagrange_taps d (h : ℤ)).get k * p.eval (tapNode h k) = p.eval d := by
  rw [← taps_reproduce_poly h hh d hd0 hd1 p hp]
  apply Finset.sum_congr rfl
  intro k hk
  rw [(gen_taps_eq_model h hh d).2 k (Finset.mem_range.mp hk)]

/-- the translated taps at zero shift are the unit impulse at the centre tap -/
theorem gen_tap_at_zero (h : ℕ) (hh : 1 ≤ h) (k : ℕ) (hk : k < 2 * h) :
    (Gen.lagrange_taps (0 : ℝ) (h : ℤ)).get k = if k + 1 = h then 1 else 0 := by
  rw [(gen_taps_eq_model h hh 0).2 k hk]
  exact tap_at_zero h hh k hk

#print axioms gen_taps_eq_model
#print axioms gen_taps_eq_lagrange
#print axioms gen_taps_sum_one
#print axioms gen_taps_reproduce_poly
#print axioms gen_tap_at_zero
