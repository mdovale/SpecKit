/-
  The translated region `Rms` (Gen/Rms.lean, regenerated by vk/regions/rms.py from speckit/dsp.py `crop_data`,
  `integral_rms`, `polynomial_detrend` and speckit/analysis.py `SpectrumResult.get_rms`) computes the hand model of Model/Dsp.lean,
  so the property theorems of Lemmas/Rms.lean hold of the code as translated.  Arrays are `Arr ℝ`; `toPts f y` is the list of points
  `(f[i], y[i])`; `none` = the Python call raises; `Np.Rms.XR ℝ` = a float that may be ±inf.  The equalities carry hypotheses only
  where the real code raises, and a companion theorem shows that it does; the RMS properties assume a strictly increasing grid.

  Orders ≥ 1 of `polynomial_detrend` are proved under a stated contract of `np.polyfit` (`RmsGen.PolyfitLS`, shown consistent by
  `RmsGen.lsPolyfit_contract`); that NumPy's polyfit (LAPACK lstsq) satisfies it is trusted.  These theorems are one fact: the output
  is determined by "what was removed is a polynomial of degree ≤ d, what is left is orthogonal to those" (`RmsGen.IsDetrend.unique`).
-/
import SpecKitV.RealInst
import SpecKitV.Gen.Rms
import SpecKitV.Model.Dsp
import SpecKitV.Lemmas.Rms
import SpecKitV.Lemmas.Detrend
import SpecKitV.Lemmas.DetrendComplete
import Mathlib.LinearAlgebra.Lagrange
import Mathlib.Analysis.InnerProductSpace.PiL2

set_option linter.unusedSimpArgs false   -- simp sets deliberately list both spellings (`<`/`>`, `a ∧ b`/`b ∧ a`) of what the source may say

namespace RmsGen
open Np.Rms

@[simp] theorem lt_fin (a b : ℝ) : XR.lt (XR.fin a) (XR.fin b) = decide (a < b) := rfl
@[simp] theorem le_fin (a b : ℝ) : XR.le (XR.fin a) (XR.fin b) = decide (a ≤ b) := rfl
@[simp] theorem gt_fin (a b : ℝ) : XR.gt (XR.fin a) (XR.fin b) = decide (b < a) := rfl
@[simp] theorem ge_fin (a b : ℝ) : XR.ge (XR.fin a) (XR.fin b) = decide (b ≤ a) := rfl
@[simp] theorem pyMax_fin (a b : ℝ) : XR.pyMax (XR.fin a) (XR.fin b) = XR.fin (max a b) := by
  simp only [XR.pyMax, gt_fin, decide_eq_true_eq, max_def_lt, apply_ite XR.fin]
-- `min b a`: the order of `RmsAux.integralRms_some_goR`
@[simp] theorem pyMin_fin (a b : ℝ) : XR.pyMin (XR.fin a) (XR.fin b) = XR.fin (min b a) := by
  simp only [XR.pyMin, lt_fin, decide_eq_true_eq, min_def_lt, apply_ite XR.fin]
@[simp] theorem pyMax_ninf (a : ℝ) : XR.pyMax (XR.fin a) (XR.ninf) = XR.fin a := rfl
@[simp] theorem pyMin_pinf (a : ℝ) : XR.pyMin (XR.fin a) (XR.pinf) = XR.fin a := rfl
@[simp] theorem neg_pinf : XR.neg (XR.pinf : XR ℝ) = XR.ninf := rfl
@[simp] theorem isFinite_fin (a : ℝ) : XR.isFinite (XR.fin a) = true := rfl

/-- the points `(f[i], y[i])` of two arrays -/
def toPts (f y : Arr ℝ) : List (ℝ × ℝ) := (List.range f.n).map (fun i => (f.get i, y.get i))

/-- boolean-mask selection with a mask that tests band membership of `f[i]` keeps exactly the points inside the band -/
theorem compress_toPts (f y : Arr ℝ) (h : f.n = y.n) (lo hi : ℝ) (mask : Arr Bool)
    (hm : ∀ i, mask.get i = true ↔ (lo ≤ f.get i ∧ f.get i ≤ hi)) :
    (compress mask f, compress mask y)
      = (ofList (((toPts f y).filter (RmsAux.band lo hi)).map Prod.fst), ofList (((toPts f y).filter (RmsAux.band lo hi)).map Prod.snd)) := by
  have : (List.range f.n).filter mask.get = (List.range f.n).filter (RmsAux.band lo hi ∘ fun i => (f.get i, y.get i)) := by
    apply List.filter_congr
    intro i _
    rw [Bool.eq_iff_iff, hm i]
    simp [RmsAux.band_iff]
  unfold compress toPts
  rw [← h, List.filter_map, List.map_map, List.map_map, this]
  rfl

/-- `crop_data` on finite bounds, in the branch `integral_rms` reaches (equal lengths, non-empty, `lo ≤ hi`) -/
theorem crop_data_fin (f y : Arr ℝ) (h : f.n = y.n) (hn : f.n ≠ 0) (lo hi : ℝ) (hlh : lo ≤ hi) :
    Gen.crop_data f y (XR.fin lo) (XR.fin hi)
      = some (ofList (((toPts f y).filter (RmsAux.band lo hi)).map Prod.fst), ofList (((toPts f y).filter (RmsAux.band lo hi)).map Prod.snd)) := by
  unfold Gen.crop_data
  have h1 : decide (f.n ≠ y.n) = false := decide_eq_false (not_not.mpr h)
  have h2 : decide (f.n = 0) = false := decide_eq_false hn
  have h3 : XR.gt (XR.fin lo) (XR.fin hi) = false := by simpa using hlh
  simp only [h1, h2, h3, Bool.false_eq_true, if_false, Arr.memo_eq]
  exact congrArg some (compress_toPts f y h lo hi _
    (by intro i; simp only [Bool.and_eq_true, ge_fin, le_fin, decide_eq_true_eq, and_comm]))

theorem toPts_fst (f y : Arr ℝ) : (toPts f y).map Prod.fst = toList f := by
  simp [toPts, toList, List.map_map, Function.comp_def]

theorem toList_length {β : Type} (a : Arr β) : (toList a).length = a.n := by simp [toList]

theorem toList_ne_nil {β : Type} (a : Arr β) (hn : a.n ≠ 0) : toList a ≠ [] := by
  rwa [Ne, ← List.length_eq_zero_iff, toList_length]

theorem toList_ofList (l : List ℝ) : toList (ofList l) = l := List.range_map_getD l _

theorem ofList_get (l : List ℝ) (i : ℕ) : (ofList l).get i = l.getD i 0 := by
  simp only [ofList, RL.ofNat_eq, Nat.cast_zero]

theorem toPts_ofList (pts : List (ℝ × ℝ)) : toPts (ofList (pts.map Prod.fst)) (ofList (pts.map Prod.snd)) = pts := by
  refine Eq.trans ?_ (List.range_map_getD pts (RealLike.ofNat 0, RealLike.ofNat 0))
  unfold toPts ofList
  rw [List.length_map]
  refine List.map_congr_left (fun i _ => ?_)
  simp only [List.getD_eq_getElem?_getD, List.getElem?_map]
  cases pts[i]? <;> rfl

theorem toPts_ne_nil (f y : Arr ℝ) (hn : f.n ≠ 0) : toPts f y ≠ [] := by
  rwa [Ne, ← List.length_eq_zero_iff, toPts, List.length_map, List.length_range]

theorem npMin_eq {f y : Arr ℝ} : npMin f = RmsAux.fmn (toPts f y) := by
  unfold npMin RmsAux.fmn
  rw [toPts_fst]
  cases toList f <;> rfl

theorem npMax_eq {f y : Arr ℝ} : npMax f = RmsAux.fmx (toPts f y) := by
  unfold npMax RmsAux.fmx
  rw [toPts_fst]
  cases toList f <;> rfl

/-- the left-to-right panel sum of `cumulative_trapezoid` over all points of a list is the model's trapezoid sum -/
theorem panel_sum (g : ℝ → ℝ) : ∀ (l : List (ℝ × ℝ)),
    ∑ i ∈ Finset.range (l.length - 1),
        ((l.map Prod.fst).getD (i + 1) 0 - (l.map Prod.fst).getD i 0)
          * (g ((l.map Prod.snd).getD (i + 1) 0) + g ((l.map Prod.snd).getD i 0)) / 2
      = Model.trapz (l.map (fun p => (p.1, g p.2)))
  | [] => RmsAux.trapz_nil.symm
  | [_] => (RmsAux.trapz_single _).symm
  | p :: q :: r => by
    have ih := panel_sum g (q :: r)
    simp only [List.length_cons, Nat.add_sub_cancel] at ih ⊢
    rw [Finset.sum_range_succ']
    simp only [List.map_cons, List.getD_cons_succ, List.getD_cons_zero] at ih ⊢
    rw [ih, RmsAux.trapz_cons_cons]
    ring

/-- `cumulative_trapezoid(Y, X, initial=0)[-1]` for arrays holding `g(y_i)` and `f_i` of a non-empty list of points -/
theorem cumtrapz_last (g : ℝ → ℝ) (l : List (ℝ × ℝ)) (Y X : Arr ℝ) (hYn : Y.n = l.length)
    (hY : ∀ i, Y.get i = g ((l.map Prod.snd).getD i 0)) (hX : ∀ i, X.get i = (l.map Prod.fst).getD i 0) :
    (cumtrapz Y X (RealLike.ofNat 0)).get (Np.pyIndex (cumtrapz Y X (RealLike.ofNat 0)).n (-1))
      = Model.trapz (l.map (fun p => (p.1, g p.2))) := by
  unfold cumtrapz
  simp only [Np.pyIndex_neg_one, hYn, hX, hY, sumRange_eq_sum, RL.ofNat_eq, Nat.cast_ofNat, Nat.cast_zero]
  rw [← panel_sum]
  split_ifs with hk
  · rw [hk, Finset.sum_range_zero]
  · rfl

/-- embedding of a finite band into the (possibly infinite) band type of the translated code -/
def finBand (b : ℝ × ℝ) : XR ℝ × XR ℝ := (XR.fin b.1, XR.fin b.2)

/-- what `integral_rms` computes: on a non-empty grid with as many amplitudes as frequencies, for a band that is not inverted and
    whose clipping to `[min f, max f]` is the finite range `[lo, hi]`, the `go` of the hand model on `[lo, hi]` -/
theorem integral_rms_clipped (f y : Arr ℝ) (h : f.n = y.n) (hn : f.n ≠ 0) {u v : XR ℝ} (hv : XR.gt u v = false) {lo hi : ℝ}
    (hlo : XR.pyMax (XR.fin (npMin f)) u = XR.fin lo) (hhi : XR.pyMin (XR.fin (npMax f)) v = XR.fin hi) :
    Gen.integral_rms f y (some (u, v)) = some (RmsAux.goR (toPts f y) lo hi) := by
  unfold Gen.integral_rms RmsAux.goR
  have h1 : decide (f.n ≠ y.n) = false := decide_eq_false (not_not.mpr h)
  have h2 : decide (f.n = 0) = false := decide_eq_false hn
  simp only [h1, h2, hv, hlo, hhi, Bool.false_eq_true, if_false, ge_fin, ne_eq, not_true_eq_false, decide_false]
  by_cases hlh : hi ≤ lo
  · simp [hlh]
  · simp only [hlh, decide_false, Bool.false_eq_true, if_false]
    rw [crop_data_fin f y h hn lo hi (le_of_lt (not_le.mp hlh))]
    simp only [Arr.memo_eq]
    rcases (toPts f y).filter (RmsAux.band lo hi) with _ | ⟨p, K⟩
    · simp [ofList]
    · simp only [show ¬ (ofList ((p :: K).map Prod.fst)).n = 0 from Nat.succ_ne_zero _, List.isEmpty_cons, decide_false,
        Bool.false_eq_true, if_false]
      rw [cumtrapz_last (fun v => v * v) (p :: K) _ _ (List.length_map _) (fun i => by simp only [ofList_get]) (ofList_get _)]
      rfl

/-- `integral_rms` sees its band only through the inverted-band test and the band clipped to `[min f, max f]` -/
theorem integral_rms_congr (f y : Arr ℝ) {u v u' v' : XR ℝ} (hgt : XR.gt u v = XR.gt u' v')
    (hlo : XR.pyMax (XR.fin (npMin f)) u = XR.pyMax (XR.fin (npMin f)) u')
    (hhi : XR.pyMin (XR.fin (npMax f)) v = XR.pyMin (XR.fin (npMax f)) v') :
    Gen.integral_rms f y (some (u, v)) = Gen.integral_rms f y (some (u', v')) := by
  unfold Gen.integral_rms
  cases hg : XR.gt u' v'
  · simp only [hgt.trans hg, hg, hlo, hhi, ne_eq, not_true_eq_false, decide_false, Bool.false_eq_true, if_false]
  · simp only [hgt.trans hg, hg, if_true]

end RmsGen

open Np.Rms RmsGen

/-- an inverted band raises -/
theorem gen_integral_rms_inverted (f y : Arr ℝ) (b0 b1 : ℝ) (hb : b1 < b0) :
    Gen.integral_rms f y (some (XR.fin b0, XR.fin b1)) = none := by
  unfold Gen.integral_rms
  simp [hb]

/-- infinite band edges (accepted by `integral_rms`, rejected by `get_rms`): `(-inf, inf)` is `None` -/
theorem gen_integral_rms_inf_inf (f y : Arr ℝ) :
    Gen.integral_rms f y (some (XR.ninf, XR.pinf)) = Gen.integral_rms f y none := by
  unfold Gen.integral_rms
  simp [XR.gt, XR.lt]

/-- **translated `integral_rms` = `Model.integralRms`**, every grid (sorted or not, with duplicates), every finite band and
    `pass_band=None`.  Hypotheses = exactly the inputs the real code rejects with `ValueError` (see `gen_integral_rms_rejects`):
    `h` different lengths, `hn` empty input. -/
theorem gen_integral_rms_eq_model (f y : Arr ℝ) (h : f.n = y.n) (hn : f.n ≠ 0) (band : Option (ℝ × ℝ)) :
    Gen.integral_rms f y (band.map finBand) = Model.integralRms (toPts f y) band := by
  match band with
  | some (b0, b1) =>
    by_cases hb : b1 < b0
    · rw [RmsAux.integralRms_inverted hb]
      exact gen_integral_rms_inverted f y b0 b1 hb
    · rw [RmsAux.integralRms_some_goR (not_lt.mp hb), ← npMin_eq, ← npMax_eq]
      exact integral_rms_clipped f y h hn (by simpa using hb) (pyMax_fin _ _) (pyMin_fin _ _)
  | none =>
    rw [Option.map_none, ← gen_integral_rms_inf_inf, RmsAux.integralRms_none_goR, ← npMin_eq, ← npMax_eq]
    exact integral_rms_clipped f y h hn rfl rfl rfl

example : ∃ (f y : Arr ℝ), f.n = y.n ∧ f.n ≠ 0 ∧ toPts f y = [(3, 1), (1, 2), (2, 5)] :=
  ⟨ofList [3, 1, 2], ofList [1, 2, 5], rfl, Nat.succ_ne_zero _, toPts_ofList [(3, 1), (1, 2), (2, 5)]⟩

/-- the inputs excluded above make the translated function raise (`none`), whatever the band -/
theorem gen_integral_rms_rejects (f y : Arr ℝ) (pb : Option (XR ℝ × XR ℝ)) (hbad : f.n ≠ y.n ∨ f.n = 0) :
    Gen.integral_rms f y pb = none := by
  unfold Gen.integral_rms
  by_cases h : f.n = y.n
  · have hn : f.n = 0 := by tauto
    simp [h, hn ▸ h.symm]
  · simp [h]

/-- the same statement for arrays given by the list of their points -/
theorem gen_integral_rms_eq_model_list (pts : List (ℝ × ℝ)) (hne : pts ≠ []) (band : Option (ℝ × ℝ)) :
    Gen.integral_rms (ofList (pts.map Prod.fst)) (ofList (pts.map Prod.snd)) (band.map finBand) = Model.integralRms pts band := by
  have := gen_integral_rms_eq_model (ofList (pts.map Prod.fst)) (ofList (pts.map Prod.snd))
    ((List.length_map _).trans (List.length_map _).symm) (fun h0 => hne (List.map_eq_nil_iff.mp (List.length_eq_zero_iff.mp h0))) band
  rwa [toPts_ofList] at this

/-- `(-inf, b)` is the finite band `(min (min f) b, b)` -/
theorem gen_integral_rms_ninf (f y : Arr ℝ) (b : ℝ) :
    Gen.integral_rms f y (some (XR.ninf, XR.fin b)) = Gen.integral_rms f y (some (XR.fin (min (npMin f) b), XR.fin b)) :=
  integral_rms_congr f y (decide_eq_false (not_lt.mpr (min_le_right _ _))).symm
    (by rw [pyMax_ninf, pyMax_fin, max_eq_left (min_le_left _ _)]) rfl

/-- `(a, inf)` is the finite band `(a, max (max f) a)` -/
theorem gen_integral_rms_pinf (f y : Arr ℝ) (a : ℝ) :
    Gen.integral_rms f y (some (XR.fin a, XR.pinf)) = Gen.integral_rms f y (some (XR.fin a, XR.fin (max (npMax f) a))) :=
  integral_rms_congr f y (decide_eq_false (not_lt.mpr (le_max_right _ _))).symm rfl
    (by rw [pyMin_pinf, pyMin_fin, min_eq_right (le_max_left _ _)])

/-- **translated `crop_data`** on finite bounds: it raises iff the lengths differ or `xmin > xmax`, otherwise it returns the points
    with `xmin ≤ x ≤ xmax` (both ends inclusive) in their original order — the filter `Model.integralRms` applies.  No hypotheses. -/
theorem gen_crop_data_eq_model (x y : Arr ℝ) (a b : ℝ) :
    (Gen.crop_data x y (XR.fin a) (XR.fin b)).map (fun r => (toList r.1, toList r.2))
      = if x.n ≠ y.n ∨ b < a then none
        else some (((toPts x y).filter (fun p => decide (a ≤ p.1) && decide (p.1 ≤ b))).map Prod.fst,
                   ((toPts x y).filter (fun p => decide (a ≤ p.1) && decide (p.1 ≤ b))).map Prod.snd) := by
  by_cases h : x.n = y.n
  · by_cases hab : b < a
    · unfold Gen.crop_data; simp [h, hab]
    · by_cases hn : x.n = 0
      · have hy : y.n = 0 := h ▸ hn
        unfold Gen.crop_data
        simp [h, hab, hy, toList, toPts]
      · rw [crop_data_fin x y h hn a b (not_lt.mp hab)]
        simp only [Option.map_some, toList_ofList, h, hab, ne_eq, not_true_eq_false, or_self, if_false]
        rfl
  · unfold Gen.crop_data; simp [h]

/-- **`get_rms(band)` = `integral_rms(self.f, self.asd, sorted band)`** for an auto spectrum and a finite band (either order). No hypotheses. -/
theorem gen_get_rms_eq_integral_rms (f asd : Arr ℝ) (a b : ℝ) :
    Gen.get_rms false f asd (some (XR.fin a, XR.fin b)) = Gen.integral_rms f asd (some (XR.fin (min a b), XR.fin (max a b))) := by
  unfold Gen.get_rms
  -- the swap sorts the band
  have e : (if b < a then some (XR.fin b, XR.fin a) else some (XR.fin a, XR.fin b))
      = some ((XR.fin (min a b), XR.fin (max a b)) : XR ℝ × XR ℝ) := by
    by_cases hba : b < a
    · rw [if_pos hba, min_eq_right hba.le, max_eq_left hba.le]
    · rw [if_neg hba, min_eq_left (not_lt.mp hba), max_eq_right (not_lt.mp hba)]
  simp only [Bool.false_eq_true, if_false, isFinite_fin, Bool.and_self, Bool.not_true, lt_fin, gt_fin, decide_eq_true_eq, e]
  cases Gen.integral_rms f asd (some (XR.fin (min a b), XR.fin (max a b))) <;> rfl

/-- `get_rms(None)` = `integral_rms(self.f, self.asd, None)` -/
theorem gen_get_rms_none (f asd : Arr ℝ) : Gen.get_rms false f asd none = Gen.integral_rms f asd none := by
  unfold Gen.get_rms
  simp only [Bool.false_eq_true, if_false]
  cases Gen.integral_rms f asd none <;> rfl

/-- a cross spectrum has no RMS: `get_rms` raises -/
theorem gen_get_rms_csd (f asd : Arr ℝ) (pb : Option (XR ℝ × XR ℝ)) : Gen.get_rms true f asd pb = none := by
  unfold Gen.get_rms
  simp

/-- a band with an infinite edge is rejected by `get_rms` -/
theorem gen_get_rms_nonfinite (f asd : Arr ℝ) (u v : XR ℝ) (hbad : u.isFinite = false ∨ v.isFinite = false) :
    Gen.get_rms false f asd (some (u, v)) = none := by
  unfold Gen.get_rms
  rcases hbad with h | h <;> simp [h]

/-- **translated `get_rms` = `Model.integralRms` on the sorted band** (hypotheses: the inputs `integral_rms` rejects) -/
theorem gen_get_rms_eq_model (f asd : Arr ℝ) (h : f.n = asd.n) (hn : f.n ≠ 0) (band : Option (ℝ × ℝ)) :
    Gen.get_rms false f asd (band.map finBand)
      = Model.integralRms (toPts f asd) (band.map (fun b => (min b.1 b.2, max b.1 b.2))) := by
  cases band with
  | none => rw [Option.map_none, gen_get_rms_none]; exact gen_integral_rms_eq_model f asd h hn none
  | some b =>
    rw [Option.map_some, finBand, gen_get_rms_eq_integral_rms]
    exact gen_integral_rms_eq_model f asd h hn (some (min b.1 b.2, max b.1 b.2))

/-- squared band RMS of the translated function (0 where it raises) -/
noncomputable def grms2 (f y : Arr ℝ) (a b : ℝ) : ℝ := ((Gen.integral_rms f y (some (XR.fin a, XR.fin b))).getD 0) ^ 2

theorem grms2_eq_rms2 (f y : Arr ℝ) (h : f.n = y.n) (hn : f.n ≠ 0) (a b : ℝ) : grms2 f y a b = rms2 (toPts f y) a b := by
  unfold grms2 rms2
  rw [← gen_integral_rms_eq_model f y h hn (some (a, b))]
  rfl

def SortedGrid (f y : Arr ℝ) : Prop := ((toPts f y).map Prod.fst).Pairwise (· < ·)

/-- C19-b for the translated code: the squared RMS is the trapezoid sum of `asd²` over the grid points inside the band -/
theorem gen_integralRms_spec (f y : Arr ℝ) (h : f.n = y.n) (hn : f.n ≠ 0) (hs : SortedGrid f y) (a b : ℝ) (hab : a ≤ b) :
    grms2 f y a b
      = Model.trapz (((toPts f y).filter (fun p => decide (a ≤ p.1) && decide (p.1 ≤ b))).map (fun p => (p.1, p.2 * p.2))) := by
  rw [grms2_eq_rms2 f y h hn]
  exact integralRms_spec _ (toPts_ne_nil f y hn) hs a b hab

/-- C19-b, `pass_band=None`: the whole grid -/
theorem gen_integralRms_none (f y : Arr ℝ) (h : f.n = y.n) (hn : f.n ≠ 0) (hs : SortedGrid f y) :
    ((Gen.integral_rms f y none).getD 0) ^ 2 = Model.trapz ((toPts f y).map (fun p => (p.1, p.2 * p.2))) := by
  rw [show Gen.integral_rms f y none = _ from gen_integral_rms_eq_model f y h hn none]
  exact integralRms_none _ (toPts_ne_nil f y hn) hs

/-- C19-c for the translated code: monotone under band nesting -/
theorem gen_rms_monotone (f y : Arr ℝ) (h : f.n = y.n) (hn : f.n ≠ 0) (hs : SortedGrid f y)
    (a b a' b' : ℝ) (hab : a ≤ b) (h1 : a' ≤ a) (h2 : b ≤ b') : grms2 f y a b ≤ grms2 f y a' b' := by
  rw [grms2_eq_rms2 f y h hn, grms2_eq_rms2 f y h hn]
  exact rms_monotone _ (toPts_ne_nil f y hn) hs a b a' b' hab h1 h2

/-- C19-d for the translated code: power adds exactly when the split point is a grid frequency -/
theorem gen_rms_additive_at_grid (f y : Arr ℝ) (h : f.n = y.n) (hn : f.n ≠ 0) (hs : SortedGrid f y)
    (a m b : ℝ) (ham : a ≤ m) (hmb : m ≤ b) (hm : m ∈ (toPts f y).map Prod.fst) :
    grms2 f y a b = grms2 f y a m + grms2 f y m b := by
  rw [grms2_eq_rms2 f y h hn, grms2_eq_rms2 f y h hn, grms2_eq_rms2 f y h hn]
  exact rms_additive_at_grid _ (toPts_ne_nil f y hn) hs a m b ham hmb hm

/-- C19-d for the translated code: super-additive for any split point -/
theorem gen_rms_superadditive (f y : Arr ℝ) (h : f.n = y.n) (hn : f.n ≠ 0) (hs : SortedGrid f y)
    (a m b : ℝ) (ham : a ≤ m) (hmb : m ≤ b) : grms2 f y a m + grms2 f y m b ≤ grms2 f y a b := by
  rw [grms2_eq_rms2 f y h hn, grms2_eq_rms2 f y h hn, grms2_eq_rms2 f y h hn]
  exact rms_superadditive _ (toPts_ne_nil f y hn) hs a m b ham hmb

/-- the hypotheses of the transfer theorems are satisfiable: grid 1, 2, 4 with amplitudes 1, 3, 2, split at the grid point 2 -/
example : ∃ (f y : Arr ℝ) (a m b : ℝ), f.n = y.n ∧ f.n ≠ 0 ∧ SortedGrid f y ∧ a ≤ m ∧ m ≤ b ∧ m ∈ (toPts f y).map Prod.fst := by
  have e : toPts (ofList [1, 2, 4]) (ofList [1, 3, 2]) = [(1, 1), (2, 3), (4, 2)] := toPts_ofList [(1, 1), (2, 3), (4, 2)]
  refine ⟨ofList [1, 2, 4], ofList [1, 3, 2], 1, 2, 4, rfl, Nat.succ_ne_zero _, ?_, by norm_num, by norm_num, ?_⟩
  · rw [SortedGrid, e]
    norm_num
  · rw [e]
    exact List.mem_cons_of_mem _ List.mem_cons_self

/-- a single grid point gives 0 whatever the band (the `>=` of the empty-range test) -/
theorem gen_integral_rms_one_point (f y : Arr ℝ) (h : f.n = y.n) (h1 : f.n = 1) (a b : ℝ) (hab : a ≤ b) :
    Gen.integral_rms f y (some (XR.fin a, XR.fin b)) = some 0 := by
  rw [integral_rms_clipped f y h (by omega) (by simpa using hab) (pyMax_fin _ a) (pyMin_fin _ b), RmsAux.goR, if_pos]
  -- `min f = max f = f[0]`
  have hp : toList f = [f.get 0] := by simp [toList, h1, List.range_succ]
  have : npMax f = npMin f := by simp only [npMax, npMin, hp, List.foldl_nil]
  exact (min_le_right _ _).trans (this.le.trans (le_max_left _ _))

namespace RmsGen
open Finset

theorem sumRange_eq_list_sum (n : ℕ) (g : ℕ → ℝ) : sumRange n g = ((List.range n).map g).sum := by
  rw [sumRange_eq_sum]
  induction n with
  | zero => simp
  | succ k ih => rw [Finset.sum_range_succ, ih, List.range_succ, List.map_append, List.sum_append]; simp

/-- `np.arange(n)` -/
def arange (n : ℕ) : Arr Int := ⟨n, fun i => (i : Int)⟩

/-- the residual `x - polyval(c, t)` on `t = 0 … len(x)-1` for a coefficient vector `c` -/
noncomputable def residC (c : Arr ℝ) (x : Arr ℝ) : ℕ → ℝ :=
  fun i => x.get i - (polyval c (arange x.n)).get i

/-- the type of the contract parameter that stands for `np.polyfit(t, x, deg=…)` (`none` = it raises) -/
abbrev Polyfit := Arr Int → Arr ℝ → Int → Option (Arr ℝ)

/-- Horner's rule evaluates the polynomial with coefficients `c` (highest power first) -/
theorem horner_eq (c : ℕ → ℝ) (τ : ℝ) : ∀ n : ℕ,
    forRange n (0 : ℝ) (fun k y => y * τ + c k) = ∑ j ∈ range n, c j * τ ^ (n - 1 - j)
  | 0 => forRange_zero _ _
  | n + 1 => by
    rw [forRange_succ, horner_eq c τ n, sum_range_succ, sum_mul, Nat.add_sub_cancel, Nat.sub_self, pow_zero, mul_one]
    refine congrArg (· + c n) (sum_congr rfl fun j hj => ?_)
    rw [mul_assoc, ← pow_succ, show n - 1 - j + 1 = n - j by have := mem_range.mp hj; omega]

/-- `np.polyval(c, t)[i] = Σ_k c[k] · t[i]^(len(c)-1-k)` -/
theorem polyval_get (c : Arr ℝ) (t : Arr Int) (i : ℕ) :
    (polyval c t).get i = ∑ k ∈ range c.n, c.get k * ((t.get i : ℤ) : ℝ) ^ (c.n - 1 - k) := by
  unfold polyval
  rw [Arr.memo_eq]
  simp only [RL.ofNat_eq, RL.ofInt_eq, Nat.cast_zero]
  exact horner_eq c.get _ c.n

/-- `r` is `x` with its least-squares polynomial of degree ≤ `d` removed, on the grid `0 … n-1`: what was removed is such a
    polynomial, and `r` is orthogonal to `1, t, …, t^d`.  The two properties determine `r` on the grid (`IsDetrend.unique`); every
    order ≥ 1 theorem about `polynomial_detrend` below is this uniqueness applied to a second candidate. -/
def IsDetrend (n d : ℕ) (x r : ℕ → ℝ) : Prop :=
  (∃ b : ℕ → ℝ, ∀ i < n, x i - r i = ∑ k ∈ range (d + 1), b k * (i : ℝ) ^ k) ∧
    ∀ k ≤ d, ∑ i ∈ range n, r i * (i : ℝ) ^ k = 0

/-- the difference `v` of two candidates is a polynomial of degree ≤ `d` on the grid and orthogonal to all of them, hence to itself -/
theorem IsDetrend.unique {n d : ℕ} {x r r' : ℕ → ℝ} (h : IsDetrend n d x r) (h' : IsDetrend n d x r') : ∀ i < n, r i = r' i := by
  obtain ⟨⟨b, hb⟩, ho⟩ := h
  obtain ⟨⟨b', hb'⟩, ho'⟩ := h'
  set v : ℕ → ℝ := fun i => r i - r' i with hv
  have hpoly : ∀ i < n, v i = ∑ k ∈ range (d + 1), (b' k - b k) * (i : ℝ) ^ k := by
    intro i hi
    simp only [hv, sub_mul, sum_sub_distrib]
    linear_combination hb' i hi - hb i hi
  have hsq : ∑ i ∈ range n, v i * v i = 0 := by
    have h1 : ∑ i ∈ range n, v i * v i = ∑ i ∈ range n, ∑ k ∈ range (d + 1), (b' k - b k) * (v i * (i : ℝ) ^ k) := by
      refine sum_congr rfl (fun i hi => ?_)
      rw [show v i * v i = (∑ k ∈ range (d + 1), (b' k - b k) * (i : ℝ) ^ k) * v i by rw [← hpoly i (mem_range.mp hi)], sum_mul]
      exact sum_congr rfl (fun k _ => by ring)
    rw [h1, sum_comm]
    refine sum_eq_zero (fun k hk => ?_)
    have hk' := Nat.lt_succ_iff.mp (mem_range.mp hk)
    simp only [hv, sub_mul, sum_sub_distrib, ← mul_sum, ho k hk', ho' k hk', sub_zero, mul_zero]
  intro i hi
  have := (sum_eq_zero_iff_of_nonneg (fun j _ => mul_self_nonneg (v j))).mp hsq i (mem_range.mpr hi)
  exact sub_eq_zero.mp (mul_self_eq_zero.mp this)

/-- **CONTRACT of `np.polyfit`** on the abscissae `t = 0 … n-1` for a degree `deg < n` (the only calls the translated code makes,
    thanks to the short-series rule): it does not raise, returns `deg + 1` coefficients, and the fitted polynomial satisfies the
    normal equations of the least-squares problem, i.e. the residual is orthogonal to `1, t, …, t^deg`. -/
def PolyfitLS (polyfit : Polyfit) : Prop :=
  ∀ (x : Arr ℝ) (deg : ℕ), deg < x.n →
    ∃ c : Arr ℝ, polyfit (arange x.n) x (deg : ℤ) = some c ∧ c.n = deg + 1 ∧
      ∀ k ≤ deg, ∑ i ∈ range x.n, residC c x i * (i : ℝ) ^ k = 0

/-- with `deg + 1` coefficients the removed trend is a polynomial of degree ≤ deg (coefficients low power first) -/
theorem trend_poly_of_len (c x : Arr ℝ) (deg : ℕ) (hlen : c.n = deg + 1) (i : ℕ) :
    x.get i - residC c x i = ∑ k ∈ range (deg + 1), c.get (deg - k) * (i : ℝ) ^ k := by
  unfold residC
  rw [sub_sub_cancel, polyval_get, hlen]
  simp only [arange, Int.cast_natCast, Nat.add_sub_cancel]
  rw [← sum_range_reflect]
  refine sum_congr rfl (fun k hk => ?_)
  rw [Nat.add_sub_cancel, Nat.sub_sub_self (mem_range_succ_iff.mp hk)]

/-- the normal equations of a least-squares polynomial fit on the grid `0 … n-1` always have a solution (orthogonal projection
    onto the span of the monomial vectors in `EuclideanSpace ℝ (Fin n)`) -/
theorem ls_exists (n d : ℕ) (x : ℕ → ℝ) :
    ∃ c : ℕ → ℝ, ∀ m ≤ d, ∑ i ∈ range n, (x i - ∑ k ∈ range (d + 1), c k * (i : ℝ) ^ k) * (i : ℝ) ^ m = 0 := by
  let v : Fin (d + 1) → EuclideanSpace ℝ (Fin n) := fun k => WithLp.toLp 2 (fun i : Fin n => ((i : ℕ) : ℝ) ^ (k : ℕ))
  let K : Submodule ℝ (EuclideanSpace ℝ (Fin n)) := Submodule.span ℝ (Set.range v)
  have : CompleteSpace K := FiniteDimensional.complete ℝ K
  let xe : EuclideanSpace ℝ (Fin n) := WithLp.toLp 2 (fun i : Fin n => x i)
  obtain ⟨w, hw, horth⟩ := Submodule.HasOrthogonalProjection.exists_orthogonal (K := K) xe
  obtain ⟨c, rfl⟩ := (Submodule.mem_span_range_iff_exists_fun ℝ).mp hw
  let c' : ℕ → ℝ := fun k => if h : k < d + 1 then c ⟨k, h⟩ else 0
  refine ⟨c', fun m hm => ?_⟩
  have horth := horth (v ⟨m, Nat.lt_succ_of_le hm⟩) (Submodule.subset_span ⟨_, rfl⟩)
  rw [PiLp.inner_apply] at horth
  have key : ∀ i : Fin n, (xe - ∑ k, c k • v k).ofLp i = x i - ∑ k ∈ range (d + 1), c' k * ((i : ℕ) : ℝ) ^ k := by
    intro i
    rw [← Fin.sum_univ_eq_sum_range (fun k => c' k * ((i : ℕ) : ℝ) ^ k) (d + 1)]
    simp only [xe, v, c', WithLp.ofLp_sub, WithLp.ofLp_sum, WithLp.ofLp_smul, Pi.sub_apply, Finset.sum_apply, Pi.smul_apply,
      smul_eq_mul, Fin.is_lt, dite_true, Fin.eta]
  rw [← Fin.sum_univ_eq_sum_range (fun i => (x i - ∑ k ∈ range (d + 1), c' k * (i : ℝ) ^ k) * (i : ℝ) ^ m) n]
  rw [← horth]
  refine Finset.sum_congr rfl (fun i _ => ?_)
  rw [key i]
  simp only [v, RCLike.inner_apply, conj_trivial]

/-- a `polyfit` that satisfies the contract (so the contract is consistent): coefficients chosen by `ls_exists`, highest power first -/
noncomputable def lsPolyfit : Polyfit := fun _ x deg =>
  some ⟨deg.toNat + 1, fun k => Classical.choose (ls_exists x.n deg.toNat x.get) (deg.toNat - k)⟩

theorem lsPolyfit_contract : PolyfitLS lsPolyfit := by
  intro x deg _
  -- `(deg : ℤ).toNat` reduces to `deg`
  refine ⟨⟨deg + 1, fun k => Classical.choose (ls_exists x.n deg x.get) (deg - k)⟩, rfl, rfl, fun m hm => ?_⟩
  refine (sum_congr rfl fun i _ => ?_).trans (Classical.choose_spec (ls_exists x.n deg x.get) m hm)
  rw [← sub_sub_cancel (x.get i) (residC _ x i), trend_poly_of_len _ x deg rfl i]
  refine congrArg (fun s => (x.get i - s) * (i : ℝ) ^ m) (sum_congr rfl fun k hk => ?_)
  show Classical.choose (ls_exists x.n deg x.get) (deg - (deg - k)) * _ = _
  rw [Nat.sub_sub_self (mem_range_succ_iff.mp hk)]

/-- the degree the translated code requests -/
def effDeg (n : ℕ) (order : ℤ) : ℕ := (min order ((n : ℤ) - 1)).toNat

theorem effDeg_cast (n : ℕ) (hn : n ≠ 0) (order : ℤ) (ho : 1 ≤ order) : ((effDeg n order : ℕ) : ℤ) = min order ((n : ℤ) - 1) := by
  unfold effDeg
  exact Int.toNat_of_nonneg (le_min (by omega) (by omega))

theorem effDeg_lt (n : ℕ) (hn : n ≠ 0) (order : ℤ) (ho : 1 ≤ order) : effDeg n order < n := by
  have := effDeg_cast n hn order ho
  have h2 : min order ((n : ℤ) - 1) ≤ (n : ℤ) - 1 := min_le_right _ _
  omega

/-- order 0 as translated: `x - np.mean(x)`, of the length of `x` -/
theorem detrend0_some (polyfit : Polyfit) (x : Arr ℝ) (hn : x.n ≠ 0) :
    Gen.polynomial_detrend polyfit x 0 = some ⟨x.n, fun i => x.get i - Arr.mean x⟩ := by
  unfold Gen.polynomial_detrend
  have h2 : decide (x.n = 0) = false := decide_eq_false hn
  simp only [h2, Bool.false_eq_true, if_false, lt_self_iff_false, decide_false, decide_true, if_true, Arr.memo_eq]

end RmsGen

/-- **order 0: translated `polynomial_detrend` = `Model.detrend0`** (`x - np.mean(x)`); hypothesis = the input the code rejects (empty) -/
theorem gen_detrend0_eq_model (polyfit : Polyfit) (x : Arr ℝ) (hn : x.n ≠ 0) :
    (Gen.polynomial_detrend polyfit x 0).map toList = some (Model.detrend0 (toList x)) := by
  rw [RmsGen.detrend0_some polyfit x hn, Option.map_some, RmsAux.detrend0_eq, toList_length]
  unfold toList Arr.mean
  simp only [List.map_map, RL.ofNat_eq, sumRange_eq_list_sum]
  rfl

example : ∃ x : Arr ℝ, x.n ≠ 0 ∧ toList x = [1, 2, 6] := ⟨ofList [1, 2, 6], Nat.succ_ne_zero _, toList_ofList _⟩

/-- empty input and negative orders raise -/
theorem gen_detrend_rejects (polyfit : Polyfit) (x : Arr ℝ) (order : ℤ) (hbad : x.n = 0 ∨ order < 0) :
    Gen.polynomial_detrend polyfit x order = none := by
  unfold Gen.polynomial_detrend
  by_cases hn : x.n = 0
  · simp [hn]
  · have ho : order < 0 := by tauto
    simp [hn, ho]

/-- **order ≥ 1: the structure of the translated code**: `x - polyval(polyfit(arange(len x), x, deg), arange(len x))` with
    `deg = order`, or `len(x) - 1` for a short series (`len(x) < order + 1`); `polyfit` is the contract parameter, and the call
    raises exactly when `polyfit` does -/
theorem gen_detrend_poly_structure (polyfit : Polyfit) (x : Arr ℝ) (hn : x.n ≠ 0) (order : ℤ) (ho : 1 ≤ order) :
    Gen.polynomial_detrend polyfit x order
      = (polyfit (arange x.n) x (min order ((x.n : ℤ) - 1))).map (fun c => (⟨x.n, residC c x⟩ : Arr ℝ)) := by
  unfold Gen.polynomial_detrend
  have h2 : decide (x.n = 0) = false := decide_eq_false hn
  have h3 : decide (order < 0) = false := decide_eq_false (by omega)
  have h4 : decide (order = 0) = false := decide_eq_false (by omega)
  simp only [h2, h3, h4, Bool.false_eq_true, if_false, Arr.memo_eq]
  -- the short-series rule is `min`
  have e : (if decide ((x.n : ℤ) < order + 1) = true then some ((x.n : ℤ) - 1) else some order)
      = some (min order ((x.n : ℤ) - 1)) := by
    by_cases hs : (x.n : ℤ) < order + 1
    · rw [if_pos (decide_eq_true hs), min_eq_right (by omega)]
    · rw [if_neg (mt of_decide_eq_true hs), min_eq_left (by omega)]
  simp only [e]
  rw [show (⟨x.n, fun i_ => ((i_ : ℕ) : ℤ)⟩ : Arr ℤ) = arange x.n from rfl]
  cases polyfit (arange x.n) x (min order ((x.n : ℤ) - 1)) <;> rfl

example : ∃ (x : Arr ℝ) (order : ℤ), x.n ≠ 0 ∧ 1 ≤ order ∧ (x.n : ℤ) < order + 1 := ⟨ofList [1, 2, 6], 5, Nat.succ_ne_zero _, by decide, by decide⟩

/-- transfer of `detrend0_sum_zero`: the order-0 output of the translated code sums to zero -/
theorem gen_detrend0_sum_zero (polyfit : Polyfit) (x : Arr ℝ) (hn : x.n ≠ 0) :
    ∀ r, Gen.polynomial_detrend polyfit x 0 = some r → (toList r).sum = 0 := by
  intro r hr
  have h := gen_detrend0_eq_model polyfit x hn
  rw [hr, Option.map_some, Option.some.injEq] at h
  rw [h]
  exact detrend0_sum_zero _ (toList_ne_nil x hn)

/-- transfer of `detrend0_idem`: detrending the order-0 output again changes nothing -/
theorem gen_detrend0_idem (polyfit : Polyfit) (x : Arr ℝ) (hn : x.n ≠ 0) :
    ∀ r, Gen.polynomial_detrend polyfit x 0 = some r →
      (Gen.polynomial_detrend polyfit r 0).map toList = some (toList r) := by
  intro r hr
  have h := gen_detrend0_eq_model polyfit x hn
  rw [hr, Option.map_some, Option.some.injEq] at h
  have hrn : r.n ≠ 0 := by
    rw [RmsGen.detrend0_some polyfit x hn] at hr
    exact Option.some.inj hr ▸ hn
  rw [gen_detrend0_eq_model polyfit r hrn, h, detrend0_idem _ (toList_ne_nil x hn)]

/-- transfer of `detrend0_const`: a constant series detrends to zeros -/
theorem gen_detrend0_const (polyfit : Polyfit) (c : ℝ) (n : ℕ) (hn : 0 < n) :
    (Gen.polynomial_detrend polyfit ⟨n, fun _ => c⟩ 0).map toList = some (List.replicate n 0) := by
  rw [gen_detrend0_eq_model polyfit ⟨n, fun _ => c⟩ (by simpa using hn.ne')]
  have : toList (⟨n, fun _ => c⟩ : Arr ℝ) = List.replicate n c := by
    simp [toList, List.map_const']
  rw [this, detrend0_const c n hn]

open RmsGen Finset

/-- under the contract the translated `polynomial_detrend(x, order)`, `order ≥ 1`, does not raise, keeps the length, and its output
    is `x` with the least-squares polynomial of degree `d = min(order, len(x) - 1)` removed -/
theorem RmsGen.detrend_of_contract (polyfit : Polyfit) (hc : PolyfitLS polyfit) (x : Arr ℝ) (hn : x.n ≠ 0) (order : ℤ) (ho : 1 ≤ order) :
    ∃ r : Arr ℝ, Gen.polynomial_detrend polyfit x order = some r ∧ r.n = x.n ∧ IsDetrend x.n (effDeg x.n order) x.get r.get := by
  obtain ⟨c, hfit, hlen, horth⟩ := hc x (effDeg x.n order) (effDeg_lt x.n hn order ho)
  refine ⟨⟨x.n, residC c x⟩, ?_, rfl, ⟨fun k => c.get (effDeg x.n order - k), fun i _ => trend_poly_of_len c x _ hlen i⟩, horth⟩
  rw [gen_detrend_poly_structure polyfit x hn order ho, ← effDeg_cast x.n hn order ho, hfit]
  rfl

/-- **C19-a (orthogonality) for the translated code under the polyfit contract**: the output of `polynomial_detrend(x, order)`,
    `order ≥ 1`, has the length of `x` and is orthogonal to `1, t, …, t^d`, `d = min(order, len(x)-1)` -/
theorem gen_detrend_orthogonal (polyfit : Polyfit) (hc : PolyfitLS polyfit) (x : Arr ℝ) (hn : x.n ≠ 0)
    (order : ℤ) (ho : 1 ≤ order) :
    ∃ r, Gen.polynomial_detrend polyfit x order = some r ∧ r.n = x.n ∧
      ∀ k ≤ effDeg x.n order, ∑ i ∈ range x.n, r.get i * (i : ℝ) ^ k = 0 := by
  obtain ⟨r, hgen, hrn, hr⟩ := detrend_of_contract polyfit hc x hn order ho
  exact ⟨r, hgen, hrn, hr.2⟩

/-- **C19-a (polynomials are removed)**: a series that is a polynomial of degree ≤ `min(order, len-1)` on the grid detrends to zero -/
theorem gen_detrend_kills_poly (polyfit : Polyfit) (hc : PolyfitLS polyfit) (x : Arr ℝ) (hn : x.n ≠ 0)
    (order : ℤ) (ho : 1 ≤ order) (a : ℕ → ℝ)
    (hx : ∀ i < x.n, x.get i = ∑ k ∈ range (effDeg x.n order + 1), a k * (i : ℝ) ^ k) :
    ∃ r, Gen.polynomial_detrend polyfit x order = some r ∧ ∀ i < x.n, r.get i = 0 := by
  obtain ⟨r, hgen, _, hr⟩ := detrend_of_contract polyfit hc x hn order ho
  -- the zero vector is a second candidate
  exact ⟨r, hgen, hr.unique ⟨⟨a, fun i hi => by rw [sub_zero]; exact hx i hi⟩, fun k _ => by simp⟩⟩

/-- **C19-a (short series)**: with `len(x) < order + 1` the fallback degree `len(x) - 1` interpolates every sample: the output is zero -/
theorem gen_detrend_short_zero (polyfit : Polyfit) (hc : PolyfitLS polyfit) (x : Arr ℝ) (hn : x.n ≠ 0)
    (order : ℤ) (ho : 1 ≤ order) (hshort : (x.n : ℤ) < order + 1) :
    ∃ r, Gen.polynomial_detrend polyfit x order = some r ∧ ∀ i < x.n, r.get i = 0 := by
  have hdeg : effDeg x.n order + 1 = x.n := by
    have := effDeg_cast x.n hn order ho
    rw [min_eq_right (by omega)] at this
    omega
  -- every series on `n` points is a polynomial of degree `≤ n - 1` there: its Lagrange interpolant
  have hinj : Set.InjOn (fun i : ℕ => (i : ℝ)) (range x.n : Set ℕ) := fun _ _ _ _ h => Nat.cast_injective h
  let P := Lagrange.interpolate (range x.n) (fun i : ℕ => (i : ℝ)) x.get
  have hP : P.natDegree < effDeg x.n order + 1 := by
    have : P.natDegree ≤ #(range x.n) - 1 := Polynomial.natDegree_le_iff_degree_le.mpr (Lagrange.degree_interpolate_le x.get hinj)
    rw [card_range] at this
    omega
  refine gen_detrend_kills_poly polyfit hc x hn order ho P.coeff (fun i hi => ?_)
  rw [← Polynomial.eval_eq_sum_range' hP, Lagrange.eval_interpolate_at_node x.get hinj (mem_range.mpr hi)]

/-- **C19-a (idempotence)**: detrending the output again (same order) changes nothing -/
theorem gen_detrend_idempotent (polyfit : Polyfit) (hc : PolyfitLS polyfit) (x : Arr ℝ) (hn : x.n ≠ 0)
    (order : ℤ) (ho : 1 ≤ order) :
    ∃ r r', Gen.polynomial_detrend polyfit x order = some r ∧ Gen.polynomial_detrend polyfit r order = some r' ∧
      r'.n = r.n ∧ ∀ i < x.n, r'.get i = r.get i := by
  obtain ⟨r, hgen, hrn, hr⟩ := detrend_of_contract polyfit hc x hn order ho
  obtain ⟨r', hgen', hrn', hr'⟩ := detrend_of_contract polyfit hc r (hrn ▸ hn) order ho
  rw [hrn] at hr'
  -- `r` is a second candidate for its own detrending: nothing is removed, and it is orthogonal already
  exact ⟨r, r', hgen, hgen', hrn', hr'.unique ⟨⟨fun _ => 0, fun i _ => by simp⟩, hr.2⟩⟩

/-- **relation to the projection theorems of Lemmas/Detrend** (`Model.detr`, about ANY orthonormal basis `Q` of the polynomial space):
    if the columns of `Q` are orthonormal on the grid, are polynomials of degree ≤ p and span `1, t, …, t^p`, then for `p < len(x)`
    the translated `polynomial_detrend(x, p)` under the polyfit contract IS `Model.detr p Q x`: `detr_poly_*` are theorems about it. -/
theorem gen_detrend_eq_detr (polyfit : Polyfit) (hc : PolyfitLS polyfit) (x : Arr ℝ) (p : ℕ) (hp : 1 ≤ p)
    (hpn : p < x.n) (Q : ℕ → ℕ → ℝ) (hQ : OrthoCols Q x.n (p + 1))
    (hQpoly : ∀ k < p + 1, ∃ a : ℕ → ℝ, ∀ i < x.n, Q i k = ∑ j ∈ range (p + 1), a j * (i : ℝ) ^ j)
    (hmono : ∀ j ≤ p, InSpan Q x.n (p + 1) (fun i => (i : ℝ) ^ j)) :
    ∃ r, Gen.polynomial_detrend polyfit x (p : ℤ) = some r ∧ ∀ i < x.n, r.get i = Model.detr (p : ℤ) Q x.get 0 x.n i := by
  have hn : x.n ≠ 0 := by omega
  have ho : (1 : ℤ) ≤ (p : ℤ) := by exact_mod_cast hp
  obtain ⟨r, hgen, _, hr⟩ := detrend_of_contract polyfit hc x hn (p : ℤ) ho
  have hd : effDeg x.n (p : ℤ) = p := by
    have := effDeg_cast x.n hn (p : ℤ) ho
    rw [min_eq_left (by omega)] at this
    exact_mod_cast this
  rw [hd] at hr
  refine ⟨r, hgen, hr.unique ⟨?_, fun k hk => ?_⟩⟩
  · -- what `detr` removes is a combination of the columns of `Q`, which are polynomials of degree ≤ p
    choose! a ha using hQpoly
    refine ⟨fun j => ∑ k ∈ range (p + 1), (∑ m ∈ range x.n, Q m k * x.get m) * a k j, fun i hi => ?_⟩
    rw [detr_poly_eq p hp]
    simp only [Nat.zero_add, sub_sub_cancel]
    refine Eq.trans ?_ (sum_congr rfl (fun j _ => (sum_mul _ _ _).symm))
    rw [sum_comm]
    refine sum_congr rfl (fun k hk => ?_)
    rw [ha k (mem_range.mp hk) i hi, sum_mul]
    exact sum_congr rfl (fun j _ => by ring)
  · rw [← detr_poly_orthogonal_span p hp Q x.n hQ x.get 0 (fun i => (i : ℝ) ^ k) (hmono k hk)]
    exact sum_congr rfl (fun i _ => by ring)

/-- the polyfit contract is satisfiable, and so are the other hypotheses of the theorems above -/
example : ∃ (polyfit : Polyfit) (x : Arr ℝ) (order : ℤ),
    PolyfitLS polyfit ∧ x.n ≠ 0 ∧ 1 ≤ order ∧ ¬ ((x.n : ℤ) < order + 1) :=
  ⟨lsPolyfit, ofList [1, 2, 6, 3], 2, lsPolyfit_contract, Nat.succ_ne_zero _, by decide, by decide⟩

/-- the hypotheses on `Q` in `gen_detrend_eq_detr` are satisfiable: two points, order 1, `Q` the identity (columns `1 - t` and `t`) -/
example : ∃ (x : Arr ℝ) (p : ℕ) (Q : ℕ → ℕ → ℝ), 1 ≤ p ∧ p < x.n ∧ OrthoCols Q x.n (p + 1) ∧
    (∀ k < p + 1, ∃ a : ℕ → ℝ, ∀ i < x.n, Q i k = ∑ j ∈ range (p + 1), a j * (i : ℝ) ^ j) ∧
    (∀ j ≤ p, InSpan Q x.n (p + 1) (fun i => (i : ℝ) ^ j)) := by
  refine ⟨ofList [3, 5], 1, fun n k => if n = k then 1 else 0, le_rfl, Nat.one_lt_two, ?_, fun k _ => ?_, fun j _ => ?_⟩
  · show OrthoCols _ 2 2
    apply orthoCols_two <;> norm_num
  · -- a column is the line through its two entries
    refine ⟨fun j => if j = 0 then (if 0 = k then 1 else 0) else (if 1 = k then 1 else 0) - (if 0 = k then 1 else 0),
      fun i (hi : i < 2) => ?_⟩
    obtain rfl | rfl : i = 0 ∨ i = 1 := by omega
    · simp [sum_range_succ]
    · simp [sum_range_succ]
  · -- the columns are the unit vectors: the coordinates of `t` are its entries
    exact ⟨fun k => (k : ℝ) ^ j, fun i (hi : i < 2) => by simp [hi]⟩

/-- `Model.integralRms [] band = some 0` whereas the real `integral_rms([], [], band)` raises `ValueError("Input arrays must not be empty.")`
    (`gen_integral_rms_rejects`): the hand model is documented "for a non-empty grid"; the equality theorem carries `hn` for this reason. -/
example : Model.integralRms ([] : List (ℝ × ℝ)) none = some 0 := by
  simp [Model.integralRms, Model.listMin, Model.listMax]

#print axioms gen_crop_data_eq_model
#print axioms gen_integral_rms_eq_model
#print axioms gen_integral_rms_eq_model_list
#print axioms gen_integral_rms_rejects
#print axioms gen_integral_rms_inverted
#print axioms gen_integral_rms_inf_inf
#print axioms gen_integral_rms_ninf
#print axioms gen_integral_rms_pinf
#print axioms gen_integral_rms_one_point
#print axioms gen_get_rms_eq_integral_rms
#print axioms gen_get_rms_none
#print axioms gen_get_rms_csd
#print axioms gen_get_rms_nonfinite
#print axioms gen_get_rms_eq_model
#print axioms gen_integralRms_spec
#print axioms gen_integralRms_none
#print axioms gen_rms_monotone
#print axioms gen_rms_additive_at_grid
#print axioms gen_rms_superadditive
#print axioms gen_detrend0_eq_model
#print axioms gen_detrend_rejects
#print axioms gen_detrend_poly_structure
#print axioms gen_detrend0_sum_zero
#print axioms gen_detrend0_idem
#print axioms gen_detrend0_const
#print axioms RmsGen.lsPolyfit_contract
#print axioms gen_detrend_orthogonal
#print axioms gen_detrend_kills_poly
#print axioms gen_detrend_short_zero
#print axioms gen_detrend_idempotent
#print axioms gen_detrend_eq_detr
