/-
  Props/AnalysisGen — the machine-translated request arithmetic of `SpectrumAnalyzer.compute_single_bin`
  (`Gen.single_bin_segmentation`: number of averages and segment starts; `Gen.single_bin_omega`: the digital frequency handed
  to the kernels; both regenerated from speckit/analysis.py on every run) IS the hand model `Model.singleBinStarts` /
  ω = 2π·freq/fs, so `singleBinStarts_in_range` etc. (Lemmas/AnalyzerGlue) are theorems about the code as translated, and the
  kernel is evaluated at the REQUESTED frequency, whatever the segment length was rounded to.
-/
import SpecKitV.RealInst
import SpecKitV.Gen.Analysis
import SpecKitV.Model.Analyzer
import SpecKitV.Props.Utils
-- not used below: ties this module (an obligation of C05 and of every property downstream of it) to the translated schedulers, so that an
-- edit of schedulers.py which breaks PostGen / VecGen is seen by those checks as a broken obligation too
import SpecKitV.Props.PostGen
import SpecKitV.Lemmas.AnalyzerGlue

theorem gen_single_bin_seg_eq_model (N L : ℕ) (olap : ℝ) :
    let g := Gen.single_bin_segmentation (α := ℝ) (N : ℤ) (L : ℤ) olap
    (List.range g.2.n).map g.2.get = Model.singleBinStarts (α := ℝ) N L olap ∧ (g.1 : ℤ) = g.2.n := by
  intro g
  simp only [g, Gen.single_bin_segmentation, Model.singleBinStarts, Arr.memo_eq, gen_round_half_up_eq_model, RL.lit_one,
    RL.one_eq, RL.ofInt_eq, RL.ofNat_eq, Int.cast_natCast, Nat.cast_inj, decide_eq_true_eq, RL.trunc_intCast]
  generalize Model.roundHalfUp (α := ℝ) _ = navg
  split_ifs with h1 h2
  · exact ⟨rfl, rfl⟩
  · exact ⟨rfl, rfl⟩
  · exact ⟨rfl, (Int.toNat_of_nonneg (le_of_lt (lt_trans zero_lt_one (not_le.mp h2)))).symm⟩

theorem gen_single_bin_omega_eq (freq fs : ℝ) : Gen.single_bin_omega freq fs = 2 * Real.pi * freq / fs := by
  unfold Gen.single_bin_omega
  rw [RL.lit_two, RL.pi_eq]

#print axioms gen_single_bin_seg_eq_model
#print axioms gen_single_bin_omega_eq
