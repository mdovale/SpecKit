/-
  Props/JdesGen — the machine-translated binary search `Gen.find_Jdes_binary_search`
  (speckit/utils.py:43-111) IS the hand model `Model.findJdes … 100 1000000` (`MIN_JDES`, `MAX_JDES`, utils.py:39-40), for every count function
  on the naturals, every target and every fuel; soundness is proved on the generated loop for
  an arbitrary integer-valued count function; completeness for a monotone count
  function is transferred from `findJdes_complete_pow` (Props/C04), with its logarithmic fuel bound.
-/
import SpecKitV.RealInst
import SpecKitV.Gen.Utils
import SpecKitV.Model.Sched
import SpecKitV.Props.C04

namespace JdesGen

/-- loop state of the generated search: `(found__, lower, res__, upper)` -/
abbrev St := Bool × ℤ × ℤ × ℤ

/-- the loop condition `not found and lower <= upper` -/
def cond (s : St) : Bool := (!s.1) && decide (s.2.1 ≤ s.2.2.2)

def body (nf_of : ℤ → ℤ) (target : ℤ) (s : St) : St :=
  if nf_of (Int.fdiv (s.2.1 + s.2.2.2) 2) = target then
    (true, s.2.1, Int.fdiv (s.2.1 + s.2.2.2) 2, s.2.2.2)
  else if nf_of (Int.fdiv (s.2.1 + s.2.2.2) 2) < target then
    (s.1, Int.fdiv (s.2.1 + s.2.2.2) 2 + 1, s.2.2.1, s.2.2.2)
  else
    (s.1, s.2.1, s.2.2.1, Int.fdiv (s.2.1 + s.2.2.2) 2 - 1)

def out (s : St) : Option ℤ := if s.1 then some s.2.2.1 else none

set_option linter.unusedSimpArgs false   -- the orientation lemmas are idle on the source as it is spelt now

theorem gen_eq (nf_of : ℤ → ℤ) (target : ℤ) (fuel : ℕ) :
    Gen.find_Jdes_binary_search nf_of target fuel
      = out (whileFuel fuel cond (body nf_of target) (false, 100, 0, 1000000)).1 := by
  unfold Gen.find_Jdes_binary_search
  show out (whileFuel fuel cond _ (false, 100, 0, 1000000)).1 = _
  congr 3
  funext s
  unfold body
  dsimp only
  simp only [decide_eq_true_eq, add_comm, eq_comm (a := target)]
  split_ifs <;> rfl

def Inv (nf_of : ℤ → ℤ) (target : ℤ) (s : St) : Prop :=
  100 ≤ s.2.1 ∧ s.2.2.2 ≤ 1000000 ∧
    (s.1 = true → nf_of s.2.2.1 = target ∧ 100 ≤ s.2.2.1 ∧ s.2.2.1 ≤ 1000000)

theorem fdiv_two_bounds (a b : ℤ) (h : a ≤ b) :
    a ≤ Int.fdiv (a + b) 2 ∧ Int.fdiv (a + b) 2 ≤ b := by
  rw [Int.fdiv_two]
  omega

theorem body_inv (nf_of : ℤ → ℤ) (target : ℤ) (s : St) (hc : cond s = true)
    (hi : Inv nf_of target s) : Inv nf_of target (body nf_of target s) := by
  obtain ⟨h1, h2, h3⟩ := hi
  obtain ⟨f, lo, r, hi⟩ := s
  obtain ⟨rfl, hle⟩ : f = false ∧ lo ≤ hi := by simpa [cond] using hc
  obtain ⟨hb1, hb2⟩ := fdiv_two_bounds _ _ hle
  unfold body
  dsimp only at h1 h2 hb1 hb2 ⊢
  split_ifs with c1 c2
  · exact ⟨h1, h2, fun _ => ⟨c1, h1.trans hb1, hb2.trans h2⟩⟩
  · exact ⟨h1.trans (hb1.trans (Int.le_add_one (le_refl _))), h2, fun h => absurd h Bool.false_ne_true⟩
  · exact ⟨h1, (Int.sub_le_self _ zero_le_one).trans (hb2.trans h2), fun h => absurd h Bool.false_ne_true⟩

theorem fdiv_cast (lo hi : ℕ) : Int.fdiv ((lo : ℤ) + (hi : ℤ)) 2 = (((lo + hi) / 2 : ℕ) : ℤ) := by
  rw [Int.fdiv_two]
  push_cast
  rfl

theorem loop_eq_findJdes (nf : ℕ → ℕ) (target : ℕ) (n : ℕ) : ∀ (lo hi : ℕ) (r : ℤ),
    out (whileFuel n cond (body (fun J => ((nf J.toNat : ℕ) : ℤ)) (target : ℤ))
        (false, (lo : ℤ), r, (hi : ℤ))).1
      = (Model.findJdes nf target n lo hi).map (fun J => (J : ℤ)) := by
  induction n with
  | zero => intro lo hi r; rfl
  | succ k ih =>
    intro lo hi r
    rw [whileFuel_succ, findJdes_succ]
    have hc : cond (false, (lo : ℤ), r, (hi : ℤ)) = decide (lo ≤ hi) := by
      simp only [cond, Bool.not_false, Bool.true_and, Nat.cast_le]
    rw [hc]
    by_cases h0 : lo ≤ hi
    · rw [if_pos (decide_eq_true h0), if_pos h0]
      simp only [body, fdiv_cast, Int.toNat_natCast, Nat.cast_inj, Nat.cast_lt]
      split_ifs with h1 h2 h3
      · exact congrArg out (whileFuel_stop _ _ _ _ rfl)
      · exact ih (_ + 1) _ _
      · have hlt : ((0 : ℕ) : ℤ) - 1 < lo := lt_of_lt_of_le (by decide) (Int.natCast_nonneg lo)
        rw [h3, whileFuel_stop k cond _ (false, _, _, _) (decide_eq_false (not_le.mpr hlt))]
        rfl
      · rw [← Nat.cast_pred (Nat.pos_of_ne_zero h3)]
        exact ih _ _ _
    · rw [if_neg (fun h => h0 (of_decide_eq_true h)), if_neg h0]
      rfl

end JdesGen

open JdesGen

theorem gen_findJdes_eq_model (nf : ℕ → ℕ) (target fuel : ℕ) :
    Gen.find_Jdes_binary_search (fun J => ((nf J.toNat : ℕ) : ℤ)) (target : ℤ) fuel
      = (Model.findJdes nf target fuel 100 1000000).map (fun J => (J : ℤ)) := by
  rw [gen_eq]
  exact loop_eq_findJdes nf target fuel 100 1000000 0

/-- soundness for ANY integer-valued count function: a returned Jdes has exactly the target count and
    lies in the search range -/
theorem gen_findJdes_sound (nf_of : ℤ → ℤ) (target : ℤ) (fuel : ℕ) (J : ℤ)
    (h : Gen.find_Jdes_binary_search nf_of target fuel = some J) :
    nf_of J = target ∧ 100 ≤ J ∧ J ≤ 1000000 := by
  rw [gen_eq] at h
  obtain ⟨_, _, h3⟩ := whileFuel_inv (Inv nf_of target) cond (body nf_of target) (body_inv nf_of target) fuel
    (false, 100, 0, 1000000) ⟨le_refl _, le_refl _, fun h => absurd h Bool.false_ne_true⟩
  unfold out at h
  split_ifs at h with hf
  obtain rfl := Option.some.inj h
  exact h3 hf

/-- completeness for a monotone count function with the LOGARITHMIC fuel bound `20 ≤ fuel`
    (the range [100, 1000000] has 999901 < 2^20 points) -/
theorem gen_findJdes_complete_log (nf : ℕ → ℕ) (hmono : Monotone nf) (target fuel : ℕ)
    (hfuel : 20 ≤ fuel)
    (J0 : ℕ) (h0 : 100 ≤ J0 ∧ J0 ≤ 1000000) (hJ0 : nf J0 = target) :
    ∃ J, Gen.find_Jdes_binary_search (fun J => ((nf J.toNat : ℕ) : ℤ)) (target : ℤ) fuel = some J
      ∧ nf J.toNat = target := by
  rw [gen_findJdes_eq_model]
  cases hm : Model.findJdes nf target fuel 100 1000000 with
  | none =>
    have hp : 1000000 + 1 - 100 < 2 ^ fuel :=
      lt_of_lt_of_le (by norm_num) (Nat.pow_le_pow_right (by norm_num : 0 < 2) hfuel)
    exact absurd hJ0 (findJdes_complete_pow nf hmono target fuel 100 1000000 hp hm J0 h0.1 h0.2)
  | some J =>
    refine ⟨(J : ℤ), rfl, ?_⟩
    rw [Int.toNat_natCast]
    exact (findJdes_sound nf target fuel 100 1000000 J hm).1

-- 64: the fuel the driver gives the translated search (Driver.lean)
theorem gen_findJdes_complete (nf : ℕ → ℕ) (hmono : Monotone nf) (target fuel : ℕ) (hfuel : 64 ≤ fuel)
    (J0 : ℕ) (h0 : 100 ≤ J0 ∧ J0 ≤ 1000000) (hJ0 : nf J0 = target) :
    ∃ J, Gen.find_Jdes_binary_search (fun J => ((nf J.toNat : ℕ) : ℤ)) (target : ℤ) fuel = some J
      ∧ nf J.toNat = target :=
  gen_findJdes_complete_log nf hmono target fuel (by omega) J0 h0 hJ0

#print axioms gen_findJdes_eq_model
#print axioms gen_findJdes_sound
#print axioms gen_findJdes_complete_log
#print axioms gen_findJdes_complete
