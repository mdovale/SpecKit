/-
  The translated per-bin loop `_lpsd_core` was translated with `_select_backend` as a PARAMETER and proved equal to the model for every
  selection function; here the parameter is instantiated with the TRANSLATED `core._select_backend` (region EntryPoints).
  Kept out of Props/EntryPointsGen so that C20 does not depend on the kernel regions.
-/
import SpecKitV.Props.EntryPointsGen
import SpecKitV.Props.LpsdCoreGen
open EP EPG

namespace EPLpsd

/-- what the translated `_select_backend` answers for `K` segments (`""` when it raises — `_lpsd_core` then raises as well) -/
def selTranslated (cuda numba : Bool) : ℕ → String → String := fun K hint =>
  match Gen._select_backend cuda numba (K : Int) hint with
  | .ok b => b
  | .error _ => ""

/-- the translated per-bin loop, dispatched by the TRANSLATED backend decision table, is the model analysis — for every setting of the two
    module flags, every hint, every plan.  `hQ` is the hypothesis of `LpsdCoreGen.gen_lpsd_core_eq_model_all_backends`, which does not use it -/
theorem gen_lpsd_core_translated_backend (cuda numba : Bool) (u : ℕ → ℕ → ℝ) (bq : ℕ → ℤ → Arr2 ℝ) (wf : NpLC.WinFunc ℝ)
    (alpha : ℝ) (order : ℤ)
    (cb : String) (x1 x2 : Arr ℝ) (iscsd : Bool) (fs : ℝ) (nx : ℤ) (pL : Arr ℕ) (pD : Arr (Arr ℕ)) (pf : Arr ℝ) (idx : List ℕ)
    (hQ : order = 1 ∨ order = 2 → ∀ i ∈ idx, 2 ≤ (bq (pL.get i) order).m) :
    ((Gen._lpsd_core (LpsdCoreGen.genFamilyAll u) bq (selTranslated cuda numba) wf alpha order cb x1 x2 iscsd fs nx pL pD pf idx).2).map
        LpsdCoreGen.rowStats
      = Model.lpsdCore iscsd order x1 x2 fs (Model.lpsdWindow wf alpha) bq (idx.map (Model.pbinAt pf pL pD)) :=
  LpsdCoreGen.gen_lpsd_core_eq_model_all_backends (hQ := hQ) ..

/-- when it does not raise, the answer is one of the three names the dispatch knows (table clause 5) -/
theorem selTranslated_names (cuda numba : Bool) (K : ℕ) (hint : String) :
    selTranslated cuda numba K hint ∈ ["cuda", "numba", "numpy", ""] := by
  unfold selTranslated
  cases h : Gen._select_backend cuda numba (K : Int) hint with
  | error e => simp
  | ok b =>
    rcases (gen_select_backend_table cuda numba K hint).2.2.2.2.1 b h with rfl | rfl | rfl <;> simp

end EPLpsd

#print axioms EPLpsd.gen_lpsd_core_translated_backend
#print axioms EPLpsd.selTranslated_names
