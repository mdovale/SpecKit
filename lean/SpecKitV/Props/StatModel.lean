/-
  The statistical meaning of the GENERATED error attributes
  (`Gen.Auto/Cross.Gxx_dev`, `Gxx_error`, `XY_emp_var`; `Gen/Attrs.lean`, regenerated from
  `SpectrumResult.__getattr__`) and of the GENERATED reducer (`Gen._reduce_stats_nb`,
  `SpecKitV/Gen/CoreKernels.lean`, regenerated from `core._reduce_stats_nb`) under the standard
  model of `SpecKitV.Lemmas.StatModel`.  This reduces the "not decidable here" part of
  C10 ("the analytic error bars predict the scatter") and C11 ("the empirical deviations agree with
  the analytic ones for Gaussian noise") to explicit, satisfiable hypotheses on the per-segment
  values; what remains undecided is only whether a given noise record fulfils those hypotheses.

  Setting.  (Ω, P) a probability space; K ≥ 1 segments, per-segment values random:
    `p k ω` = |X_k|² (real),  `z k ω` = X_k·conj Y_k (= |X_k|² in auto mode).
  The arrays handed to the reducer are `StatModel.arr (p · ω)` etc. (length K).  The random estimate
  is the generated attribute applied to the per-bin record whose statistic field is the generated
  reducer's output — nothing is re-stated by hand, every theorem below unfolds the generated
  definitions (so it breaks when `Gxx_dev`, `XY_emp_var`, `Gxx`, or the reducer change).

  HYPOTHESES (explicit in every statement; satisfiable: `StatModel.hypotheses_satisfiable`,
  `StatModel.vector_hypotheses_satisfiable` (at `E := ℝ`) — the product of exponential = χ²₂ laws):
    C10: `p k` square integrable, PAIRWISE independent, mean μ, variance μ²  (coefficient of
         variation 1 = the χ²₂/exponential law, `periodogram_exp_law_cv_one`).
    C11: `z k` square integrable, pairwise UNCORRELATED about m (implied by pairwise independence
         with common mean m: `StatModel.uncorrelated_of_indep`, used in `emp_var_vs_true_of_indep`),
         common second moment σ² = 𝔼|z_k − m|².
  The independence/uncorrelatedness hypothesis does NOT hold for overlapping segments, and the theorems
  of this file do not apply there (see the note at the head of `SpecKitV.Lemmas.StatModel`).
-/
import SpecKitV.Props.C01
import SpecKitV.Props.AttrsA
import SpecKitV.Lemmas.StatModel
open Gen MeasureTheory ProbabilityTheory Finset

set_option linter.unusedSectionVars false

namespace StatModel

/-- K per-segment values as the array the reducer receives -/
def arr {K : ℕ} (p : Fin K → ℝ) : Arr ℝ := ⟨K, fun j => if h : j < K then p ⟨j, h⟩ else 0⟩

@[simp] theorem arr_n {K : ℕ} (p : Fin K → ℝ) : (arr p).n = K := rfl

theorem arr_get {K : ℕ} (p : Fin K → ℝ) (k : Fin K) : (arr p).get k = p k := by
  simp [arr, k.is_lt]

/-- the generated reducer on these arrays is the model reducer (C01 `reduce_spec`) -/
theorem reduce_eq {K : ℕ} (hK : 0 < K) {xx yy xr xi : Fin K → ℝ} :
    Gen._reduce_stats_nb (arr xx) (arr yy) (arr xr) (arr xi)
      = Model.reduceStats K (arr xx).get (arr yy).get (arr xr).get (arr xi).get :=
  reduce_spec (arr xx) (arr yy) (arr xr) (arr xi) hK rfl rfl rfl

/-- first output = sample mean of the first array -/
theorem reduce_MXX {K : ℕ} (hK : 0 < K) {xx yy xr xi : Fin K → ℝ} :
    (Gen._reduce_stats_nb (arr xx) (arr yy) (arr xr) (arr xi)).1 = (1 / (K : ℝ)) * ∑ k, xx k := by
  rw [reduce_eq hK]
  simp only [Model.reduceStats, sumRange_eq_sum, RL.ofNat_eq]
  rw [Finset.sum_range, div_eq_mul_one_div, mul_comm]
  simp only [arr_get]

/-- third/fourth outputs = sample mean of the complex per-segment products -/
theorem reduce_mu {K : ℕ} (hK : 0 < K) (xx yy : Fin K → ℝ) (z : Fin K → ℂ) :
    let R := Gen._reduce_stats_nb (arr xx) (arr yy) (arr fun k => (z k).re) (arr fun k => (z k).im)
    (⟨R.2.2.1, R.2.2.2.1⟩ : ℂ) = (K : ℝ)⁻¹ • ∑ k, z k := by
  intro R
  simp only [R, reduce_eq hK]
  simp only [Model.reduceStats, sumRange_eq_sum, RL.ofNat_eq]
  rw [Finset.sum_range, Finset.sum_range]
  simp only [arr_get]
  apply Complex.ext
  · rw [Complex.smul_re, Complex.re_sum, smul_eq_mul]
    exact div_eq_inv_mul _ _
  · rw [Complex.smul_im, Complex.im_sum, smul_eq_mul]
    exact div_eq_inv_mul _ _

/-- fifth output (M2) = population scatter of the complex products about their SAMPLE mean -/
theorem reduce_M2 {K : ℕ} (hK : 0 < K) (xx yy : Fin K → ℝ) (z : Fin K → ℂ) :
    (Gen._reduce_stats_nb (arr xx) (arr yy) (arr fun k => (z k).re) (arr fun k => (z k).im)).2.2.2.2
      = (1 / (K : ℝ)) * ∑ k, ‖z k - (K : ℝ)⁻¹ • ∑ j, z j‖ ^ 2 := by
  rw [reduce_eq hK, reduce_M2_all_K K hK, Finset.sum_range, div_eq_mul_one_div, mul_comm]
  congr 1
  apply Finset.sum_congr rfl
  intro k _
  rw [Finset.sum_range, Finset.sum_range]
  simp only [arr_get]
  rw [Complex.sq_norm, Complex.normSq_apply]
  simp only [Complex.sub_re, Complex.sub_im, Complex.smul_re, Complex.smul_im, smul_eq_mul, Complex.re_sum,
    Complex.im_sum]
  rw [div_eq_inv_mul, div_eq_inv_mul]
  ring

/-- the generated density estimate on the random statistic is `c · mean p_k`, `c = 2/(fs·S2)` -/
theorem Gxx_est_eq {Ω : Type*} {K : ℕ} (hK : 0 < K) (p yy xr xi : Fin K → Ω → ℝ) (d : BinData ℝ) :
    (fun ω => Cross.Gxx { d with XX :=
        (Gen._reduce_stats_nb (arr (p · ω)) (arr (yy · ω)) (arr (xr · ω)) (arr (xi · ω))).1 })
      = fun ω => 2 / (d.fs * d.S2) * ((1 / (K : ℝ)) * ∑ k, p k ω) := by
  funext ω
  rw [AttrsA.cGxx, reduce_MXX hK, mul_div_right_comm]

end StatModel

section Main
-- four theorems below bear the name of the `StatModel.*` lemma they instantiate: in proofs `StatModel.x` or `_root_.x`, never the bare name
open StatModel

variable {Ω : Type*} [MeasurableSpace Ω] {P : Measure Ω} [IsProbabilityMeasure P] {K : ℕ}

/-! ## C10 -/

/-- the first output of the GENERATED reducer (the statistic stored as `XX`) is an unbiased
    estimator of the common mean μ of the per-segment periodogram values -/
theorem mean_estimator_unbiased (hK : 0 < K) (p yy xr xi : Fin K → Ω → ℝ) (μ : ℝ)
    (hint : ∀ k, Integrable (p k) P) (hmean : ∀ k, ∫ ω, p k ω ∂P = μ) :
    ∫ ω, (Gen._reduce_stats_nb (arr (p · ω)) (arr (yy · ω)) (arr (xr · ω)) (arr (xi · ω))).1 ∂P
      = μ := by
  simp only [reduce_MXX hK]
  exact StatModel.mean_estimator_unbiased hK hint hmean

/-- for pairwise independent segments with variance μ² (coefficient of variation 1) the
    statistic has variance μ²/K and standard deviation μ/√K -/
theorem mean_estimator_variance (hK : 0 < K) (p yy xr xi : Fin K → Ω → ℝ) (μ : ℝ) (hμ : 0 ≤ μ)
    (hL2 : ∀ k, MemLp (p k) 2 P) (hind : Pairwise fun i j => p i ⟂ᵢ[P] p j)
    (hvar : ∀ k, Var[p k; P] = μ ^ 2) :
    let MXX : Ω → ℝ := fun ω =>
      (Gen._reduce_stats_nb (arr (p · ω)) (arr (yy · ω)) (arr (xr · ω)) (arr (xi · ω))).1
    Var[MXX; P] = μ ^ 2 / K ∧ Real.sqrt (Var[MXX; P]) = μ / Real.sqrt K := by
  intro MXX
  have e : MXX = fun ω => (1 / (K : ℝ)) * ∑ k, p k ω := by
    funext ω; exact reduce_MXX hK
  rw [e]
  exact ⟨StatModel.mean_estimator_variance hK hL2 hind hvar,
    StatModel.mean_estimator_sd hK hμ hL2 hind hvar⟩

/-- the generated `Gxx_dev`, evaluated at the expected statistic (`XX = μ`, `navg = K`),
    IS the standard deviation of the generated estimate `Gxx` applied to the random statistic
    (generated reducer on K pairwise independent periodogram values of mean μ, variance μ²);
    explicitly it is c·μ/√K with the generated normalisation c = 2/(fs·S2); and the estimate is
    unbiased for `Gxx` at the truth.  Auto and cross tables. -/
theorem Gxx_dev_is_sd_at_truth (hK : 0 < K) (p yy xr xi : Fin K → Ω → ℝ) (μ : ℝ) (hμ : 0 ≤ μ)
    (hL2 : ∀ k, MemLp (p k) 2 P) (hind : Pairwise fun i j => p i ⟂ᵢ[P] p j)
    (hmean : ∀ k, ∫ ω, p k ω ∂P = μ) (hvar : ∀ k, Var[p k; P] = μ ^ 2)
    (d : BinData ℝ) (hfs : 0 < d.fs) (hS2 : 0 < d.S2) (hXX : d.XX = μ) (hn : d.navg = K) :
    let MXX : Ω → ℝ := fun ω =>
      (Gen._reduce_stats_nb (arr (p · ω)) (arr (yy · ω)) (arr (xr · ω)) (arr (xi · ω))).1
    let estA : Ω → ℝ := fun ω => Auto.Gxx { d with XX := MXX ω }
    let estC : Ω → ℝ := fun ω => Cross.Gxx { d with XX := MXX ω }
    (Auto.Gxx_dev d = Real.sqrt (Var[estA; P]) ∧ Cross.Gxx_dev d = Real.sqrt (Var[estC; P])) ∧
    (Auto.Gxx_dev d = 2 / (d.fs * d.S2) * μ / Real.sqrt K ∧
      Cross.Gxx_dev d = 2 / (d.fs * d.S2) * μ / Real.sqrt K) ∧
    (∫ ω, estA ω ∂P = Auto.Gxx d ∧ ∫ ω, estC ω ∂P = Cross.Gxx d) := by
  intro MXX estA estC
  have e : estC = _ := Gxx_est_eq hK p yy xr xi d
  have hsd := scaled_mean_estimator_sd (2 / (d.fs * d.S2)) (by positivity) hK hμ hL2 hind hvar
  have hun := scaled_mean_estimator_unbiased (2 / (d.fs * d.S2)) hK
    (fun k => (hL2 k).integrable (by norm_num)) hmean
  have hdev : Cross.Gxx_dev d = 2 / (d.fs * d.S2) * μ / Real.sqrt K := by
    rw [Cross.Gxx_dev, AttrsA.cGxx, hXX, hn, mul_div_right_comm]; rfl
  have hsd' : Cross.Gxx_dev d = Real.sqrt (Var[estC; P]) := by rw [e, hsd, hdev]
  have hun' : ∫ ω, estC ω ∂P = Cross.Gxx d := by rw [e, hun, AttrsA.cGxx, hXX, mul_div_right_comm]
  -- the auto table spells `Gxx` and `Gxx_dev` as the cross table does (`Auto.Gxx_eq_cross`)
  exact ⟨⟨hsd', hsd'⟩, ⟨hdev, hdev⟩, hun', hun'⟩

/-- the generated normalised error `Gxx_error` (= 1/√navg) is the RELATIVE standard
    deviation (sd / mean) of the generated estimate under the same model (μ > 0) -/
theorem Gxx_error_is_relative_sd (hK : 0 < K) (p yy xr xi : Fin K → Ω → ℝ) (μ : ℝ) (hμ : 0 < μ)
    (hL2 : ∀ k, MemLp (p k) 2 P) (hind : Pairwise fun i j => p i ⟂ᵢ[P] p j)
    (hmean : ∀ k, ∫ ω, p k ω ∂P = μ) (hvar : ∀ k, Var[p k; P] = μ ^ 2)
    (d : BinData ℝ) (hfs : 0 < d.fs) (hS2 : 0 < d.S2) (hn : d.navg = K) :
    let MXX : Ω → ℝ := fun ω =>
      (Gen._reduce_stats_nb (arr (p · ω)) (arr (yy · ω)) (arr (xr · ω)) (arr (xi · ω))).1
    let estA : Ω → ℝ := fun ω => Auto.Gxx { d with XX := MXX ω }
    let estC : Ω → ℝ := fun ω => Cross.Gxx { d with XX := MXX ω }
    Auto.Gxx_error d = Real.sqrt (Var[estA; P]) / ∫ ω, estA ω ∂P ∧
    Cross.Gxx_error d = Real.sqrt (Var[estC; P]) / ∫ ω, estC ω ∂P := by
  intro MXX estA estC
  have hc : 0 < 2 / (d.fs * d.S2) := by positivity
  have h : Cross.Gxx_error d = Real.sqrt (Var[estC; P]) / ∫ ω, estC ω ∂P := by
    rw [show estC = _ from Gxx_est_eq hK p yy xr xi d,
      scaled_mean_estimator_sd _ hc.le hK hμ.le hL2 hind hvar,
      scaled_mean_estimator_unbiased _ hK (fun k => (hL2 k).integrable (by norm_num)) hmean,
      div_div, mul_comm (Real.sqrt _), ← div_div, div_self (mul_pos hc hμ).ne']
    rw [AttrsA.cGxx_error, hn]
  exact ⟨h, h⟩

/-- the hypothesis "variance = mean²" above is the χ²₂ case: the exponential law
    of mean μ > 0 (the law of |X|² for a circular complex Gaussian X with 𝔼|X|² = μ) has mean μ
    and variance μ²; more generally 𝔼 xⁿ = n!·μⁿ -/
theorem periodogram_exp_law_cv_one {μ : ℝ} (hμ : 0 < μ) :
    ∫ x, x ∂(expMeasure (1 / μ)) = μ ∧ Var[id; expMeasure (1 / μ)] = μ ^ 2 :=
  StatModel.exp_law_mean_var hμ

/-! ## C11 -/

/-- the generated reducer's M2 (population scatter about the SAMPLE mean) has expectation
    (K−1)/K·σ² for pairwise uncorrelated per-segment products with 𝔼|z_k − m|² = σ² -/
theorem emp_var_expectation (hK : 0 < K) (xx yy : Fin K → Ω → ℝ) (z : Fin K → Ω → ℂ) (m : ℂ)
    (σ2 : ℝ) (hL2 : ∀ k, MemLp (z k) 2 P)
    (hunc : ∀ i j, i ≠ j → ∫ ω, inner ℝ (z i ω - m) (z j ω - m) ∂P = 0)
    (hvar : ∀ k, ∫ ω, ‖z k ω - m‖ ^ 2 ∂P = σ2) :
    ∫ ω, (Gen._reduce_stats_nb (arr (xx · ω)) (arr (yy · ω)) (arr fun k => (z k ω).re)
        (arr fun k => (z k ω).im)).2.2.2.2 ∂P = ((K : ℝ) - 1) / K * σ2 := by
  simp only [reduce_M2 hK]
  exact StatModel.emp_var_expectation hK hL2 hunc hvar

/-- the generated reducer's mean product z̄ = (mu_r, mu_i) has second moment σ²/K about m -/
theorem mean_z_variance (hK : 0 < K) (xx yy : Fin K → Ω → ℝ) (z : Fin K → Ω → ℂ) (m : ℂ)
    (σ2 : ℝ) (hL2 : ∀ k, MemLp (z k) 2 P)
    (hunc : ∀ i j, i ≠ j → ∫ ω, inner ℝ (z i ω - m) (z j ω - m) ∂P = 0)
    (hvar : ∀ k, ∫ ω, ‖z k ω - m‖ ^ 2 ∂P = σ2) :
    let R := fun ω => Gen._reduce_stats_nb (arr (xx · ω)) (arr (yy · ω))
      (arr fun k => (z k ω).re) (arr fun k => (z k ω).im)
    ∫ ω, ‖(⟨(R ω).2.2.1, (R ω).2.2.2.1⟩ : ℂ) - m‖ ^ 2 ∂P = σ2 / K := by
  intro R
  have e : ∀ ω, (⟨(R ω).2.2.1, (R ω).2.2.2.1⟩ : ℂ) = (K : ℝ)⁻¹ • ∑ k, z k ω :=
    fun ω => reduce_mu hK (xx · ω) (yy · ω) (z · ω)
  simp only [e]
  exact StatModel.mean_z_variance hK hL2 hunc hvar

/-- `emp_var_vs_true`: the GENERATED `XY_emp_var` (= M2/navg, navg = K) of the random bin has
    expectation (K−1)/K · 𝔼|z̄ − m|² = (K−1)/K · σ²/K: the library's empirical variance is the
    variance of the mean product up to the factor (K−1)/K, i.e. it is biased LOW by the fraction
    1/K (it divides the population scatter, not the sample scatter, by K).  Auto and cross. -/
theorem emp_var_vs_true (hK : 0 < K) (xx yy : Fin K → Ω → ℝ) (z : Fin K → Ω → ℂ) (m : ℂ)
    (σ2 : ℝ) (hL2 : ∀ k, MemLp (z k) 2 P)
    (hunc : ∀ i j, i ≠ j → ∫ ω, inner ℝ (z i ω - m) (z j ω - m) ∂P = 0)
    (hvar : ∀ k, ∫ ω, ‖z k ω - m‖ ^ 2 ∂P = σ2) (d : BinData ℝ) (hn : d.navg = K) :
    let R := fun ω => Gen._reduce_stats_nb (arr (xx · ω)) (arr (yy · ω))
      (arr fun k => (z k ω).re) (arr fun k => (z k ω).im)
    let D : Ω → BinData ℝ := fun ω => { d with M2 := (R ω).2.2.2.2 }
    let zbar : Ω → ℂ := fun ω => ⟨(R ω).2.2.1, (R ω).2.2.2.1⟩
    (∫ ω, Auto.XY_emp_var (D ω) ∂P = ((K : ℝ) - 1) / K * ∫ ω, ‖zbar ω - m‖ ^ 2 ∂P ∧
      ∫ ω, Cross.XY_emp_var (D ω) ∂P = ((K : ℝ) - 1) / K * ∫ ω, ‖zbar ω - m‖ ^ 2 ∂P) ∧
    (∫ ω, Auto.XY_emp_var (D ω) ∂P = ((K : ℝ) - 1) / K * (σ2 / K) ∧
      ∫ ω, Cross.XY_emp_var (D ω) ∂P = ((K : ℝ) - 1) / K * (σ2 / K)) := by
  intro R D zbar
  have hz : ∫ ω, ‖zbar ω - m‖ ^ 2 ∂P = σ2 / K := _root_.mean_z_variance hK xx yy z m σ2 hL2 hunc hvar
  have hM : ∫ ω, (R ω).2.2.2.2 ∂P = ((K : ℝ) - 1) / K * σ2 :=
    _root_.emp_var_expectation hK xx yy z m σ2 hL2 hunc hvar
  have e : ∀ ω, Cross.XY_emp_var (D ω) = (R ω).2.2.2.2 / K := fun ω =>
    (AttrsA.XY_emp_var_of_pos (D ω) (hn ▸ Nat.cast_pos.2 hK : 0 < d.navg)).trans
      (congrArg ((R ω).2.2.2.2 / ·) hn)
  have hC : ∫ ω, Cross.XY_emp_var (D ω) ∂P = ((K : ℝ) - 1) / K * (σ2 / K) := by
    simp only [e]; rw [integral_div, hM, mul_div_assoc]
  have hC' : ∫ ω, Cross.XY_emp_var (D ω) ∂P = ((K : ℝ) - 1) / K * ∫ ω, ‖zbar ω - m‖ ^ 2 ∂P := by
    rw [hC, hz]
  -- likewise `XY_emp_var` (`Auto.XY_emp_var_eq_cross`)
  exact ⟨⟨hC', hC'⟩, hC, hC⟩

/-- … and for K = 1 the generated empirical variance is identically 0 (no scatter information),
    whatever the data -/
theorem emp_var_K1_zero (xx yy : Fin 1 → ℝ) (z : Fin 1 → ℂ) (d : BinData ℝ) :
    let R := Gen._reduce_stats_nb (arr xx) (arr yy) (arr fun k => (z k).re) (arr fun k => (z k).im)
    Auto.XY_emp_var { d with M2 := R.2.2.2.2 } = 0 ∧
    Cross.XY_emp_var { d with M2 := R.2.2.2.2 } = 0 := by
  intro R
  have h0 : R.2.2.2.2 = 0 := by
    simp only [R, reduce_eq Nat.one_pos]
    exact reduce_M2_one _ _ _ _
  have h := AttrsA.XY_emp_var_of_M2_zero { d with M2 := R.2.2.2.2 } h0
  exact ⟨h, h⟩

/-- `emp_var_vs_true` under the textbook hypothesis: pairwise INDEPENDENT products with common mean m -/
theorem emp_var_vs_true_of_indep (hK : 0 < K) (xx yy : Fin K → Ω → ℝ) (z : Fin K → Ω → ℂ)
    (m : ℂ) (σ2 : ℝ) (hL2 : ∀ k, MemLp (z k) 2 P) (hind : Pairwise fun i j => z i ⟂ᵢ[P] z j)
    (hmean : ∀ k, ∫ ω, z k ω ∂P = m) (hvar : ∀ k, ∫ ω, ‖z k ω - m‖ ^ 2 ∂P = σ2)
    (d : BinData ℝ) (hn : d.navg = K) :
    let R := fun ω => Gen._reduce_stats_nb (arr (xx · ω)) (arr (yy · ω))
      (arr fun k => (z k ω).re) (arr fun k => (z k ω).im)
    let D : Ω → BinData ℝ := fun ω => { d with M2 := (R ω).2.2.2.2 }
    let zbar : Ω → ℂ := fun ω => ⟨(R ω).2.2.1, (R ω).2.2.2.1⟩
    ∫ ω, Auto.XY_emp_var (D ω) ∂P = ((K : ℝ) - 1) / K * ∫ ω, ‖zbar ω - m‖ ^ 2 ∂P ∧
    ∫ ω, Cross.XY_emp_var (D ω) ∂P = ((K : ℝ) - 1) / K * ∫ ω, ‖zbar ω - m‖ ^ 2 ∂P ∧
    ∫ ω, ‖zbar ω - m‖ ^ 2 ∂P = σ2 / K := by
  intro R D zbar
  have hunc := StatModel.uncorrelated_of_indep hL2 hind hmean
  have h := emp_var_vs_true hK xx yy z m σ2 hL2 hunc hvar d hn
  exact ⟨h.1.1, h.1.2, _root_.mean_z_variance hK xx yy z m σ2 hL2 hunc hvar⟩

/-- non-vacuity of `Gxx_dev_is_sd_at_truth` / `emp_var_vs_true`: in the product-of-exponentials
    model (auto mode: the reducer receives `xx = yy = xyr = p`, `xyi = 0`) all hypotheses hold, so
    the generated `Gxx_dev` at the truth is the standard deviation of the generated estimate there -/
example (hK : 0 < K) {μ : ℝ} (hμ : 0 < μ) (d : BinData ℝ) (hfs : 0 < d.fs) (hS2 : 0 < d.S2)
    (hXX : d.XX = μ) (hn : d.navg = K) :
    ∃ (P : Measure (Fin K → ℝ)) (_ : IsProbabilityMeasure P) (p : Fin K → (Fin K → ℝ) → ℝ),
      Auto.Gxx_dev d = Real.sqrt (Var[fun ω => Auto.Gxx { d with XX :=
        (Gen._reduce_stats_nb (arr (p · ω)) (arr (p · ω)) (arr (p · ω)) (arr fun _ : Fin K => 0)).1 }; P]) := by
  obtain ⟨P, hP, p, hL2, hind, _, hmean, hvar⟩ := StatModel.hypotheses_satisfiable K hμ
  exact ⟨P, hP, p, (Gxx_dev_is_sd_at_truth hK p p p (fun _ _ => 0) μ hμ.le hL2 hind hmean hvar d
    hfs hS2 hXX hn).1.1⟩

end Main

#print axioms mean_estimator_unbiased
#print axioms mean_estimator_variance
#print axioms Gxx_dev_is_sd_at_truth
#print axioms Gxx_error_is_relative_sd
#print axioms periodogram_exp_law_cv_one
#print axioms emp_var_expectation
#print axioms mean_z_variance
#print axioms emp_var_vs_true
#print axioms emp_var_K1_zero
#print axioms emp_var_vs_true_of_indep
#print axioms StatModel.hypotheses_satisfiable
#print axioms StatModel.vector_hypotheses_satisfiable
