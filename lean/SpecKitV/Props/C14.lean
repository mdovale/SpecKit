/-
  Props/C14 — results do not depend on thread scheduling.  (The other two parts, call history and attribute access
  order: `Model.history_independent`, `Model.lazy_order_independent` in Lemmas/AnalyzerGlue.)

  The translator accepts a `prange` loop only if it is a MAP loop: every store is `arr[j] = e` at the loop index
  into an array the body does not read, and no scalar is carried across iterations (vk/translate.py raises
  `Unsupported` otherwise; Gen/CoreKernels, imported here, then does not build).  Under any thread schedule such a
  loop is a sequence of single-index writes `a[j] := body j` in some order, every index written at least once;
  `prange_any_schedule`: the final array is `body` whatever the order, grouping or repetition.  The translator
  renders the loop as that array, `⟨K, fun j => body j⟩`; the reduction runs after it in one thread.
-/
import SpecKitV.Lemmas.AnalyzerGlue
import SpecKitV.Gen.CoreKernels

namespace Par

/-- executing the writes `a[i] := body i` sequentially in the order `sched` -/
def runWrites {β : Type} (body : ℕ → β) (sched : List ℕ) (init : ℕ → β) : ℕ → β :=
  sched.foldl (fun a i => Function.update a i (body i)) init

theorem runWrites_eq {β : Type} (body : ℕ → β) (sched : List ℕ) (init : ℕ → β) (j : ℕ) :
    runWrites body sched init j = if j ∈ sched then body j else init j := by
  induction sched generalizing init with
  | nil => exact (if_neg List.not_mem_nil).symm
  | cons i rest ih =>
    rw [runWrites, List.foldl_cons]
    refine (ih _).trans ?_
    by_cases hr : j ∈ rest
    · rw [if_pos hr, if_pos (List.mem_cons_of_mem _ hr)]
    · rw [if_neg hr]
      by_cases hij : j = i
      · rw [hij, Function.update_self, if_pos List.mem_cons_self]
      · rw [Function.update_of_ne hij, if_neg fun h => (List.mem_cons.mp h).elim hij hr]

/-- any schedule that writes every index `< K` at least once leaves exactly `body j` at every `j < K` -/
theorem prange_any_schedule {β : Type} (body : ℕ → β) (K : ℕ) (sched : List ℕ) (init : ℕ → β)
    (hcover : ∀ j < K, j ∈ sched) : ∀ j < K, runWrites body sched init j = body j :=
  fun j hj => (runWrites_eq body sched init j).trans (if_pos (hcover j hj))

/-- e.g. 1 thread against 16 threads with any chunk size -/
theorem prange_schedules_agree {β : Type} (body : ℕ → β) (K : ℕ) (s1 s2 : List ℕ) (i1 i2 : ℕ → β)
    (h1 : ∀ j < K, j ∈ s1) (h2 : ∀ j < K, j ∈ s2) :
    ∀ j < K, runWrites body s1 i1 j = runWrites body s2 i2 j := by
  intro j hj
  rw [prange_any_schedule body K s1 i1 h1 j hj, prange_any_schedule body K s2 i2 h2 j hj]

/-- an index the schedule does not contain keeps its value -/
theorem prange_frame {β : Type} (body : ℕ → β) (sched : List ℕ) (init : ℕ → β) (j : ℕ) (h : j ∉ sched) :
    runWrites body sched init j = init j :=
  (runWrites_eq body sched init j).trans (if_neg h)

end Par

#print axioms Par.prange_any_schedule
#print axioms Par.prange_schedules_agree
#print axioms Par.prange_frame
