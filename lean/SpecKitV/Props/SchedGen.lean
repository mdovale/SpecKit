/-
  Props/SchedGen — the machine-translated scheduler loops (`Gen.ltf_plan_walk`, `Gen.new_ltf_plan_walk`,
  from speckit/schedulers.py) ARE the hand-model walks (`Model.walk … (Model.ltfStep …)`, `Model.newWalk`),
  for every configuration and fuel.

  The model walks are `genWalk`s (Lemmas/Walk) and both loops are instances of `whileFuel_emit` (Props/Utils).  `enc` is the
  translator's loop state (`ws1` in Gen/Sched.lean): the live variables in sorted-name order, `(K_arr, L_arr, b_arr, f_arr, fi, fres_arr)`
  and `(K, L, alpha, b, dftlen_crossover, f, fi, j, k_stage2, r, stage2, stage3)`, each list a column of the rows so far.
  A new loop variable moves the positions.  What is left is generated body = model step, by rewriting the translated spelling into the model's: the integer clamp is `Model.clampL` (`clampZ_eq`), `ofInt (↑n)` is `ofNat n`
  (`ofInt_natCast`), and where the translated code computes in ℤ what the model computes in ℕ the cast moves outward (`Nat.cast_ite`,
  `Nat.cast_add_one`, right to left); `apply_ite Prod.fst/snd` reads the variables an `if` assigns off its tuple `brN`.  Both sides stay in
  the interface's own operations: in Mathlib's they agree only up to instance paths (`RealLike.toSub` against `Real.instSub`, two routes
  to `NatCast ℝ`), slow to compare at this size.
-/
import SpecKitV.RealInst
import SpecKitV.Gen.Sched
import SpecKitV.Model.Sched
import SpecKitV.Lemmas.SchedLtf
import SpecKitV.Lemmas.SchedNewVec
import SpecKitV.Props.Utils

theorem gen_ltf_round_eq (v : ℝ) : Gen.ltf_plan_walk__round_half_up v = Model.roundHalfUp v := by
  unfold Gen.ltf_plan_walk__round_half_up Model.roundHalfUp
  simp only [RealLike.ge, RealLike.le]

namespace SchedGen

/-- the two integer clamps of the generated code are the model's natural-valued `clampL`:
    the outer clamp is a maximum with `Lmin ≥ 0`, so `toNat` loses nothing -/
theorem clampZ_eq (N Lmin : ℕ) (d : ℤ) :
    (if (if (N : ℤ) < d then (N : ℤ) else d) < (Lmin : ℤ) then (Lmin : ℤ)
      else if (N : ℤ) < d then (N : ℤ) else d) = ((Model.clampL N Lmin d : ℕ) : ℤ) := by
  refine (Int.toNat_of_nonneg ?_).symm
  rw [← max_def_lt]
  exact le_max_of_le_right (Int.natCast_nonneg Lmin)

theorem ofInt_natCast (n : ℕ) : (RealLike.ofInt (n : ℤ) : ℝ) = RealLike.ofNat n := Int.cast_natCast n

/-- `Kdes - 1` is taken in ℤ by the translated preamble, in the reals by `Model.consts` -/
theorem ofNat_sub_one (n : ℕ) : (RealLike.ofNat n - RealLike.ofNat 1 : ℝ) = RealLike.ofInt ((n : ℤ) - 1) := by
  simp only [RL.ofNat_eq, RL.ofInt_eq, Int.cast_sub, Int.cast_natCast, Int.cast_one, Nat.cast_one]

/-- both walks start at `fmin`, which the translated preamble computes from `ofInt N` -/
theorem fmin_gen (c : Model.Cfg ℝ) : (Model.consts c).fmin = c.fs / RealLike.ofInt (c.N : ℤ) * c.bmin := by
  rw [ofInt_natCast]
  rfl

end SchedGen
open SchedGen

theorem gen_ltf_walk_eq_model (c : Model.Cfg ℝ) (fuel : ℕ) :
    Gen.ltf_plan_walk (c.N : ℤ) c.fs c.olap c.bmin (c.Lmin : ℤ) (c.Jdes : ℤ) (c.Kdes : ℤ) fuel
      = (let w := Model.walk fuel (Model.consts c).fmax (Model.ltfStep c (Model.consts c)) (Model.consts c).fmin
         (w.map (·.1), w.map (·.2.1), w.map (·.2.2.1), w.map (fun e => (e.2.2.2.1 : ℤ)), w.map (·.2.2.2.2))) := by
  rw [fmin_gen c, SchedLtf.walk_eq_genWalk]
  unfold Gen.ltf_plan_walk
  refine whileFuel_emit
    (enc := fun (fi : ℝ) (acc : List (ℝ × ℝ × ℝ × ℕ × ℤ)) => (acc.map (·.2.2.2.2), acc.map (fun e => (e.2.2.2.1 : ℤ)), acc.map (·.2.2.1), acc.map (·.1), fi,
      acc.map (·.2.1)))
    (obs := fun t => (t.2.2.2.1, t.2.2.2.2.2, t.2.2.1, t.2.1, t.1))
    (out := fun w => (w.map (·.1), w.map (·.2.1), w.map (·.2.2.1), w.map (fun e => (e.2.2.2.1 : ℤ)), w.map (·.2.2.2.2)))
    (fun _ _ => rfl) ?_ ?_ fuel _ []
  · refine fun fi acc hc => ⟨hc, ?_⟩
    simp only [gen_ltf_round_eq, Model.ltfStep, Model.nsegRaw, Model.capK, Model.consts, RealLike.one, RealLike.two,
      List.map_append, List.map_cons, List.map_nil, decide_eq_true_eq, gt_iff_lt, apply_ite Prod.snd, beq_iff_eq,
      ofInt_natCast, ofNat_sub_one, clampZ_eq, ← Nat.cast_ite]
  · exact fun _ _ hc => .inl hc

theorem gen_new_walk_eq_model (c : Model.Cfg ℝ) (fuel : ℕ) :
    Gen.new_ltf_plan_walk (c.N : ℤ) c.fs c.olap c.bmin (c.Lmin : ℤ) (c.Jdes : ℤ) (c.Kdes : ℤ) fuel
      = (let w := Model.newWalk fuel c (Model.consts c)
                    { fi := (Model.consts c).fmin, j := 0, stage2 := false, stage3 := false, alpha := 0, kStage2 := 0, crossover := 0 }
         (w.map (·.1), w.map (·.2.1), w.map (·.2.2.1), w.map (fun e => (e.2.2.2.1 : ℤ)), w.map (·.2.2.2.2))) := by
  -- the translated `alpha = 0.0` is `ofNat 0`
  rw [fmin_gen c, ← Nat.cast_zero (R := ℝ), SchedNV.newWalk_eq_genWalk]
  unfold Gen.new_ltf_plan_walk
  refine whileFuel_emit
    (enc := fun (s : Model.NewState ℝ) (acc : List (ℝ × ℝ × ℝ × ℕ × ℤ)) => (acc.map (·.2.2.2.2), acc.map (fun e => (e.2.2.2.1 : ℤ)), s.alpha,
      acc.map (·.2.2.1), s.crossover, acc.map (·.1), s.fi, (s.j : ℤ), (s.kStage2 : ℤ), acc.map (·.2.1), s.stage2, s.stage3))
    (obs := fun t => (t.2.2.2.2.2.1, t.2.2.2.2.2.2.2.2.2.1, t.2.2.2.1, t.2.1, t.1))
    (out := fun w => (w.map (·.1), w.map (·.2.1), w.map (·.2.2.1), w.map (fun e => (e.2.2.2.1 : ℤ)), w.map (·.2.2.2.2)))
    (fun _ _ => rfl) ?_ ?_ fuel
    { fi := _, j := 0, stage2 := false, stage3 := false, alpha := _, kStage2 := 0, crossover := 0 } []
  · refine fun s acc hc => ⟨hc, ?_⟩
    obtain ⟨fi, j, s2, s3, al, ks, cr⟩ := s
    simp only [Model.newStep, Model.capK, Model.consts, RealLike.one, RealLike.two, List.map_append, List.map_cons, List.map_nil,
      decide_eq_true_eq, gt_iff_lt, apply_ite Prod.fst, apply_ite Prod.snd, beq_iff_eq,
      Bool.and_eq_true, ofInt_natCast, ofNat_sub_one, clampZ_eq, ← Nat.cast_ite, ← Nat.cast_add_one, ite_self]
  · exact fun _ _ hc => .inl hc

#print axioms gen_ltf_round_eq
#print axioms gen_ltf_walk_eq_model
#print axioms gen_new_walk_eq_model
