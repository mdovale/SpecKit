/-
  Property C13 "finite for finite input" of the generated attribute definitions (`SpecKitV/Gen/Attrs.lean`),
  at the STRICT partial instance `PReal = Option ℝ`.

  For every finite per-bin record `d` with the sign conditions that hold for real estimates
  (XX, YY, S2, S12, M2 ≥ 0, navg ≥ 1, fs > 0) — and NO non-vanishing assumption, so all-zero and
  constant inputs (XX = YY = XY = S2 = S12 = 0) are covered — every density, coherence and
  transfer-function attribute evaluates to a finite number, and so do the error bars wherever the
  coherence is in (0, 1].

  The `lift_*` lemmas show more: the strict evaluation succeeds AND agrees with the
  total evaluation at ℝ: `attr (lift d) = some (attr d)`; `lift_X` is about `Cross.X`, or about `Auto.X`
  where only the auto table has an `X`.  First the attributes with a guard, then those computed from them.
-/
import SpecKitV.PReal
import SpecKitV.Props.AttrsA
open Gen PReal

set_option linter.unusedSectionVars false
set_option linter.unusedSimpArgs false   -- the commutativity lemmas rewrite nothing in the source as it is

namespace C13Finite

/-- the admissible finite inputs -/
def Adm (d : BinData ℝ) : Prop :=
  0 ≤ d.XX ∧ 0 ≤ d.YY ∧ 0 ≤ d.S2 ∧ 0 ≤ d.S12 ∧ 0 ≤ d.M2 ∧ 1 ≤ d.navg ∧ 0 < d.fs

theorem lift_Gxx (d : BinData ℝ) (hfs : d.fs ≠ 0) :
    Cross.Gxx (BinData.lift d) = some (Cross.Gxx d) := by
  simp only [Cross.Gxx, BinData.lift, bne_some_zero, ofSci_eq, mul_some, mul_comm d.S2]
  exact guard_div fun h => mul_ne_zero hfs (AttrsA.bne_zero_true h)

theorem lift_Gyy (d : BinData ℝ) (hfs : d.fs ≠ 0) :
    Cross.Gyy (BinData.lift d) = some (Cross.Gyy d) := by
  simp only [Cross.Gyy, BinData.lift, bne_some_zero, ofSci_eq, mul_some, mul_comm d.S2]
  exact guard_div fun h => mul_ne_zero hfs (AttrsA.bne_zero_true h)

theorem lift_Gxy (d : BinData ℝ) (hfs : d.fs ≠ 0) :
    Cross.Gxy (BinData.lift d) = cx (Cross.Gxy d) := by
  simp only [Cross.Gxy, BinData.lift, bne_some_zero, ofSci_eq, mul_some, cx_smul, mul_comm d.S2]
  exact guard_divReal fun h => mul_ne_zero hfs (AttrsA.bne_zero_true h)

theorem lift_ENBW (d : BinData ℝ) : Cross.ENBW (BinData.lift d) = some (Cross.ENBW d) := by
  simp only [Cross.ENBW, BinData.lift, bne_some_zero, mul_some]
  exact guard_div AttrsA.bne_zero_true

theorem lift_Hxy (d : BinData ℝ) : Cross.Hxy (BinData.lift d) = cx (Cross.Hxy d) := by
  simp only [Cross.Hxy, BinData.lift, bne_some_zero, cx_conj]
  exact guard_divReal AttrsA.bne_zero_true

theorem lift_coh (d : BinData ℝ) : Cross.coh (BinData.lift d) = some (Cross.coh d) := by
  simp only [Cross.coh, BinData.lift, bne_some_zero, cx_abs, mul_some]
  -- `h` is the conjunction of the two guards, in the order the source has them
  exact guard_div fun h => by simpa [and_comm] using h

theorem lift_ccoh (d : BinData ℝ) (hX : 0 ≤ d.XX) (hY : 0 ≤ d.YY) :
    Cross.ccoh (BinData.lift d) = cx (Cross.ccoh d) := by
  simp only [Cross.ccoh, BinData.lift, bne_some_zero, mul_some, mul_comm d.YY,
    sqrt_some_of_nonneg (mul_nonneg hX hY), RL.sqrt_eq]
  refine guard_divReal fun h => Real.sqrt_ne_zero'.2 ((mul_nonneg hX hY).lt_of_ne' ?_)
  simpa [and_comm] using h

theorem lift_XY_emp_var (d : BinData ℝ) :
    Cross.XY_emp_var (BinData.lift d) = some (Cross.XY_emp_var d) := by
  simp only [Cross.XY_emp_var, BinData.lift, gt_some_zero]
  exact guard_div fun h => (AttrsA.gt_zero_true h).ne'

/-! Below, where a proof ends in `rfl`, both sides are the same expression and what is left to compare is
an operation of the ℝ instance with the Mathlib function it is defined to be.  `BinData.lift_navg` reads the
field: an unfolded `BinData.lift` hides `lift d` from the lemmas above. -/

theorem lift_Gyx (d : BinData ℝ) (hfs : d.fs ≠ 0) :
    Cross.Gyx (BinData.lift d) = cx (Cross.Gyx d) := by
  simp only [Cross.Gyx, lift_Gxy d hfs, cx_conj]

theorem lift_cs (d : BinData ℝ) (hfs : d.fs ≠ 0) :
    Cross.cs (BinData.lift d) = cx (Cross.cs d) := by
  simp only [Cross.cs, Cross.csd, lift_Gxy d hfs, lift_ENBW, cx_smul]

theorem lift_asd (d : BinData ℝ) (hX : 0 ≤ d.XX) (hS : 0 ≤ d.S2) (hfs : 0 < d.fs) :
    Auto.asd (BinData.lift d) = some (Auto.asd d) := by
  have h0 : 0 ≤ Cross.Gxx d := by rw [AttrsA.cGxx]; positivity
  simp only [Auto.asd, Auto.psd, Auto.Gxx_eq_cross, lift_Gxx d hfs.ne', sqrt_some_of_nonneg h0]
  rfl

theorem lift_ps (d : BinData ℝ) (hfs : d.fs ≠ 0) :
    Auto.ps (BinData.lift d) = some (Auto.ps d) := by
  simp only [Auto.ps, Auto.psd, Auto.Gxx_eq_cross, Auto.ENBW_eq_cross, lift_Gxx d hfs, lift_ENBW,
    mul_some]

theorem lift_Hyx (d : BinData ℝ) : Cross.Hyx (BinData.lift d) = cx (Cross.Hyx d) := by
  simp only [Cross.Hyx, lift_Hxy, cx_conj]

theorem lift_cf (d : BinData ℝ) : Cross.cf (BinData.lift d) = some (Cross.cf d) := by
  simp only [Cross.cf, lift_Hxy, cx_abs]

theorem lift_cf_rad (d : BinData ℝ) : Cross.cf_rad (BinData.lift d) = some (Cross.cf_rad d) := by
  simp only [Cross.cf_rad, lift_Hxy, cx_re, cx_im, atan2_some]
  rfl

theorem lift_cf_deg (d : BinData ℝ) : Cross.cf_deg (BinData.lift d) = some (Cross.cf_deg d) := by
  simp only [Cross.cf_deg, lift_Hxy, cx_re, cx_im, atan2_some, ofNat_eq, pi_eq,
    div_some_of_ne _ Real.pi_ne_zero, mul_some]
  rfl

theorem lift_GyyCx (d : BinData ℝ) (hfs : d.fs ≠ 0) :
    Cross.GyyCx (BinData.lift d) = some (Cross.GyyCx d) := by
  simp only [Cross.GyyCx, lift_coh, lift_Gyy d hfs, mul_some]

theorem lift_GyyRx (d : BinData ℝ) (hfs : d.fs ≠ 0) :
    Cross.GyyRx (BinData.lift d) = some (Cross.GyyRx d) := by
  simp only [Cross.GyyRx, lift_coh, lift_Gyy d hfs, ofNat_eq, sub_some, mul_some]
  rfl

theorem lift_GyySx (d : BinData ℝ) (hfs : d.fs ≠ 0) :
    Cross.GyySx (BinData.lift d) = some (Cross.GyySx d) := by
  simp only [Cross.GyySx, lift_Gyy d hfs, lift_Gxx d hfs, lift_Hxy, lift_Hyx, lift_Gyx d hfs,
    lift_Gxy d hfs, cx_ofReal, cx_mul, cx_smul, cx_add, cx_sub, cx_abs]

theorem lift_XY_emp_dev (d : BinData ℝ) (hM : 0 ≤ d.M2) :
    Cross.XY_emp_dev (BinData.lift d) = some (Cross.XY_emp_dev d) := by
  rw [AttrsA.XY_emp_dev_eq_sqrt, lift_XY_emp_var, sqrt_some_of_nonneg (AttrsA.XY_emp_var_nonneg d hM)]
  rfl

/-- `Gxy_emp_dev` and the auto table's `Gxx_emp_dev` are two statements of the source with the same right-hand side -/
theorem lift_Gxy_emp_dev (d : BinData ℝ) (hM : 0 ≤ d.M2) (hfs : d.fs ≠ 0) :
    Cross.Gxy_emp_dev (BinData.lift d) = some (Cross.Gxy_emp_dev d) ∧
    Auto.Gxx_emp_dev (BinData.lift d) = some (Auto.Gxx_emp_dev d) := by
  have h := lift_XY_emp_dev d hM
  simp only [Cross.XY_emp_dev] at h
  simp only [Cross.Gxy_emp_dev, Auto.Gxx_emp_dev, h]
  simp only [BinData.lift, gt_some_zero, ofSci_eq, mul_some, mul_comm d.S2,
    guard_div (b := d.fs * d.S2) fun h => mul_ne_zero hfs (AttrsA.gt_zero_true h).ne']
  exact ⟨rfl, rfl⟩

theorem lift_Gxx_dev (d : BinData ℝ) (hn : 0 < d.navg) (hfs : d.fs ≠ 0) :
    Cross.Gxx_dev (BinData.lift d) = some (Cross.Gxx_dev d) := by
  simp only [Cross.Gxx_dev, lift_Gxx d hfs, BinData.lift_navg, sqrt_some_of_nonneg hn.le,
    div_some_of_ne _ (Real.sqrt_ne_zero'.2 hn)]
  rfl

theorem lift_Gyy_dev (d : BinData ℝ) (hn : 0 < d.navg) (hfs : d.fs ≠ 0) :
    Cross.Gyy_dev (BinData.lift d) = some (Cross.Gyy_dev d) := by
  simp only [Cross.Gyy_dev, lift_Gyy d hfs, BinData.lift_navg, sqrt_some_of_nonneg hn.le,
    div_some_of_ne _ (Real.sqrt_ne_zero'.2 hn)]
  rfl

theorem lift_Gxx_error (d : BinData ℝ) (hn : 0 < d.navg) :
    Cross.Gxx_error (BinData.lift d) = some (Cross.Gxx_error d) := by
  simp only [Cross.Gxx_error, BinData.lift_navg, ofNat_eq, sqrt_some_of_nonneg hn.le,
    div_some_of_ne _ (Real.sqrt_ne_zero'.2 hn)]
  rfl

/-- `Cross.Gyy_error` is spelled as `Cross.Gxx_error` -/
theorem lift_Gyy_error (d : BinData ℝ) (hn : 0 < d.navg) :
    Cross.Gyy_error (BinData.lift d) = some (Cross.Gyy_error d) := lift_Gxx_error d hn

theorem cabs_nonneg (z : Cx ℝ) : 0 ≤ Cx.abs z := Cx.abs_nonneg z

theorem lift_Gxy_dev (d : BinData ℝ) (hn : 0 < d.navg) (hfs : d.fs ≠ 0) (hc : 0 < Cross.coh d) :
    Cross.Gxy_dev (BinData.lift d) = some (Cross.Gxy_dev d) := by
  have h0 : 0 ≤ Cx.abs (Cross.Gxy d) * Cx.abs (Cross.Gxy d) / Cross.coh d / d.navg :=
    div_nonneg (div_nonneg (mul_self_nonneg _) hc.le) hn.le
  simp only [Cross.Gxy_dev, lift_Gxy d hfs, lift_coh, BinData.lift_navg, cx_abs, mul_some,
    div_some_of_ne _ hc.ne', div_some_of_ne _ hn.ne', sqrt_some_of_nonneg h0]
  rfl

/-- the common divisor `sqrt(coh·2·navg)` of the transfer-function error bars (the literal as the
strict instance reads it) -/
theorem den_pos (d : BinData ℝ) (hn : 0 < d.navg) (hc : 0 < Cross.coh d) :
    0 < Cross.coh d * ((2 : ℕ) : ℝ) * d.navg := by positivity

theorem lift_Hxy_mag_error (d : BinData ℝ) (hn : 0 < d.navg) (hc : 0 < Cross.coh d) :
    Cross.Hxy_mag_error (BinData.lift d) = some (Cross.Hxy_mag_error d) := by
  have hp := den_pos d hn hc
  simp only [Cross.Hxy_mag_error, lift_coh, BinData.lift_navg, ofNat_eq, sub_some, abs_some, mul_some, sqrt_some_of_nonneg (abs_nonneg _),
    sqrt_some_of_nonneg hp.le, div_some_of_ne _ (Real.sqrt_ne_zero'.2 hp)]
  rfl

theorem lift_Hxy_dev (d : BinData ℝ) (hn : 0 < d.navg) (hc : 0 < Cross.coh d) :
    Cross.Hxy_dev (BinData.lift d) = some (Cross.Hxy_dev d) := by
  have hp := den_pos d hn hc
  simp only [Cross.Hxy_dev, lift_Hxy, lift_coh, BinData.lift_navg, cx_abs, ofNat_eq,
    sub_some, abs_some, mul_some, sqrt_some_of_nonneg (abs_nonneg _),
    sqrt_some_of_nonneg hp.le, div_some_of_ne _ (Real.sqrt_ne_zero'.2 hp)]
  rfl

theorem lift_coh_dev (d : BinData ℝ) (hn : 0 < d.navg) :
    Cross.coh_dev (BinData.lift d) = some (Cross.coh_dev d) := by
  simp only [Cross.coh_dev, lift_coh, BinData.lift_navg, ofNat_eq, mul_some, sub_some, abs_some,
    div_some_of_ne _ hn.ne', sqrt_some_of_nonneg (abs_nonneg _)]
  rfl

theorem lift_Gxy_error (d : BinData ℝ) (hn : 0 < d.navg) (hc : 0 < Cross.coh d) :
    Cross.Gxy_error (BinData.lift d) = some (Cross.Gxy_error d) := by
  have hp : 0 < Cross.coh d * d.navg := mul_pos hc hn
  simp only [Cross.Gxy_error, lift_coh, BinData.lift_navg, ofNat_eq, mul_some,
    sqrt_some_of_nonneg hp.le, div_some_of_ne _ (Real.sqrt_ne_zero'.2 hp)]
  rfl

theorem lift_Hxy_rad_error (d : BinData ℝ) (hn : 0 < d.navg) (hc : 0 < Cross.coh d)
    (hc1 : Cross.coh d ≤ 1) :
    Cross.Hxy_rad_error (BinData.lift d) = some (Cross.Hxy_rad_error d) := by
  have hp := den_pos d hn hc
  have ha : abs (Real.sqrt (abs (((1 : ℕ) : ℝ) - Cross.coh d))) ≤ 1 := by
    rw [Nat.cast_one, abs_of_nonneg (Real.sqrt_nonneg _), Real.sqrt_le_one,
      abs_of_nonneg (sub_nonneg.2 hc1)]
    exact sub_le_self 1 hc.le
  simp only [Cross.Hxy_rad_error, lift_coh, BinData.lift_navg, ofNat_eq, sub_some, abs_some, mul_some, sqrt_some_of_nonneg (abs_nonneg _),
    sqrt_some_of_nonneg hp.le, arcsin_some_of_abs_le ha, div_some_of_ne _ (Real.sqrt_ne_zero'.2 hp)]
  rfl

theorem lift_Hxy_deg_error (d : BinData ℝ) (hn : 0 < d.navg) (hc : 0 < Cross.coh d)
    (hc1 : Cross.coh d ≤ 1) :
    Cross.Hxy_deg_error (BinData.lift d) = some (Cross.Hxy_deg_error d) := by
  simp only [Cross.Hxy_deg_error, lift_Hxy_rad_error d hn hc hc1, ofNat_eq, pi_eq,
    div_some_of_ne _ Real.pi_ne_zero, mul_some]
  rfl

theorem lift_coh_error (d : BinData ℝ) (hn : 0 < d.navg) (hc : 0 < Cross.coh d) :
    Cross.coh_error (BinData.lift d) = some (Cross.coh_error d) := by
  simp only [Cross.coh_error, lift_coh, BinData.lift_navg, ofNat_eq, sub_some, mul_some,
    sqrt_some_of_nonneg (Nat.cast_nonneg 2), sqrt_some_of_nonneg hc.le, sqrt_some_of_nonneg hn.le,
    div_some_of_ne _ (mul_ne_zero (Real.sqrt_ne_zero'.2 hc) (Real.sqrt_ne_zero'.2 hn))]
  rfl

section
variable (d : BinData ℝ)
  (H : 0 ≤ d.XX ∧ 0 ≤ d.YY ∧ 0 ≤ d.S2 ∧ 0 ≤ d.S12 ∧ 0 ≤ d.M2 ∧ 1 ≤ d.navg ∧ 0 < d.fs)
include H

local notation "D" => BinData.lift d

theorem densities_finite :
    Fin (Gen.Cross.Gxx D) ∧ Fin (Gen.Cross.Gyy D) ∧ CFin (Gen.Cross.Gxy D) ∧ CFin (Gen.Cross.Gyx D) ∧
    CFin (Gen.Cross.csd D) ∧ CFin (Gen.Cross.cs D) ∧
    Fin (Gen.Cross.ENBW D) ∧ Fin (Gen.Auto.Gxx D) ∧ Fin (Gen.Auto.psd D) ∧ Fin (Gen.Auto.asd D) ∧
    Fin (Gen.Auto.ps D) ∧ Fin (Gen.Auto.ENBW D) := by
  obtain ⟨hX, hY, hS2, hS12, hM, hn, hfs⟩ := H
  have hf := hfs.ne'
  simp only [Cross.csd, Auto.Gxx_eq_cross, Auto.psd, Auto.ENBW_eq_cross, lift_Gxx d hf, lift_Gyy d hf,
    lift_Gxy d hf, lift_Gyx d hf, lift_cs d hf, lift_ENBW, lift_asd d hX hS2 hfs, lift_ps d hf,
    fin_some, cfin_cx, and_self]

theorem coherence_finite : Fin (Gen.Cross.coh D) ∧ CFin (Gen.Cross.ccoh D) := by
  obtain ⟨hX, hY, hS2, hS12, hM, hn, hfs⟩ := H
  simp only [lift_coh, lift_ccoh d hX hY, fin_some, cfin_cx, and_self]

theorem tf_finite :
    CFin (Gen.Cross.Hxy D) ∧ CFin (Gen.Cross.Hyx D) ∧ CFin (Gen.Cross.tf D) ∧ Fin (Gen.Cross.cf D) ∧
    Fin (Gen.Cross.cf_rad D) ∧ Fin (Gen.Cross.cf_deg D) := by
  simp only [Cross.tf, lift_Hxy, lift_Hyx, lift_cf, lift_cf_rad, lift_cf_deg, fin_some, cfin_cx,
    and_self]

theorem conditioned_finite :
    Fin (Gen.Cross.GyyCx D) ∧ Fin (Gen.Cross.GyyRx D) ∧ Fin (Gen.Cross.GyySx D) := by
  obtain ⟨hX, hY, hS2, hS12, hM, hn, hfs⟩ := H
  have hf := hfs.ne'
  simp only [lift_GyyCx d hf, lift_GyyRx d hf, lift_GyySx d hf, fin_some, and_self]

theorem empirical_finite :
    Fin (Gen.Cross.XY_emp_var D) ∧ Fin (Gen.Cross.XY_emp_dev D) ∧ Fin (Gen.Cross.Gxy_emp_dev D) ∧
    Fin (Gen.Auto.XY_emp_var D) ∧ Fin (Gen.Auto.XY_emp_dev D) ∧ Fin (Gen.Auto.Gxx_emp_dev D) := by
  obtain ⟨hX, hY, hS2, hS12, hM, hn, hfs⟩ := H
  simp only [Auto.XY_emp_var_eq_cross, Auto.XY_emp_dev_eq_cross, lift_XY_emp_var, lift_XY_emp_dev d hM,
    lift_Gxy_emp_dev d hM hfs.ne', fin_some, and_self]

theorem auto_errors_finite :
    Fin (Gen.Auto.Gxx_dev D) ∧ Fin (Gen.Auto.Gyy_dev D) ∧ Fin (Gen.Auto.Gxx_error D) ∧
    Fin (Gen.Auto.Gyy_error D) := by
  obtain ⟨hX, hY, hS2, hS12, hM, hn, hfs⟩ := H
  have hn0 : 0 < d.navg := one_pos.trans_le hn
  simp only [Auto.Gyy_dev, Auto.Gyy_error, Auto.Gxx_dev_eq_cross, Auto.Gxx_error_eq_cross,
    lift_Gxx_dev d hn0 hfs.ne', lift_Gxx_error d hn0, fin_some, and_self]

theorem cross_errors_finite (hc : ∃ g : ℝ, Gen.Cross.coh D = some g ∧ 0 < g ∧ g ≤ 1) :
    Fin (Gen.Cross.Gxx_dev D) ∧ Fin (Gen.Cross.Gyy_dev D) ∧ Fin (Gen.Cross.Gxy_dev D) ∧
    Fin (Gen.Cross.Hxy_dev D) ∧ Fin (Gen.Cross.coh_dev D) ∧
    Fin (Gen.Cross.Gxx_error D) ∧ Fin (Gen.Cross.Gyy_error D) ∧ Fin (Gen.Cross.Gxy_error D) ∧
    Fin (Gen.Cross.Hxy_mag_error D) ∧
    Fin (Gen.Cross.Hxy_rad_error D) ∧ Fin (Gen.Cross.Hxy_deg_error D) ∧ Fin (Gen.Cross.coh_error D) := by
  obtain ⟨hX, hY, hS2, hS12, hM, hn, hfs⟩ := H
  have hf := hfs.ne'
  have hn0 : 0 < d.navg := one_pos.trans_le hn
  obtain ⟨g, hg, hg0, hg1⟩ := hc
  rw [lift_coh] at hg
  obtain rfl : Cross.coh d = g := Option.some.inj hg
  simp only [lift_Gxx_dev d hn0 hf, lift_Gyy_dev d hn0 hf, lift_Gxy_dev d hn0 hf hg0,
    lift_Hxy_dev d hn0 hg0, lift_coh_dev d hn0, lift_Gxx_error d hn0, lift_Gyy_error d hn0,
    lift_Gxy_error d hn0 hg0, lift_Hxy_mag_error d hn0 hg0, lift_Hxy_rad_error d hn0 hg0 hg1,
    lift_Hxy_deg_error d hn0 hg0 hg1, lift_coh_error d hn0 hg0, fin_some, and_self]

end

/-- the guards matter: without the guard the zero-input transfer function is NOT finite -/
example : (RealLike.ofNat 1 : PReal) / (RealLike.ofNat 0 : PReal) = none := by simp

/-- and `cf_db` (20·log10 |H|) is legitimately −∞ at a zero transfer function: not finite, and
    excluded from the claim -/
example : Gen.Cross.cf_db (BinData.lift
    { XX := 0, YY := 1, XY := ⟨0, 0⟩, S12 := 1, S2 := 1, M2 := 0, navg := 1, fs := 1 }) = none := by
  simp [Cross.cf_db, Cross.cf, Cross.Hxy, Cx.abs, Cx.ofReal, Cx.normSq]

/-- the hypothesis `0 < coh` of `cross_errors_finite` is needed: at an all-zero record (coherence 0)
    the relative error `1/sqrt(coh·navg)` is a division by zero -/
example : Gen.Cross.Gxy_error (BinData.lift
    { XX := 0, YY := 0, XY := ⟨0, 0⟩, S12 := 0, S2 := 0, M2 := 0, navg := 1, fs := 1 }) = none := by
  simp [Cross.Gxy_error, Cross.coh]

/-- … and so is `coh ≤ 1` (for the phase error only): `arcsin(sqrt|1 − coh|)` leaves its domain for
    coh > 2 (impossible for real estimates, |XY|² ≤ XX·YY) -/
example : Gen.Cross.Hxy_rad_error (BinData.lift
    { XX := 1, YY := 1, XY := ⟨2, 0⟩, S12 := 1, S2 := 1, M2 := 0, navg := 1, fs := 1 }) = none := by
  -- the coherence is 4, and `√|1 − 4| > 1`
  have h : (1 : ℝ) < abs (Real.sqrt (abs (((1 : ℕ) : ℝ) - Cx.normSq ⟨2, 0⟩ / (1 * 1)))) := by
    rw [abs_of_nonneg (Real.sqrt_nonneg _), Real.lt_sqrt zero_le_one]
    norm_num [Cx.normSq]
  simp only [Cross.Hxy_rad_error, lift_coh, AttrsA.ccoh, ofNat_eq, sub_some, abs_some, sqrt_some_of_nonneg (abs_nonneg _),
    arcsin_some_of_one_lt h, none_div]

end C13Finite

#print axioms C13Finite.densities_finite
#print axioms C13Finite.coherence_finite
#print axioms C13Finite.tf_finite
#print axioms C13Finite.conditioned_finite
#print axioms C13Finite.empirical_finite
#print axioms C13Finite.auto_errors_finite
#print axioms C13Finite.cross_errors_finite
