/-
  SpecKitV.Props.C04Vec — property C04 for the vectorised (lookup-table) scheduler:
  the parameter map is monotone in the grid frequency, the lookup grid is non-decreasing and
  positive, hence along `Model.vecPlan` the segment length never increases and the number of
  averages never decreases.
-/
import SpecKitV.Props.C04

open Sched PlanC02

theorem vecGridPoint_mono (c : Model.Cfg ℝ) (h : Adm c) (rmin ravg clog f1 f2 : ℝ)
    (hr : 0 < rmin) (hra : rmin ≤ ravg) (hc : 0 < clog) (h1 : 0 < f1) (h12 : f1 ≤ f2) :
    (Model.vecGridPoint c (1 - c.olap) rmin ravg clog f2).2.1 ≤ (Model.vecGridPoint c (1 - c.olap) rmin ravg clog f1).2.1 ∧
    (Model.vecGridPoint c (1 - c.olap) rmin ravg clog f1).2.2 ≤ (Model.vecGridPoint c (1 - c.olap) rmin ravg clog f2).2.2 := by
  rw [SchedNV.vecGridPoint_eq_stepAt h.hLminN, SchedNV.vecGridPoint_eq_stepAt h.hLminN]
  exact stepAt_mono roundEven_nearest h (sub_pos.mpr h.holap1) hr hra hc.le h1 h12

namespace VecMono
open Model

/-- exponent of the `i`-th point of `logGrid a b n` -/
noncomputable def gy (a b : ℝ) (n i : ℕ) : ℝ :=
  if n ≤ 1 then a else if i + 1 = n then b else a + (i : ℝ) * ((b - a) / ((n - 1 : ℕ) : ℝ))

theorem logGrid_eq (a b : ℝ) (n i : ℕ) : logGrid a b n i = (10 : ℝ) ^ gy a b n i := by
  unfold logGrid gy
  simp only [RL.pow_eq, RL.ofNat_eq, beq_iff_eq, Nat.cast_ofNat, RLadd, RLmul,
    RLsub, RLdiv]

/-- over ℝ the last point, forced to `b`, is where the linear rule puts it anyway -/
theorem gy_eq (a b : ℝ) {n i : ℕ} (hn : ¬ n ≤ 1) :
    gy a b n i = a + (i : ℝ) * ((b - a) / ((n - 1 : ℕ) : ℝ)) := by
  unfold gy
  rw [if_neg hn]
  split_ifs with hi
  · have hm : ((n - 1 : ℕ) : ℝ) ≠ 0 := Nat.cast_ne_zero.mpr (by omega)
    rw [show i = n - 1 by omega, mul_div_cancel₀ _ hm]
    ring
  · rfl

theorem gy_mono {a b : ℝ} (hab : a ≤ b) {n i j : ℕ} (hij : i ≤ j) :
    gy a b n i ≤ gy a b n j := by
  by_cases hn : n ≤ 1
  · unfold gy
    rw [if_pos hn, if_pos hn]
  · rw [gy_eq a b hn, gy_eq a b hn]
    have hs : 0 ≤ (b - a) / ((n - 1 : ℕ) : ℝ) := div_nonneg (sub_nonneg.mpr hab) (Nat.cast_nonneg _)
    exact (add_le_add_iff_left a).mpr (mul_le_mul_of_nonneg_right (Nat.cast_le.mpr hij) hs)

theorem vecGrid_eq (c : Cfg ℝ) (i : ℕ) :
    vecGrid c i = (10 : ℝ) ^ gy (Real.logb 10 (c.bmin * c.fs / (c.N : ℝ))) (Real.logb 10 (c.fs / 2))
      (10 * c.Jdes) i := by
  unfold vecGrid
  rw [logGrid_eq]
  simp only [RL.log10_eq, RL.ofNat_eq, RL.two_eq, RLmul, RLdiv]

theorem log_ends {c : Cfg ℝ} (h : Adm c) :
    Real.logb 10 (c.bmin * c.fs / (c.N : ℝ)) ≤ Real.logb 10 (c.fs / 2) := by
  have hlt := fmin_lt_fmax h
  have hpos := fmin_pos h
  rw [fmin_eq, div_mul_eq_mul_div, mul_comm] at hlt hpos
  rw [fmax_eq] at hlt
  exact Real.logb_le_logb_of_le (by norm_num) hpos hlt.le

theorem vecGrid_le {c : Cfg ℝ} (h : Adm c) {i j : ℕ} (hij : i ≤ j) : vecGrid c i ≤ vecGrid c j := by
  rw [vecGrid_eq, vecGrid_eq]
  exact Real.rpow_le_rpow_of_exponent_le (by norm_num) (gy_mono (log_ends h) hij)

end VecMono

open VecMono

-- the checks list the next two so (`vk/props/C04.py`): the bound on `j` and `h` (a power of 10 is positive) are unused
theorem vecGrid_mono (c : Model.Cfg ℝ) (h : Adm c) : ∀ i j, i ≤ j → j < 10 * c.Jdes → Model.vecGrid c i ≤ Model.vecGrid c j :=
  fun _ _ hij _ => vecGrid_le h hij

set_option linter.unusedVariables false in
theorem vecGrid_pos (c : Model.Cfg ℝ) (h : Adm c) (i : ℕ) : 0 < Model.vecGrid c i := by
  rw [vecGrid_eq]
  exact Real.rpow_pos_of_pos (by norm_num) _

theorem VecMono.vecMap_mono {c : Model.Cfg ℝ} (h : Adm c) {i j : ℕ} (hij : i ≤ j) :
    (vecMap c j).2.1 ≤ (vecMap c i).2.1 ∧ (vecMap c i).2.2 ≤ (vecMap c j).2.2 := by
  rw [vecMap_consts, vecMap_consts, xov_eq]
  exact vecGridPoint_mono c h _ _ _ _ _ (fresmin_pos h) (fresmin_le_freslim h)
    (logfact_pos h) (vecGrid_pos c h i) (vecGrid_le h hij)

/-- a later frequency is looked up at a later grid point -/
theorem vecPlan_monotone (c : Model.Cfg ℝ) (h : Adm c) (fuel : ℕ) :
    (Model.vecPlan c fuel).Pairwise (fun a b => b.L ≤ a.L ∧ a.K ≤ b.K) := by
  apply pairwise_mono_of_chain
  rw [vecPlan_map, List.isChain_map, vecEntries, SchedNV.vecWalk_eq_genWalk]
  refine genWalk.isChain' fun f _ _ => ?_
  dsimp only [mkVec]
  exact vecMap_mono h
    (SchedNV.searchLeft_mono (Model.vecGrid c) (10 * c.Jdes) (u := f)
      (le_add_of_nonneg_right ((vecMap_ok h _).r_pos h.hfs).le))

#print axioms vecGridPoint_mono
#print axioms vecGrid_mono
#print axioms vecGrid_pos
#print axioms vecPlan_monotone
