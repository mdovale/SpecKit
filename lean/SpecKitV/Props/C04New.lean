/-
  SpecKitV.Props.C04New — property C04 for the multi-stage scheduler: along `Model.newPlan` the
  segment length never increases and the number of averages never decreases (`newPlan_monotone`,
  any fuel).

  The reported `L` is the larger of `ruleL (len s)` (the clamped stage length) and `ruleL (lenBmin fi)`
  (the clamped bmin length), and `K` is antitone in `L`.  `lenBmin` falls as the frequency rises, and
  `len s` never grows under the state invariant `Inv`.  What `Inv` has to exclude: the decay rate
  of the transition bin is computed from the PREVIOUS bin's length (`s.crossover`, 0 in the
  first bin), as in the source, and a positive rate would make stage 2 grow.  A positive
  rate needs `crossover < Lmin`; the stage-1 length is antitone in the frequency, so the transition
  length is then `< Lmin` as well and the loop falls through to stage 3 at once.
-/
import SpecKitV.Props.C04

namespace NewMono
open Model Sched

theorem lenBmin_anti {c : Cfg ℝ} (h : Adm c) {f1 f2 : ℝ} (h1 : 0 < f1) (h12 : f1 ≤ f2) :
    lenBmin c f2 ≤ lenBmin c f1 := by
  have hb : 0 ≤ c.fs * c.bmin := mul_nonneg h.hfs.le (one_pos.trans_le h.hbmin1).le
  exact clampL_mono _ _ (Int.ceil_le_ceil (div_le_div_of_nonneg_left hb h1 h12))

/-- the reported length is the larger candidate: the bmin rule fires exactly when the stage
    length, after the single-segment rule, is below `⌈fs·bmin/fi⌉` -/
theorem out_L {c : Cfg ℝ} (h : Adm c) (s : NewState ℝ) (hfi : 0 < s.fi) :
    (newStep c (consts c) s).1.2.2.1 =
      max (ruleL RealLike.roundEven c.N (consts c).xov (len c (consts c) s))
        (ruleL RealLike.roundEven c.N (consts c).xov (lenBmin c s.fi)) := by
  have hx := xov_pos h
  have hl := len_bounds h (consts c) s
  have hB := lenBmin_bounds h s.fi
  have hBf : ((lenBmin c s.fi : ℕ) : ℤ) = _ := clampL_cast c.N c.Lmin ⌈c.fs * c.bmin / s.fi⌉
  set R := ruleL RealLike.roundEven c.N (consts c).xov (len c (consts c) s)
  have hRb : c.Lmin ≤ R ∧ R ≤ c.N := ruleL_bounds c.N (consts c).xov hl.1 hl.2
  have e : s.fi / (c.fs / (R : ℝ)) < c.bmin ↔ (R : ℤ) < ⌈c.fs * c.bmin / s.fi⌉ := by
    rw [Int.lt_ceil, div_div_eq_mul_div, div_lt_iff₀ h.hfs, lt_div_iff₀ hfi, Int.cast_natCast,
      mul_comm s.fi, mul_comm c.bmin]
  have hidem : ruleL RealLike.roundEven c.N (consts c).xov R = R :=
    ruleL_idem c.N (consts c).xov (len c (consts c) s)
  rw [newStep_out]
  split_ifs with hc
  · have h4 : R ≤ lenBmin c s.fi := by
      rw [← Int.ofNat_le, hBf]
      exact le_max_of_le_left (le_min (e.mp hc).le (Int.ofNat_le.mpr hRb.2))
    have := ruleL_mono roundEven_nearest hx (h.hLmin1.trans hRb.1) h4 hB.2
    rw [hidem] at this
    exact (max_eq_right this).symm
  · have h4 : lenBmin c s.fi ≤ R := by
      rw [← Int.ofNat_le, hBf]
      exact max_le ((min_le_left _ _).trans (not_lt.mp (mt e.mpr hc))) (Int.ofNat_le.mpr hRb.1)
    have := ruleL_mono roundEven_nearest hx (h.hLmin1.trans hB.1) h4 hRb.2
    rw [hidem] at this
    exact (max_eq_left this).symm

theorem out_K (c : Cfg ℝ) (k : Consts ℝ) (s : NewState ℝ) :
    (newStep c k s).1.2.2.2 =
      capK c.N (newStep c k s).1.2.2.1 (cnt RealLike.roundEven c.N k.xov (newStep c k s).1.2.2.1) := by
  rw [newStep_out]
  split_ifs <;> exact binAt_K roundEven_nearest

theorem newK_anti (N : ℕ) (xov : ℝ) (hx : 0 < xov) {L1 L2 : ℕ} (h1 : 1 ≤ L1) (h12 : L1 ≤ L2) :
    capK N L2 (cnt RealLike.roundEven N xov L2) ≤ capK N L1 (cnt RealLike.roundEven N xov L1) :=
  capK_anti h12 (cnt_anti roundEven_nearest hx h1 h12)

/-- stage-1 length before clamping, as a function of the frequency -/
noncomputable def d1 (c : Cfg ℝ) (k : Consts ℝ) (fi : ℝ) : ℤ :=
  RealLike.roundEven (c.fs / SchedLtf.res0 k fi)

/-- the decay rate chosen in the transition bin -/
noncomputable def alphaN (c : Cfg ℝ) (k : Consts ℝ) (s : NewState ℝ) : ℝ :=
  if k.freslim ≤ s.fi * k.logfact then
    (if (c.Jdes : ℤ) - (s.j : ℤ) > 1 ∧ s.crossover > 0 then
      Real.log ((c.Lmin : ℝ) / (s.crossover : ℝ)) / ((((c.Jdes : ℤ) - (s.j : ℤ) - 1 : ℤ)) : ℝ)
     else s.alpha)
  else s.alpha

theorem partA_s3 (c : Cfg ℝ) (k : Consts ℝ) {s : NewState ℝ} (h3 : s.stage3 = true) :
    partA c k s = ((c.Lmin : ℤ), s.stage2, s.alpha, s.kStage2, s.crossover) := by
  unfold partA
  rw [if_pos h3]

theorem partA_s2 (c : Cfg ℝ) (k : Consts ℝ) {s : NewState ℝ} (h3 : s.stage3 = false)
    (h2 : s.stage2 = true) :
    partA c k s = (RealLike.roundEven ((s.crossover : ℝ) * Real.exp (s.alpha * (s.kStage2 : ℝ))),
      true, s.alpha, s.kStage2 + 1, s.crossover) := by
  unfold partA
  rw [if_neg (by rw [h3]; exact Bool.false_ne_true), if_pos h2, h2]
  simp only [RL.ofInt_eq, RL.exp_eq, RL.ofNat_eq]

theorem partA_s1 (c : Cfg ℝ) (k : Consts ℝ) {s : NewState ℝ} (h3 : s.stage3 = false)
    (h2 : s.stage2 = false) :
    partA c k s = (d1 c k s.fi, decide (k.freslim ≤ s.fi * k.logfact), alphaN c k s, s.kStage2,
      d1 c k s.fi) := by
  unfold partA d1 alphaN SchedLtf.res0
  rw [if_neg (by rw [h3]; exact Bool.false_ne_true), if_neg (by rw [h2]; exact Bool.false_ne_true), h2]
  simp only [RL.ge_eq, RL.lt_eq, RL.gt_eq, RL.log_eq, RL.ofNat_eq, RL.ofInt_eq, decide_eq_true_eq,
    Bool.and_eq_true]
  by_cases hge : k.freslim ≤ s.fi * k.logfact
  · simp only [hge, ↓reduceIte, decide_true]
  · have hlt : s.fi * k.logfact < k.freslim := not_le.mp hge
    simp only [hge, hlt, true_and, ↓reduceIte, decide_false]
    split_ifs <;> rfl

/-- part B never changes the clamped length: it only raises a stage-2 length below `Lmin` to `Lmin`,
    which the clamp would do anyway -/
theorem len_eq (c : Cfg ℝ) (k : Consts ℝ) (s : NewState ℝ) :
    len c k s = clampL c.N c.Lmin (partA c k s).1 := by
  unfold len partB
  split_ifs with hc
  · simp only [Bool.and_eq_true, decide_eq_true_eq] at hc
    exact (clampL_of_le le_rfl).trans (clampL_of_le hc.2.le).symm
  · rfl

theorem partB_fst (c : Cfg ℝ) (k : Consts ℝ) (s : NewState ℝ) :
    (partB c k s).1 = (((partA c k s).2.1 && decide ((partA c k s).1 < (c.Lmin : ℤ))) || s.stage3) := by
  unfold partB
  by_cases hc : ((partA c k s).2.1 && decide ((partA c k s).1 < (c.Lmin : ℤ))) = true
  · rw [if_pos hc, hc]; rfl
  · rw [if_neg hc, (Bool.not_eq_true _).mp hc]; rfl

theorem len_s3 (c : Cfg ℝ) (k : Consts ℝ) {s : NewState ℝ} (h3 : s.stage3 = true) :
    len c k s = c.Lmin := by
  rw [len_eq, partA_s3 c k h3]
  exact clampL_of_le le_rfl

theorem d1_anti {c : Cfg ℝ} (h : Adm c) {f1 f2 : ℝ} (h12 : f1 ≤ f2) :
    d1 c (consts c) f2 ≤ d1 c (consts c) f1 := by
  have hr := fresmin_pos h
  have hl := fresmin_le_freslim h
  unfold d1
  rw [SchedLtf.res0_eq, SchedLtf.res0_eq]
  exact roundEven_nearest.mono (div_le_div_of_nonneg_left h.hfs.le (gres_pos hr hl)
    (gres_mono hr hl (mul_le_mul_of_nonneg_right h12 (logfact_pos h).le)))

/-- `s1`: in stage 1 `crossover` is `d1` at the previous frequency (0 before the first bin), hence at least `d1` now -/
structure Inv (c : Cfg ℝ) (s : NewState ℝ) : Prop where
  fi_pos : 0 < s.fi
  s1 : s.stage3 = false → s.stage2 = false →
    s.alpha = 0 ∧ (s.crossover ≤ 0 ∨ d1 c (consts c) s.fi ≤ s.crossover)
  s2 : s.stage3 = false → s.stage2 = true → s.alpha ≤ 0 ∧ (c.Lmin : ℤ) ≤ s.crossover

theorem inv_init {c : Cfg ℝ} (h : Adm c) : Inv c (PlanC02.newS0 c) :=
  ⟨fmin_pos h, fun _ _ => ⟨RL.zero_eq, Or.inl le_rfl⟩, fun _ h2 => absurd h2 Bool.false_ne_true⟩

theorem decay_le {a : ℝ} {x : ℤ} (ha : a ≤ 0) (hx : 0 ≤ x) {k1 k2 : ℕ} (hk : k1 ≤ k2) :
    RealLike.roundEven ((x : ℝ) * Real.exp (a * (k2 : ℝ))) ≤
      RealLike.roundEven ((x : ℝ) * Real.exp (a * (k1 : ℝ))) :=
  roundEven_nearest.mono (mul_le_mul_of_nonneg_left
    (Real.exp_le_exp.mpr (mul_le_mul_of_nonpos_left (Nat.cast_le.mpr hk) ha)) (by exact_mod_cast hx))

theorem decay_le_self {a : ℝ} {x : ℤ} (ha : a ≤ 0) (hx : 0 ≤ x) (k : ℕ) :
    RealLike.roundEven ((x : ℝ) * Real.exp (a * (k : ℝ))) ≤ x := by
  have := decay_le ha hx (Nat.zero_le k)
  rwa [Nat.cast_zero, mul_zero, Real.exp_zero, mul_one, roundEven_int] at this

theorem alphaN_nonpos {c : Cfg ℝ} (h : Adm c) (s : NewState ℝ) (ha : s.alpha = 0)
    (hx : s.crossover ≤ 0 ∨ (c.Lmin : ℤ) ≤ s.crossover) : alphaN c (consts c) s ≤ 0 := by
  unfold alphaN
  split_ifs with h1 h2
  · rcases hx with hx | hx
    · exact absurd h2.2 (not_lt.mpr hx)
    · have hL : (0 : ℝ) < (c.Lmin : ℝ) := Nat.cast_pos.mpr h.hLmin1
      have hx' : (c.Lmin : ℝ) ≤ (s.crossover : ℝ) := by exact_mod_cast hx
      have hp : (0 : ℝ) ≤ ((((c.Jdes : ℤ) - (s.j : ℤ) - 1 : ℤ)) : ℝ) := by
        exact_mod_cast (show (0 : ℤ) ≤ (c.Jdes : ℤ) - (s.j : ℤ) - 1 by omega)
      exact div_nonpos_of_nonpos_of_nonneg
        (Real.log_nonpos (div_nonneg hL.le (hL.le.trans hx')) ((div_le_one (hL.trans_le hx')).mpr hx')) hp
  · rw [ha]
  · rw [ha]

theorem inv_step (c : Cfg ℝ) (h : Adm c) (s : NewState ℝ) (hI : Inv c s) :
    Inv c (newStep c (consts c) s).2 ∧
    len c (consts c) (newStep c (consts c) s).2 ≤ len c (consts c) s := by
  have hfi' := SchedNV.newStep_fi_lt h s
  have hpos' : 0 < (newStep c (consts c) s).2.fi := lt_trans hI.fi_pos hfi'
  generalize hs' : (newStep c (consts c) s).2 = s' at hfi' hpos' ⊢
  by_cases h3' : s'.stage3 = true
  · -- stage 3 asks nothing of the invariant and has the least clamped length
    have hn : ¬ s'.stage3 = false := by rw [h3']; decide
    exact ⟨⟨hpos', fun e => absurd e hn, fun e => absurd e hn⟩,
      by rw [len_s3 c _ h3']; exact (len_bounds h _ s).1⟩
  have h3'f : s'.stage3 = false := (Bool.not_eq_true _).mp h3'
  have h3f : s.stage3 = false := by
    by_contra h3
    rw [← hs', newStep_state, partB_fst, (Bool.not_eq_false _).mp h3, Bool.or_true] at h3'
    exact h3' rfl
  by_cases h2 : s.stage2 = true
  · -- stage 2: the same decay, one step further
    obtain ⟨ha, hx⟩ := hI.s2 h3f h2
    have hA := partA_s2 c (consts c) h3f h2
    have e2 : s'.stage2 = true := by rw [← hs', newStep_state, hA]
    have ea : s'.alpha = s.alpha := by rw [← hs', newStep_state, hA]
    have ek : s'.kStage2 = s.kStage2 + 1 := by rw [← hs', newStep_state, hA]
    have ec : s'.crossover = s.crossover := by rw [← hs', newStep_state, hA]
    refine ⟨⟨hpos', fun _ e => absurd (e2.symm.trans e) (by decide),
      fun _ _ => by rw [ea, ec]; exact ⟨ha, hx⟩⟩, ?_⟩
    rw [len_eq c _ s', partA_s2 c (consts c) h3'f e2, len_eq c _ s, hA, ea, ek, ec]
    exact clampL_mono _ _ (decay_le ha (le_trans (Int.natCast_nonneg _) hx) (Nat.le_succ _))
  · have h2f : s.stage2 = false := (Bool.not_eq_true _).mp h2
    obtain ⟨ha, hx⟩ := hI.s1 h3f h2f
    have hA := partA_s1 c (consts c) h3f h2f
    have e2 : s'.stage2 = decide ((consts c).freslim ≤ s.fi * (consts c).logfact) := by
      rw [← hs', newStep_state, hA]
    have ea : s'.alpha = alphaN c (consts c) s := by rw [← hs', newStep_state, hA]
    have ec : s'.crossover = d1 c (consts c) s.fi := by rw [← hs', newStep_state, hA]
    have e3 : s'.stage3 = (decide ((consts c).freslim ≤ s.fi * (consts c).logfact) &&
        decide (d1 c (consts c) s.fi < (c.Lmin : ℤ))) := by
      rw [← hs', newStep_state, partB_fst, hA, h3f, Bool.or_false]
    have hlen : len c (consts c) s = clampL c.N c.Lmin (d1 c (consts c) s.fi) := by
      rw [len_eq, hA]
    have hd := d1_anti h hfi'.le
    by_cases ht : (consts c).freslim ≤ s.fi * (consts c).logfact
    · -- transition bin: the next state is in stage 2 and did not fall through to stage 3
      have e2' : s'.stage2 = true := by rw [e2]; exact decide_eq_true ht
      have hge : (c.Lmin : ℤ) ≤ d1 c (consts c) s.fi := by
        rw [e3, decide_eq_true ht, Bool.true_and, decide_eq_false_iff_not, not_lt] at h3'f
        exact h3'f
      have hal : s'.alpha ≤ 0 := by
        rw [ea]
        exact alphaN_nonpos h s ha (hx.imp id (le_trans hge))
      refine ⟨⟨hpos', fun _ e => absurd (e2'.symm.trans e) (by decide),
        fun _ _ => ⟨hal, by rw [ec]; exact hge⟩⟩, ?_⟩
      rw [len_eq c _ s', partA_s2 c (consts c) h3'f e2', hlen, ec]
      exact clampL_mono _ _ (decay_le_self hal (le_trans (Int.natCast_nonneg _) hge) _)
    · -- still stage 1: the length follows the frequency down
      have e2' : s'.stage2 = false := by rw [e2]; exact decide_eq_false ht
      refine ⟨⟨hpos', fun _ _ => ⟨?_, Or.inr (by rw [ec]; exact hd)⟩,
        fun _ e => absurd (e2'.symm.trans e) Bool.false_ne_true⟩, ?_⟩
      · rw [ea, alphaN, if_neg ht, ha]
      · rw [len_eq c _ s', partA_s1 c (consts c) h3'f e2', hlen]
        exact clampL_mono _ _ hd

theorem newStep_mono (c : Cfg ℝ) (h : Adm c) (s : NewState ℝ) (hI : Inv c s) :
    (newStep c (consts c) (newStep c (consts c) s).2).1.2.2.1 ≤ (newStep c (consts c) s).1.2.2.1 ∧
    (newStep c (consts c) s).1.2.2.2 ≤ (newStep c (consts c) (newStep c (consts c) s).2).1.2.2.2 := by
  obtain ⟨hI', hlen⟩ := inv_step c h s hI
  have hx := xov_pos h
  have hfi' := SchedNV.newStep_fi_lt h s
  generalize (newStep c (consts c) s).2 = s' at hI' hlen hfi' ⊢
  have hL : (newStep c (consts c) s').1.2.2.1 ≤ (newStep c (consts c) s).1.2.2.1 := by
    rw [out_L h s hI.fi_pos, out_L h s' hI'.fi_pos]
    exact max_le_max
      (ruleL_mono roundEven_nearest hx (h.hLmin1.trans (len_bounds h _ s').1) hlen (len_bounds h _ s).2)
      (ruleL_mono roundEven_nearest hx (h.hLmin1.trans (lenBmin_bounds h s'.fi).1)
        (lenBmin_anti h hI.fi_pos hfi'.le) (lenBmin_bounds h s.fi).2)
  refine ⟨hL, ?_⟩
  rw [out_K c _ s, out_K c _ s']
  exact newK_anti c.N _ hx (SchedNV.newStep_ok h s').one_le_L hL

end NewMono

theorem newPlan_monotone (c : Model.Cfg ℝ) (h : Adm c) (fuel : ℕ) :
    (Model.newPlan c fuel).Pairwise (fun a b => b.L ≤ a.L ∧ a.K ≤ b.K) := by
  apply pairwise_mono_of_chain
  rw [PlanC02.newPlan_map, List.isChain_map, SchedNV.newWalk_eq_genWalk]
  refine genWalk.isChain (I := NewMono.Inv c) (fun s hs _ => (NewMono.inv_step c h s hs).1) ?_ _ _
    (NewMono.inv_init h)
  intro s hs _ _
  -- without this the unifier unfolds `newStep` to see through `mkNew`
  dsimp only [PlanC02.mkNew]
  exact NewMono.newStep_mono c h s hs

#print axioms NewMono.newK_anti
#print axioms NewMono.inv_step
#print axioms NewMono.newStep_mono
#print axioms newPlan_monotone
