/-
  The translated DataFrame wrappers (Gen/DfWrappers.lean, regenerated from speckit/dsp.py on every check run) are EQUAL to the hand
  model Model/DfWrappers.lean (every input, no hypothesis); what that model says (the column loop, declaratively); the transfer.
-/
import SpecKitV.RealInst
import SpecKitV.Gen.DfWrappers
import SpecKitV.Model.DfWrappers
import SpecKitV.Props.TimeShiftGen
import SpecKitV.Props.RmsGen

open NpDf Model.Df

namespace DfAux

variable {α : Type}

theorem hasCol_iff (f : Frame α) (c : String) : f.hasCol c = true ↔ ∃ col ∈ f.cols, col.name = c := by
  unfold Frame.hasCol Frame.names
  simp only [List.contains_iff_mem, List.mem_map]

theorem col?_none_iff {f : Frame α} {c : String} : f.col? c = none ↔ f.hasCol c = false := by
  rw [← Bool.not_eq_true, hasCol_iff]
  unfold Frame.col?
  simp only [List.find?_eq_none, beq_iff_eq, not_exists, not_and]

theorem col?_name {f : Frame α} {c : String} {col : Col α} (h : f.col? c = some col) : col.name = c := by
  unfold Frame.col? at h
  have := List.find?_some h
  simpa using this

theorem col?_mem {f : Frame α} {c : String} {col : Col α} (h : f.col? c = some col) : col ∈ f.cols := by
  unfold Frame.col? at h
  exact List.mem_of_find?_eq_some h

/-- **update-or-append, lookup**: after `f[c] = v` the label `c` holds the new column, every other label what it held before -/
theorem col?_setCol (f : Frame α) (c : String) (k : Char) (v : Arr α) (name : String) :
    (f.setCol c k v).col? name = if name = c then some ⟨c, k, v⟩ else f.col? name := by
  unfold Frame.setCol
  by_cases hc : f.hasCol c = true
  · -- the label exists: the replacement keeps every name, so the lookup stops at the same position
    have hg : (fun col : Col α => col.name == name) ∘ (fun col => if col.name == c then ⟨c, k, v⟩ else col)
        = fun col => col.name == name := by
      funext col
      by_cases h : col.name = c <;> simp [h]
    rw [if_pos hc]
    unfold Frame.col?
    rw [List.find?_map, hg]
    cases hcol : f.col? name with
    | none =>
      unfold Frame.col? at hcol
      rw [hcol, if_neg]
      · rfl
      · rintro rfl
        rw [col?_none_iff.mp hcol] at hc
        cases hc
    | some col =>
      unfold Frame.col? at hcol
      rw [hcol]
      have := col?_name hcol
      by_cases h : name = c <;> simp [this, h]
  · rw [if_neg hc]
    unfold Frame.col?
    rw [List.find?_append]
    by_cases hnc : name = c
    · subst hnc
      have hnone : f.cols.find? (fun col => col.name == name) = none :=
        col?_none_iff.mpr (by simpa using hc)
      rw [hnone]
      simp
    · have : (c == name) = false := by simpa using fun h => hnc h.symm
      simp [hnc, this]

/-- pandas' order rule on the list of labels -/
def addName (names : List String) (c : String) : List String := if names.contains c then names else names ++ [c]

/-- **update-or-append, order**: an existing label keeps its position, a new one goes to the end -/
theorem names_setCol (f : Frame α) (c : String) (k : Char) (v : Arr α) : (f.setCol c k v).names = addName f.names c := by
  unfold Frame.setCol addName
  have hh : f.hasCol c = f.names.contains c := rfl
  by_cases hc : f.names.contains c = true
  · simp only [hh, hc, if_true]
    unfold Frame.names
    simp only [List.map_map]
    apply List.map_congr_left
    intro col _
    by_cases h : col.name = c <;> simp [h]
  · simp only [hh, hc, Bool.false_eq_true, if_false]
    simp [Frame.names]

theorem nrows_setCol {f : Frame α} {c : String} {k : Char} {v : Arr α} : (f.setCol c k v).nrows = f.nrows := by
  unfold Frame.setCol; split <;> rfl

theorem index_setCol {f : Frame α} {c : String} {k : Char} {v : Arr α} : (f.setCol c k v).index = f.index := by
  unfold Frame.setCol; split <;> rfl

/-- the store `objs` extended by ONE fresh frame object `g` (its reference is `objs.length`) -/
def ext (objs : List (Option (Frame α))) (g : Frame α) : Heap α := ⟨objs ++ [some g]⟩

theorem copy_eq (objs : List (Option (Frame α))) (r : Ref) :
    NpDf.copy (⟨objs⟩ : Heap α) r = (ext objs (Heap.frame ⟨objs⟩ r), objs.length) := rfl

theorem isFrame_lt {objs : List (Option (Frame α))} {r : Ref} (h : Heap.isFrame (⟨objs⟩ : Heap α) r = true) : r < objs.length := by
  unfold Heap.isFrame at h
  by_contra hge
  have : objs[r]? = none := List.getElem?_eq_none (Nat.le_of_not_lt hge)
  simp [List.getD_eq_getElem?_getD, this] at h

theorem frame_ext_old {objs : List (Option (Frame α))} {g : Frame α} {r : Ref} (hr : r < objs.length) :
    Heap.frame (ext objs g) r = Heap.frame ⟨objs⟩ r := by
  unfold Heap.frame ext
  simp only [List.getD_eq_getElem?_getD, List.getElem?_append_left hr]

theorem frame_ext_new (objs : List (Option (Frame α))) (g : Frame α) : Heap.frame (ext objs g) objs.length = g := by
  unfold Heap.frame ext
  simp [List.getD_eq_getElem?_getD]

theorem getitem_ext_old {objs : List (Option (Frame α))} {g : Frame α} {r : Ref} (hr : r < objs.length) (c : String) :
    NpDf.getitem (ext objs g) r c = (Heap.frame ⟨objs⟩ r).col? c := by
  unfold NpDf.getitem
  rw [frame_ext_old hr]

theorem setitem_ext_new (objs : List (Option (Frame α))) (g : Frame α) (c : String) (v : Arr α) :
    NpDf.setitem (ext objs g) objs.length c v
      = if v.n ≠ g.nrows then none else some (ext objs (g.setCol c resultKind v)) := by
  unfold NpDf.setitem
  rw [frame_ext_new]
  congr 1
  unfold Heap.write ext
  simp

theorem iloc_ext_new (objs : List (Option (Frame α))) (g : Frame α) (lo hi : Int) :
    NpDf.iloc (ext objs g) objs.length lo hi = (⟨objs ++ [some g] ++ [some (g.rows lo hi)]⟩, objs.length + 1) := by
  unfold NpDf.iloc
  rw [frame_ext_new]
  unfold Heap.alloc ext
  simp

/-- a loop whose body acts on a state `φ t` exactly as a model body acts on `t` -/
theorem forEach_map {β σ τ : Type} (f : β → σ → Option σ) (f' : β → τ → Option τ) (φ : τ → σ)
    (hstep : ∀ x t, f x (φ t) = (f' x t).map φ) : ∀ (l : List β) (t : τ), forEach l (φ t) f = (forEach l t f').map φ
  | [], t => rfl
  | x :: xs, t => by
    unfold forEach
    rw [hstep x t]
    cases hx : f' x t with
    | none => rfl
    | some t' => simp only [Option.map_some]; exact forEach_map f f' φ hstep xs t'

theorem names_all_hasCol (f : Frame α) : f.names.any (fun c => !f.hasCol c) = false := by
  simp [Frame.hasCol]

theorem filter_isEmpty_not {β : Type} (l : List β) (p : β → Bool) : (!(l.filter p).isEmpty) = l.any p := by
  induction l with
  | nil => rfl
  | cons x xs ih => cases hx : p x <;> simp [hx, ← ih]

end DfAux

open DfAux

/-- the per-column routine handed to the model of `df_detrend`: the translated `polynomial_detrend` (region Rms), `np.polyfit` its parameter -/
noncomputable abbrev detrendFn (polyfit : RmsGen.Polyfit) : Arr ℝ → ℤ → Option (Arr ℝ) := fun v p => Gen.polynomial_detrend polyfit v p

/-- the per-column routine handed to the model of `df_timeshift`: the translated `timeshift` (region TimeShift) with a Python-float
    shift (the one-element array) and the default order 31 -/
noncomputable abbrev shiftFn : Arr ℝ → ℝ → Option (Arr ℝ) := fun v s => Gen.timeshift v (NpTS.ofScalar s) 31

/-- `columns=None` selects every column: the same call as with `columns=list(df.columns)` -/
theorem gen_df_detrend_none (polyfit : RmsGen.Polyfit) (h : Heap ℝ) (df : Ref) (order : ℤ) (inplace : Bool) (suffix : String) :
    Gen.df_detrend polyfit h df none order inplace suffix
      = Gen.df_detrend polyfit h df (some (h.frame df).names) order inplace suffix := by
  obtain ⟨objs⟩ := h
  unfold Gen.df_detrend
  by_cases hf : Heap.isFrame (⟨objs⟩ : Heap ℝ) df = true
  swap
  · simp [hf]
  -- the two calls differ in the test for missing labels, which finds none among the frame's own; the copy is rewritten where it is
  -- made, before the lets are unfolded (`dsimp only`): afterwards it stands in every statement that mentions the store
  rw [copy_eq]
  dsimp only
  simp only [frame_ext_old (isFrame_lt hf), filter_isEmpty_not, names_all_hasCol, Bool.false_eq_true, if_false]

/-- **`df_detrend` as translated = the hand model**, for every object store, reference (DataFrame or not), column selection, order,
    inplace flag and suffix: same raise-or-not, same returned frame, same object layout (a fresh copy appended to the store) -/
theorem gen_df_detrend_eq_model (polyfit : RmsGen.Polyfit) (h : Heap ℝ) (df : Ref) (columns : Option (List String)) (order : ℤ)
    (inplace : Bool) (suffix : String) :
    Gen.df_detrend polyfit h df columns order inplace suffix
      = (dfDetrend (detrendFn polyfit) (h.isFrame df) (h.frame df) columns order inplace suffix).map (Result.realize h df) := by
  suffices hsome : ∀ cols, Gen.df_detrend polyfit h df (some cols) order inplace suffix
      = (dfDetrend (detrendFn polyfit) (h.isFrame df) (h.frame df) (some cols) order inplace suffix).map (Result.realize h df) by
    cases columns with
    | some cols => exact hsome cols
    | none => rw [gen_df_detrend_none, hsome]; rfl
  intro cols
  obtain ⟨objs⟩ := h
  unfold Gen.df_detrend dfDetrend
  by_cases hf : Heap.isFrame (⟨objs⟩ : Heap ℝ) df = true
  swap
  · simp [hf]
  have hlt := isFrame_lt hf
  by_cases he : (Heap.frame (⟨objs⟩ : Heap ℝ) df).empty = true
  · simp [hf, he]
  by_cases ho : order < 0
  · simp [hf, he, ho]
  simp only [hf, he, ho, Bool.not_true, Bool.false_eq_true, if_false, decide_false, Bool.or_self, copy_eq,
    filter_isEmpty_not, selection, frame_ext_old hlt]
  by_cases hm : (cols.any fun c => !(Heap.frame (⟨objs⟩ : Heap ℝ) df).hasCol c) = true
  · simp [hm]
  simp only [hm, Bool.false_eq_true, if_false]
  rw [forEach_map (f' := step (fun v => detrendFn polyfit v order) (Heap.frame ⟨objs⟩ df) inplace suffix) (φ := ext objs)]
  · unfold applyCols
    generalize forEach cols _ _ = r
    cases r <;> rfl
  · intro c g
    simp only [getitem_ext_old hlt, step]
    cases hcol : (Heap.frame (⟨objs⟩ : Heap ℝ) df).col? c with
    | none => rfl
    | some col =>
      simp only [kindIn, numeric, numericKinds]
      by_cases hk : ['b', 'i', 'u', 'f', 'c'].contains col.kind = true
      · simp only [hk, if_true]
        cases hT : Gen.polynomial_detrend polyfit col.vals order with
        | none => simp only [detrendFn, hT]; rfl
        | some v => cases inplace <;> by_cases hn : v.n = g.nrows <;> simp [hn, setitem_ext_new, target, detrendFn, hT]
      · simp only [hk]; rfl

theorem gen_df_timeshift_none (h : Heap ℝ) (df : Ref) (fs : PyFloat ℝ) (seconds : ℝ) (truncate : PyTrunc) (inplace : Bool)
    (suffix : String) :
    Gen.df_timeshift h df fs seconds none truncate inplace suffix
      = Gen.df_timeshift h df fs seconds (some (h.frame df).names) truncate inplace suffix := by
  obtain ⟨objs⟩ := h
  unfold Gen.df_timeshift
  by_cases hf : Heap.isFrame (⟨objs⟩ : Heap ℝ) df = true
  swap
  · simp [hf]
  rw [copy_eq]
  dsimp only
  simp only [frame_ext_old (isFrame_lt hf), filter_isEmpty_not, names_all_hasCol, Bool.false_eq_true, if_false]

/-- **`df_timeshift` as translated = the hand model**, for every object store, reference (DataFrame or not), `fs` (finite, ±inf, nan),
    `seconds`, column selection, `truncate` (None / bool / int / anything else), inplace flag and suffix: same raise-or-not, same returned
    frame, same object layout (the input object itself on a zero shift; else a fresh copy, and a row slice of it when rows are cut) -/
theorem gen_df_timeshift_eq_model (h : Heap ℝ) (df : Ref) (fs : PyFloat ℝ) (seconds : ℝ) (columns : Option (List String))
    (truncate : PyTrunc) (inplace : Bool) (suffix : String) :
    Gen.df_timeshift h df fs seconds columns truncate inplace suffix
      = (dfTimeshift shiftFn (h.isFrame df) (h.frame df) fs seconds columns truncate inplace suffix).map (Result.realize h df) := by
  suffices hsome : ∀ cols, Gen.df_timeshift h df fs seconds (some cols) truncate inplace suffix
      = (dfTimeshift shiftFn (h.isFrame df) (h.frame df) fs seconds (some cols) truncate inplace suffix).map (Result.realize h df) by
    cases columns with
    | some cols => exact hsome cols
    | none => rw [gen_df_timeshift_none, hsome]; rfl
  intro cols
  obtain ⟨objs⟩ := h
  unfold Gen.df_timeshift dfTimeshift
  by_cases hf : Heap.isFrame (⟨objs⟩ : Heap ℝ) df = true
  swap
  · simp [hf]
  have hlt := isFrame_lt hf
  by_cases he : (Heap.frame (⟨objs⟩ : Heap ℝ) df).empty = true
  · simp [hf, he]
  cases fs with
  | fin f =>
    by_cases hfs : f ≤ 0
    · simp [hf, he, hfs]
    by_cases hs : seconds = 0
    · simp [hf, he, hfs, hs, Result.realize]
    -- `mul_comm`: the shift in samples is `f * seconds` from here on, whichever way round the source and the model write it
    simp only [hf, he, hfs, hs, Bool.not_true, Bool.false_eq_true, if_false, decide_false, Bool.or_self, copy_eq,
      filter_isEmpty_not, RL.le_eq, RL.beq_eq, RL.lit_zero, RL.ofNat_eq, Nat.cast_zero, frame_ext_old hlt, selection, mul_comm seconds f]
    by_cases hm : (cols.any fun c => !(Heap.frame (⟨objs⟩ : Heap ℝ) df).hasCol c) = true
    · simp [hm]
    simp only [hm, Bool.false_eq_true, if_false]
    rw [forEach_map (f' := step (fun v => shiftFn v (f * seconds)) (Heap.frame ⟨objs⟩ df) inplace suffix) (φ := ext objs)]
    · unfold applyCols
      generalize forEach cols _ _ = r
      cases r with
      | none => rfl
      | some g =>
        -- the translated `truncate` post-processing on the store `ext objs g` is `truncRows` on `g`
        simp only [Option.map_some]
        cases truncate with
        | none => rfl
        | other => rfl
        | bool b | int z =>
          -- both ways to a row count `nt` end in the same statements; `some ∘ realize` goes through the two tests on `nt`
          simp only [PyTrunc.isNone, PyTrunc.isBool, PyTrunc.isInt, PyTrunc.toInt?, Bool.not_false, Bool.not_true, Bool.false_eq_true,
            if_true, if_false, truncRows, iloc_ext_new, frame_ext_new, Option.map_some, decide_eq_true_eq]
          simp only [apply_ite some, apply_ite (Result.realize _ _)]
          rfl
    · -- one pass of the translated column loop on the store `ext objs g` is `Model.Df.step` on `g`
      intro c g
      simp only [getitem_ext_old hlt, step]
      cases hcol : (Heap.frame (⟨objs⟩ : Heap ℝ) df).col? c with
      | none => rfl
      | some col =>
        simp only [kindIn, numeric, numericKinds]
        by_cases hk : ['b', 'i', 'u', 'f', 'c'].contains col.kind = true
        · simp only [hk, Bool.not_true, Bool.false_eq_true, if_false, if_true]
          cases hT : Gen.timeshift col.vals (NpTS.ofScalar (f * seconds)) 31 with
          | none => simp only [shiftFn, hT]; rfl
          | some v => cases inplace <;> by_cases hn : v.n = g.nrows <;> simp [hn, setitem_ext_new, target, shiftFn, hT]
        · simp only [(Bool.not_eq_true _).mp hk, Bool.not_false, if_true, Bool.false_eq_true, if_false]; rfl
  | _ => simp [hf, he]

namespace DfSpec
variable {α : Type}

theorem target_inj (inplace : Bool) (suffix : String) {c c' : String}
    (h : target inplace suffix c = target inplace suffix c') : c = c' := by
  unfold target at h
  cases inplace
  · simpa using h
  · simpa using h

/-- `c` names a numeric column (dtype kind b, i, u, f or c) of `df` -/
def NumericCol (df : Frame α) (c : String) : Prop := ∃ col, df.col? c = some col ∧ numeric col.kind = true

def isNum (df : Frame α) (c : String) : Bool :=
  match df.col? c with
  | some col => numeric col.kind
  | none => false

theorem isNum_iff {df : Frame α} {c : String} : isNum df c = true ↔ NumericCol df c := by
  unfold isNum NumericCol
  cases df.col? c <;> simp only [Option.some.injEq, exists_eq_left', reduceCtorEq, false_and, exists_false, Bool.false_eq_true]

/-- the labels `T` is applied to, in loop order -/
def numericSel (df : Frame α) (sel : List String) : List String := sel.filter (isNum df)

/-- the two ways one pass of the loop succeeds: the label names a non-numeric column, which is skipped, or a numeric one whose
    transform `T` succeeds with a result of the frame's length, which is stored under the target label -/
theorem step_eq_some {T : Arr α → Option (Arr α)} {df : Frame α} {ip : Bool} {sfx c : String} {out out' : Frame α} :
    step T df ip sfx c out = some out' ↔ ∃ col, df.col? c = some col ∧
      ((numeric col.kind = false ∧ out' = out) ∨
        (numeric col.kind = true ∧ ∃ v, T col.vals = some v ∧ v.n = out.nrows ∧
          out' = out.setCol (target ip sfx c) resultKind v)) := by
  unfold step
  constructor
  · intro h
    split at h
    · cases h
    · rename_i col hcol
      refine ⟨col, hcol, ?_⟩
      split_ifs at h with hk
      · split at h
        · cases h
        · rename_i v hT
          split_ifs at h with hn
          exact Or.inr ⟨hk, v, hT, not_not.mp hn, (Option.some.inj h).symm⟩
      · exact Or.inl ⟨by simpa using hk, (Option.some.inj h).symm⟩
  · rintro ⟨col, hcol, ⟨hk, rfl⟩ | ⟨hk, v, hT, hn, rfl⟩⟩
    · simp only [hcol, hk, Bool.false_eq_true, if_false]
    · simp only [hcol, hk, if_true, hT, hn, ne_eq, not_true_eq_false, if_false]

theorem applyCols_cons {T : Arr α → Option (Arr α)} {df : Frame α} {ip : Bool} {sfx c : String} {cs : List String}
    {out g : Frame α} :
    applyCols T df ip sfx (c :: cs) out = some g ↔
      ∃ out', step T df ip sfx c out = some out' ∧ applyCols T df ip sfx cs out' = some g := by
  simp only [applyCols, forEach]
  cases step T df ip sfx c out <;> simp only [Option.some.injEq, exists_eq_left', reduceCtorEq, false_and, exists_false]

/-- **what a column loop that did not raise has done to `out`**: rows and row index are kept; the labels are `out`'s in their order,
    then each NEW target label, appended when first stored (pandas' rule); the target label of every selected numeric column holds
    `T(values of the INPUT column)` as a float column; a label that is not such a target holds what it held before (in particular:
    unselected columns, non-numeric columns, and no label appears that is not a target) -/
theorem applyCols_some {T : Arr α → Option (Arr α)} {df : Frame α} {ip : Bool} {sfx : String} :
    ∀ (sel : List String) {out g : Frame α}, applyCols T df ip sfx sel out = some g →
      g.nrows = out.nrows ∧ g.index = out.index ∧
      g.names = ((numericSel df sel).map (target ip sfx)).foldl addName out.names ∧
      (∀ c ∈ sel, ∀ col, df.col? c = some col → numeric col.kind = true →
        ∃ v, T col.vals = some v ∧ v.n = out.nrows ∧ g.col? (target ip sfx c) = some ⟨target ip sfx c, resultKind, v⟩) ∧
      (∀ name, (∀ c ∈ sel, NumericCol df c → target ip sfx c ≠ name) → g.col? name = out.col? name)
  | [], out, g, h => by
    cases Option.some.inj h
    exact ⟨rfl, rfl, rfl, fun c hc => absurd hc List.not_mem_nil, fun _ _ => rfl⟩
  | x :: xs, out, g, h => by
    obtain ⟨out', hs, h⟩ := applyCols_cons.mp h
    obtain ⟨hn, hi, hnames, htgt, hoth⟩ := applyCols_some xs h
    have hoth' : ∀ name, (∀ c ∈ x :: xs, NumericCol df c → target ip sfx c ≠ name) → g.col? name = out'.col? name :=
      fun name hno => hoth name (fun c hc => hno c (List.mem_cons_of_mem _ hc))
    obtain ⟨col, hcol, ⟨hk, rfl⟩ | ⟨hk, v, hT, hvn, rfl⟩⟩ := step_eq_some.mp hs
    · -- `x` is not numeric: skipped
      refine ⟨hn, hi, ?_, fun c hc col' hcol' hk' => ?_, hoth'⟩
      · rw [numericSel, List.filter_cons_of_neg (by simp [isNum, hcol, hk])]
        exact hnames
      · rcases List.mem_cons.mp hc with rfl | hc
        · rw [hcol] at hcol'
          cases hcol'
          rw [hk] at hk'
          cases hk'
        · exact htgt c hc col' hcol' hk'
    · -- `x` is numeric: `v = T(values)` is stored under its target label, which no later pass for another label touches
      refine ⟨hn.trans (nrows_setCol), hi.trans (index_setCol), ?_, fun c hc col' hcol' hk' => ?_, fun name hno => ?_⟩
      · rw [numericSel, List.filter_cons_of_pos (isNum_iff.2 ⟨col, hcol, hk⟩), List.map_cons, List.foldl_cons, ← names_setCol]
        exact hnames
      · by_cases hin : c ∈ xs
        · obtain ⟨v', hT', hn', hg'⟩ := htgt c hin col' hcol' hk'
          exact ⟨v', hT', hn'.trans (nrows_setCol), hg'⟩
        · obtain rfl : c = x := (List.mem_cons.mp hc).resolve_right hin
          rw [hcol] at hcol'
          cases hcol'
          refine ⟨v, hT, hvn, ?_⟩
          rw [hoth _ (fun c' hc' _ e => hin (by rw [← target_inj ip sfx e]; exact hc')), col?_setCol, if_pos rfl]
      · rw [hoth' name hno, col?_setCol, if_neg]
        exact fun e => hno x List.mem_cons_self ⟨col, hcol, hk⟩ e.symm

/-- **the loop does not raise** when every selected label exists and `T` succeeds, with a result of the frame's length, on every
    numeric column of the input -/
theorem apply_ok (T : Arr α → Option (Arr α)) {df : Frame α} (ip : Bool) (sfx : String)
    (hT : ∀ col ∈ df.cols, numeric col.kind = true → ∃ v, T col.vals = some v ∧ v.n = df.nrows) :
    ∀ (sel : List String) (out : Frame α), out.nrows = df.nrows → (∀ c ∈ sel, df.hasCol c = true) →
      ∃ g, applyCols T df ip sfx sel out = some g
  | [], out, _, _ => ⟨out, rfl⟩
  | c :: cs, out, hn, hsel => by
    obtain ⟨col, hcol⟩ : ∃ col, df.col? c = some col := by
      rw [← Option.ne_none_iff_exists', Ne, col?_none_iff, hsel c List.mem_cons_self]
      exact Bool.noConfusion
    obtain ⟨out', hs, hn'⟩ : ∃ out', step T df ip sfx c out = some out' ∧ out'.nrows = out.nrows := by
      cases hk : numeric col.kind
      · exact ⟨out, step_eq_some.mpr ⟨col, hcol, Or.inl ⟨hk, rfl⟩⟩, rfl⟩
      · obtain ⟨v, hv, hvn⟩ := hT col (col?_mem hcol) hk
        exact ⟨_, step_eq_some.mpr ⟨col, hcol, Or.inr ⟨hk, v, hv, hvn.trans hn.symm, rfl⟩⟩, nrows_setCol⟩
    obtain ⟨g, hg⟩ := apply_ok T ip sfx hT cs out' (hn'.trans hn) (fun c' hc' => hsel c' (List.mem_cons_of_mem _ hc'))
    exact ⟨g, applyCols_cons.mpr ⟨out', hs, hg⟩⟩

/-- **truncation by `nt` rows at each end** (`0 < nt`, `2·nt < len`): `len - 2·nt` rows remain, row `i` of the result is row `nt + i`
    of the frame, for every column and for the row index; labels, dtypes and column order are kept -/
theorem rows_trunc (g : Frame α) (nt : Int) (h0 : 0 < nt) (h2 : nt * 2 < (g.nrows : Int)) :
    (g.rows nt (-nt)).nrows = g.nrows - 2 * nt.toNat ∧
    (g.rows nt (-nt)).names = g.names ∧
    (∀ i, (g.rows nt (-nt)).index.get i = g.index.get (nt.toNat + i)) ∧
    (g.rows nt (-nt)).index.n = g.nrows - 2 * nt.toNat ∧
    (∀ name col, g.col? name = some col → (g.rows nt (-nt)).col? name
        = some ⟨col.name, col.kind, ⟨g.nrows - 2 * nt.toNat, fun i => col.vals.get (nt.toNat + i)⟩⟩) := by
  -- `nt` is a natural number `m`; the two slice bounds are `m` and `len - m`
  lift nt to ℕ using h0.le with m
  have hl : NpTS.sliceBound g.nrows m = m := NpTS.sliceBound_natCast _ m (by omega)
  have hu : NpTS.sliceBound g.nrows (-(m : ℤ)) = g.nrows - m := by
    unfold NpTS.sliceBound
    rw [if_pos (by omega), ← sub_eq_add_neg, Int.toNat_sub]
  simp only [Int.toNat_natCast]
  refine ⟨?_, ?_, ?_, ?_, ?_⟩
  · simp only [Frame.rows, hl, hu, Nat.sub_sub, ← two_mul]
  · simp [Frame.rows, Frame.names, List.map_map, Function.comp_def]
  · intro i; simp only [Frame.rows, hl]
  · simp only [Frame.rows, hl, hu, Nat.sub_sub, ← two_mul]
  · intro name col hcol
    unfold Frame.col? at hcol ⊢
    simp only [Frame.rows, List.find?_map, Function.comp_def, hcol, Option.map_some, hl, hu, Nat.sub_sub, ← two_mul]

/-- the empty slice `iloc[0:0]`: no rows, the same columns (labels, dtypes, order) -/
theorem rows_empty (g : Frame α) : (g.rows 0 0).nrows = 0 ∧ (g.rows 0 0).names = g.names ∧ (g.rows 0 0).index.n = 0 := by
  have h0 : NpTS.sliceBound g.nrows 0 = 0 := NpTS.sliceBound_natCast g.nrows 0 (Nat.zero_le _)
  refine ⟨?_, ?_, ?_⟩
  · simp only [Frame.rows, h0, Nat.sub_self]
  · simp [Frame.rows, Frame.names, List.map_map, Function.comp_def]
  · simp only [Frame.rows, h0, Nat.sub_self]

end DfSpec

open DfSpec Finset

/-- every column has one value per row (what pandas guarantees of a DataFrame) -/
def NpDf.Frame.WF {α : Type} (f : Frame α) : Prop := ∀ col ∈ f.cols, col.vals.n = f.nrows

/-- the number of rows `truncate` removes at EACH end: `None` none, a bool (True **or False**: `isinstance(False, bool)`) the amount
    `int(2·|seconds·fs|)`, an integer itself -/
noncomputable def nTrunc (truncate : PyTrunc) (seconds f : ℝ) : ℤ :=
  match truncate with
  | .none => 0
  | .bool _ => RealLike.trunc ((2 : ℝ) * |seconds * f|)
  | .int z => z
  | .other => 0

theorem any_missing_iff {α : Type} (df : Frame α) (sel : List String) :
    sel.any (fun c => !df.hasCol c) = true ↔ ∃ c ∈ sel, df.hasCol c = false := by
  simp only [List.any_eq_true, Bool.not_eq_true']

theorem any_missing_false {α : Type} {df : Frame α} {sel : List String} :
    sel.any (fun c => !df.hasCol c) = false ↔ ∀ c ∈ sel, df.hasCol c = true := by
  simp only [List.any_eq_false, Bool.not_eq_true', Bool.not_eq_false]

/-- objects are only appended: every object that existed before the call (the input frame in particular) is unchanged -/
theorem realize_untouched {α : Type} (h : Heap α) (df : Ref) (r : Result α) (q : ℕ) (hq : q < h.objs.length) :
    (r.realize h df).1.objs.getD q none = h.objs.getD q none := by
  cases r <;> simp [Result.realize, List.getD_eq_getElem?_getD, List.getElem?_append_left, hq, Nat.lt_succ_of_lt hq]

/-- `o`: a wrapper's model result -/
theorem untouched_of_realize {α : Type} {h h' : Heap α} {df r : Ref} {o : Option (Result α)}
    (hres : o.map (Result.realize h df) = some (h', r)) :
    (∀ q < h.objs.length, h'.objs.getD q none = h.objs.getD q none) ∧ (h.isFrame df = true → h'.frame df = h.frame df) := by
  obtain ⟨res, -, hres⟩ := Option.map_eq_some_iff.mp hres
  have hq : ∀ q < h.objs.length, h'.objs.getD q none = h.objs.getD q none := fun q hq => by
    have := realize_untouched h df res q hq
    rwa [hres] at this
  refine ⟨hq, fun hfr => ?_⟩
  obtain ⟨objs⟩ := h
  unfold Heap.frame
  rw [hq df (isFrame_lt hfr)]

/-- the translated `timeshift` with a non-zero float shift and the default order never raises and keeps the length -/
theorem shiftFn_ok (v : Arr ℝ) (s : ℝ) (hs : s ≠ 0) : ∃ out, shiftFn v s = some out ∧ out.n = v.n := by
  unfold shiftFn
  -- order 31 = 2·15 + 1 = 2·16 - 1: the default of `timeshift`, which the generated wrapper has inlined
  by_cases hsz : v.n ≤ 1
  · obtain ⟨out, ho, hn, _⟩ := gen_timeshift_tiny v (NpTS.ofScalar s) 15 hsz
    exact ⟨out, by simpa using ho, hn⟩
  · obtain ⟨out, ho, hn, _⟩ := gen_timeshift_const_eq_model v (NpTS.ofScalar s) 16 (by norm_num) (by omega) rfl hs
    exact ⟨out, by simpa using ho, hn⟩

theorem shiftFn_cols_ok {df : Frame ℝ} (hwf : df.WF) {s : ℝ} (hs : s ≠ 0) :
    ∀ col ∈ df.cols, numeric col.kind = true → ∃ v, shiftFn col.vals s = some v ∧ v.n = df.nrows := by
  intro col hcol _
  obtain ⟨out, ho, hn⟩ := shiftFn_ok col.vals s hs
  exact ⟨out, ho, hn.trans (hwf col hcol)⟩

/-- **`df_timeshift`, accepted input with a non-zero shift** (a non-empty DataFrame, `fs > 0` finite, `seconds ≠ 0`, every requested
    label present, `truncate` None / bool / int).  The call does not raise; it allocates a fresh copy `g` of the input (and, when rows
    are cut, a row slice of `g`, which is returned); in `g`
    * rows and row index are the input's;
    * the labels are the input's in their order, followed by each NEW target label in the order of first storage (`addName`);
    * every selected numeric column `c` (dtype kind b, i, u, f, c) yields under `c` (inplace) or `c ++ suffix` a float column equal to
      the translated `timeshift(values of the INPUT column c, seconds·fs, order 31)`;
    * every label that is not such a target holds exactly what the input holds (unselected, non-numeric, and no other label exists);
    the returned frame is `truncRows g (nTrunc …)`: `g` itself if `nTrunc ≤ 0`, the empty frame if `2·nTrunc ≥ len`, else the rows
    `nTrunc … len - nTrunc - 1` (`DfSpec.rows_trunc`). -/
theorem gen_df_timeshift_spec (h : Heap ℝ) (df : Ref) (f seconds : ℝ) (columns : Option (List String)) (truncate : PyTrunc)
    (inplace : Bool) (suffix : String)
    (hframe : h.isFrame df = true) (hne : (h.frame df).empty = false) (hwf : (h.frame df).WF) (hfs : 0 < f) (hs : seconds ≠ 0)
    (hcols : ∀ c ∈ selection (h.frame df) columns, (h.frame df).hasCol c = true) (htr : truncate ≠ PyTrunc.other) :
    ∃ g : Frame ℝ,
      Gen.df_timeshift h df (.fin f) seconds columns truncate inplace suffix
        = some ((truncRows g (nTrunc truncate seconds f)).realize h df) ∧
      g.nrows = (h.frame df).nrows ∧ g.index = (h.frame df).index ∧
      g.names = ((numericSel (h.frame df) (selection (h.frame df) columns)).map (target inplace suffix)).foldl addName (h.frame df).names ∧
      (∀ c ∈ selection (h.frame df) columns, ∀ col, (h.frame df).col? c = some col → numeric col.kind = true →
        ∃ out, Gen.timeshift col.vals (NpTS.ofScalar (seconds * f)) 31 = some out ∧ out.n = (h.frame df).nrows ∧
          g.col? (target inplace suffix c) = some ⟨target inplace suffix c, 'f', out⟩) ∧
      (∀ name, (∀ c ∈ selection (h.frame df) columns, NumericCol (h.frame df) c → target inplace suffix c ≠ name) →
        g.col? name = (h.frame df).col? name) := by
  obtain ⟨g, hg⟩ := apply_ok (fun v => shiftFn v (seconds * f)) inplace suffix (shiftFn_cols_ok hwf (mul_ne_zero hs hfs.ne')) _ _ rfl hcols
  refine ⟨g, ?_, applyCols_some _ hg⟩
  rw [gen_df_timeshift_eq_model]
  unfold dfTimeshift
  simp only [hframe, hne, Bool.not_true, Bool.or_self, Bool.false_eq_true, if_false, RL.le_eq, RL.ofNat_eq, Nat.cast_zero,
    not_le.mpr hfs, decide_false, RL.beq_eq, hs, any_missing_false.mpr hcols, hg]
  cases truncate with
  | other => exact absurd rfl htr
  | none => simp [nTrunc, truncRows]
  | bool b => simp [nTrunc]
  | int z => simp [nTrunc]

/-- a small frame: a float column and a string column, three rows -/
noncomputable def exFrame : Frame ℝ := ⟨[⟨"a", 'f', ⟨3, fun i => (i : ℝ)⟩⟩, ⟨"s", 'O', ⟨3, fun _ => 0⟩⟩], 3, ⟨3, fun i => i⟩⟩

theorem exFrame_facts : Heap.isFrame (⟨[some exFrame]⟩ : Heap ℝ) 0 = true ∧ (Heap.frame (⟨[some exFrame]⟩ : Heap ℝ) 0).empty = false ∧
    (Heap.frame (⟨[some exFrame]⟩ : Heap ℝ) 0).WF ∧ (Heap.frame (⟨[some exFrame]⟩ : Heap ℝ) 0).hasCol "a" = true := by
  refine ⟨rfl, rfl, ?_, rfl⟩
  show exFrame.WF
  intro col hcol
  simp only [exFrame, List.mem_cons, List.not_mem_nil, or_false] at hcol
  rcases hcol with rfl | rfl <;> rfl

example : ∃ (h : Heap ℝ) (df : Ref) (f seconds : ℝ) (columns : Option (List String)) (truncate : PyTrunc),
    h.isFrame df = true ∧ (h.frame df).empty = false ∧ (h.frame df).WF ∧ 0 < f ∧ seconds ≠ 0 ∧
    (∀ c ∈ selection (h.frame df) columns, (h.frame df).hasCol c = true) ∧ truncate ≠ PyTrunc.other :=
  ⟨⟨[some exFrame]⟩, 0, 2, -3 / 8, some ["a"], .bool false, exFrame_facts.1, exFrame_facts.2.1, exFrame_facts.2.2.1, by norm_num,
    by norm_num, by intro c hc; simp only [selection, List.mem_singleton] at hc; subst hc; exact exFrame_facts.2.2.2, by simp⟩

/-- **the input frame is not modified** — nor is any other object that existed before the call: whatever `df_timeshift` returns, the
    store it leaves agrees with the old one on every old reference (all writes go to the fresh copy made by `df.copy()`) -/
theorem gen_df_timeshift_input_untouched (h h' : Heap ℝ) (df r : Ref) (fs : PyFloat ℝ) (seconds : ℝ) (columns : Option (List String))
    (truncate : PyTrunc) (inplace : Bool) (suffix : String)
    (hres : Gen.df_timeshift h df fs seconds columns truncate inplace suffix = some (h', r)) :
    (∀ q < h.objs.length, h'.objs.getD q none = h.objs.getD q none) ∧ (h.isFrame df = true → h'.frame df = h.frame df) := by
  rw [gen_df_timeshift_eq_model] at hres
  exact untouched_of_realize hres

/-- **a zero shift returns the input frame itself** (the same object, the store unchanged), whatever `columns` / `truncate` say —
    even labels that do not exist and a `truncate` of the wrong type are not looked at -/
theorem gen_df_timeshift_zero (h : Heap ℝ) (df : Ref) (f : ℝ) (columns : Option (List String)) (truncate : PyTrunc) (inplace : Bool)
    (suffix : String) (hframe : h.isFrame df = true) (hne : (h.frame df).empty = false) (hfs : 0 < f) :
    Gen.df_timeshift h df (.fin f) 0 columns truncate inplace suffix = some (h, df) := by
  rw [gen_df_timeshift_eq_model]
  unfold dfTimeshift
  simp [hframe, hne, not_le.mpr hfs, Result.realize]

/-- **`truncate=False` truncates exactly like `truncate=True`** (`isinstance(False, bool)` is true, and the value of the bool is never
    read): on every input the two calls agree.  (The docstring says "If True, truncate …".) -/
theorem gen_df_timeshift_truncate_false_eq_true (h : Heap ℝ) (df : Ref) (fs : PyFloat ℝ) (seconds : ℝ) (columns : Option (List String))
    (inplace : Bool) (suffix : String) :
    Gen.df_timeshift h df fs seconds columns (.bool false) inplace suffix
      = Gen.df_timeshift h df fs seconds columns (.bool true) inplace suffix := by
  rw [gen_df_timeshift_eq_model, gen_df_timeshift_eq_model]
  rfl

/-- **exactly which inputs raise** (`df_timeshift`; frames whose columns all have one value per row): not a DataFrame; an empty frame;
    `fs` not a finite positive number; or — only for a NON-ZERO shift — a requested label that is not a column, or a `truncate` that is
    neither None, bool nor int. -/
theorem gen_df_timeshift_rejects_iff (h : Heap ℝ) (df : Ref) (fs : PyFloat ℝ) (seconds : ℝ) (columns : Option (List String))
    (truncate : PyTrunc) (inplace : Bool) (suffix : String) (hwf : (h.frame df).WF) :
    Gen.df_timeshift h df fs seconds columns truncate inplace suffix = none ↔
      (h.isFrame df = false ∨ (h.frame df).empty = true ∨ (∀ f, fs = .fin f → f ≤ 0) ∨
        (seconds ≠ 0 ∧ ((∃ c ∈ selection (h.frame df) columns, (h.frame df).hasCol c = false) ∨ truncate = .other))) := by
  rw [gen_df_timeshift_eq_model, Option.map_eq_none_iff, ← any_missing_iff]
  unfold dfTimeshift
  by_cases hframe : h.isFrame df = true
  swap
  · simp [hframe]
  by_cases hne : (h.frame df).empty = true
  · simp [hne]
  -- a guard that has been passed is taken off both sides, so that the next step reads a smaller statement
  simp only [hframe, hne, Bool.not_true, Bool.or_self, Bool.false_eq_true, if_false, Bool.true_eq_false, false_or]
  cases fs with
  | fin f =>
    by_cases hfs : f ≤ 0
    · simp [hfs]
    by_cases hs : seconds = 0
    · simp [hfs, hs]
    simp only [RL.le_eq, RL.beq_eq, RL.ofNat_eq, Nat.cast_zero, hfs, hs, decide_false, Bool.false_eq_true, if_false, PyFloat.fin.injEq,
      forall_eq', ne_eq, not_false_eq_true, true_and, false_or]
    by_cases hany : (selection (h.frame df) columns).any (fun c => !(h.frame df).hasCol c) = true
    · simp [hany]
    -- nothing is missing: the column loop succeeds, and only a `truncate` of the wrong type is left to raise
    have hcols := any_missing_false.mp ((Bool.not_eq_true _).mp hany)
    obtain ⟨g, hg⟩ := apply_ok (fun v => shiftFn v (seconds * f)) inplace suffix
      (shiftFn_cols_ok hwf (mul_ne_zero hs (not_le.mp hfs).ne')) _ _ rfl hcols
    cases truncate <;> simp [hany, hg]
  | _ => exact iff_of_true rfl (Or.inl nofun)

/-- per column: in the interior (16 samples of the record on either side of the shifted position) the stored value is the value at
    `n + seconds·fs` of the polynomial of degree ≤ 31 through the 32 surrounding samples of the INPUT column (transfer of
    `gen_const_is_interpolant`, region TimeShift, to the column the wrapper stores) -/
theorem gen_df_timeshift_column_interpolant (col out : Arr ℝ) (f seconds : ℝ) (hfs : 0 < f) (hs : seconds ≠ 0) (hsz : 2 ≤ col.n)
    (hout : Gen.timeshift col (NpTS.ofScalar (seconds * f)) 31 = some out)
    (n : ℕ) (hn : n < col.n) (hint : Interior col.n 16 ⌊seconds * f⌋ n) (p : Polynomial ℝ) (hp : p.natDegree < 2 * 16)
    (hfit : ∀ k : ℕ, k < 2 * 16 → p.eval (((n : ℤ) + ⌊seconds * f⌋ - (((16 : ℕ) : ℤ) - 1) + (k : ℤ) : ℤ) : ℝ)
      = col.get ((n : ℤ) + ⌊seconds * f⌋ - (((16 : ℕ) : ℤ) - 1) + (k : ℤ)).toNat) :
    out.get n = p.eval ((n : ℝ) + seconds * f) :=
  gen_const_is_interpolant col (NpTS.ofScalar (seconds * f)) 16 (by norm_num) hsz rfl (mul_ne_zero hs (ne_of_gt hfs)) out
    (by simpa using hout) n hn hint p hp hfit

theorem gen_df_timeshift_defaults :
    Gen.df_timeshift_columns_default = none ∧ Gen.df_timeshift_truncate_default = PyTrunc.none ∧
    Gen.df_timeshift_inplace_default = false ∧ Gen.df_timeshift_suffix_default = "_shifted" :=
  ⟨rfl, rfl, rfl, by decide⟩

/-- under the `np.polyfit` contract the translated `polynomial_detrend` never raises on a non-empty record with `order ≥ 0`, and keeps the length -/
theorem detrendFn_ok (polyfit : RmsGen.Polyfit) (hc : RmsGen.PolyfitLS polyfit) (v : Arr ℝ) (hn : v.n ≠ 0) (order : ℤ) (ho : 0 ≤ order) :
    ∃ out, detrendFn polyfit v order = some out ∧ out.n = v.n := by
  by_cases h0 : order = 0
  · exact h0 ▸ ⟨_, RmsGen.detrend0_some polyfit v hn, rfl⟩
  · obtain ⟨r, hr, hrn, _⟩ := RmsGen.detrend_of_contract polyfit hc v hn order (by omega)
    exact ⟨r, hr, hrn⟩

theorem detrendFn_cols_ok (polyfit : RmsGen.Polyfit) (hc : RmsGen.PolyfitLS polyfit) {df : Frame ℝ} (hwf : df.WF) (hne : df.empty = false)
    (order : ℤ) (ho : 0 ≤ order) :
    ∀ col ∈ df.cols, numeric col.kind = true → ∃ v, detrendFn polyfit col.vals order = some v ∧ v.n = df.nrows := by
  intro col hcol _
  have hrows : col.vals.n ≠ 0 := by
    rw [hwf col hcol]
    intro h0
    simp [Frame.empty, h0] at hne
  obtain ⟨out, hout, hn⟩ := detrendFn_ok polyfit hc col.vals hrows order ho
  exact ⟨out, hout, hn.trans (hwf col hcol)⟩

/-- **`df_detrend`, accepted input** (a non-empty DataFrame, `order ≥ 0`, every requested label present; `np.polyfit` obeys its
    least-squares contract `RmsGen.PolyfitLS`).  The call does not raise and returns a fresh copy `g` of the input (appended to the
    store) in which rows and index are the input's, the labels follow pandas' order rule, every selected numeric column `c` yields
    under `c` / `c ++ suffix` a float column equal to the translated `polynomial_detrend(values of the INPUT column c, order)`, and
    every other label holds exactly what the input holds. -/
theorem gen_df_detrend_spec (polyfit : RmsGen.Polyfit) (hc : RmsGen.PolyfitLS polyfit) (h : Heap ℝ) (df : Ref)
    (columns : Option (List String)) (order : ℤ) (inplace : Bool) (suffix : String)
    (hframe : h.isFrame df = true) (hne : (h.frame df).empty = false) (hwf : (h.frame df).WF) (ho : 0 ≤ order)
    (hcols : ∀ c ∈ selection (h.frame df) columns, (h.frame df).hasCol c = true) :
    ∃ g : Frame ℝ,
      Gen.df_detrend polyfit h df columns order inplace suffix = some (⟨h.objs ++ [some g]⟩, h.objs.length) ∧
      g.nrows = (h.frame df).nrows ∧ g.index = (h.frame df).index ∧
      g.names = ((numericSel (h.frame df) (selection (h.frame df) columns)).map (target inplace suffix)).foldl addName (h.frame df).names ∧
      (∀ c ∈ selection (h.frame df) columns, ∀ col, (h.frame df).col? c = some col → numeric col.kind = true →
        ∃ out, Gen.polynomial_detrend polyfit col.vals order = some out ∧ out.n = (h.frame df).nrows ∧
          g.col? (target inplace suffix c) = some ⟨target inplace suffix c, 'f', out⟩) ∧
      (∀ name, (∀ c ∈ selection (h.frame df) columns, NumericCol (h.frame df) c → target inplace suffix c ≠ name) →
        g.col? name = (h.frame df).col? name) := by
  obtain ⟨g, hg⟩ := apply_ok (fun v => detrendFn polyfit v order) inplace suffix (detrendFn_cols_ok polyfit hc hwf hne order ho) _ _ rfl hcols
  refine ⟨g, ?_, applyCols_some _ hg⟩
  rw [gen_df_detrend_eq_model]
  unfold dfDetrend
  simp only [hframe, hne, Bool.not_true, Bool.or_self, Bool.false_eq_true, if_false, not_lt.mpr ho, any_missing_false.mpr hcols, hg,
    Option.map_some, Result.realize]

example : ∃ (polyfit : RmsGen.Polyfit) (h : Heap ℝ) (df : Ref) (columns : Option (List String)) (order : ℤ),
    RmsGen.PolyfitLS polyfit ∧ h.isFrame df = true ∧ (h.frame df).empty = false ∧ (h.frame df).WF ∧ 0 ≤ order ∧
    (∀ c ∈ selection (h.frame df) columns, (h.frame df).hasCol c = true) :=
  ⟨RmsGen.lsPolyfit, ⟨[some exFrame]⟩, 0, some ["a"], 2, RmsGen.lsPolyfit_contract, exFrame_facts.1, exFrame_facts.2.1, exFrame_facts.2.2.1,
    by norm_num, by intro c hc; simp only [selection, List.mem_singleton] at hc; subst hc; exact exFrame_facts.2.2.2⟩

theorem gen_df_detrend_input_untouched (polyfit : RmsGen.Polyfit) (h h' : Heap ℝ) (df r : Ref) (columns : Option (List String))
    (order : ℤ) (inplace : Bool) (suffix : String)
    (hres : Gen.df_detrend polyfit h df columns order inplace suffix = some (h', r)) :
    (∀ q < h.objs.length, h'.objs.getD q none = h.objs.getD q none) ∧ (h.isFrame df = true → h'.frame df = h.frame df) ∧
      r = h.objs.length := by
  rw [gen_df_detrend_eq_model] at hres
  refine ⟨(untouched_of_realize hres).1, (untouched_of_realize hres).2, ?_⟩
  -- the model of `df_detrend` only ever returns a fresh copy
  obtain ⟨res, hm, hres⟩ := Option.map_eq_some_iff.mp hres
  simp only [dfDetrend, Option.ite_none_left_eq_some] at hm
  obtain ⟨g, -, rfl⟩ := Option.map_eq_some_iff.mp hm.2.2.2
  exact (congrArg Prod.snd hres).symm

/-- **exactly which inputs raise** (`df_detrend`; frames whose columns all have one value per row; `np.polyfit` obeys its contract):
    not a DataFrame; an empty frame; `order < 0`; a requested label that is not a column. -/
theorem gen_df_detrend_rejects_iff (polyfit : RmsGen.Polyfit) (hc : RmsGen.PolyfitLS polyfit) (h : Heap ℝ) (df : Ref)
    (columns : Option (List String)) (order : ℤ) (inplace : Bool) (suffix : String) (hwf : (h.frame df).WF) :
    Gen.df_detrend polyfit h df columns order inplace suffix = none ↔
      (h.isFrame df = false ∨ (h.frame df).empty = true ∨ order < 0 ∨
        ∃ c ∈ selection (h.frame df) columns, (h.frame df).hasCol c = false) := by
  rw [gen_df_detrend_eq_model, Option.map_eq_none_iff, ← any_missing_iff]
  unfold dfDetrend
  by_cases hframe : h.isFrame df = true
  swap
  · simp [hframe]
  by_cases hne : (h.frame df).empty = true
  · simp [hne]
  by_cases ho : order < 0
  · simp [ho]
  by_cases hany : (selection (h.frame df) columns).any (fun c => !(h.frame df).hasCol c) = true
  · simp [hany]
  have hcols := any_missing_false.mp ((Bool.not_eq_true _).mp hany)
  obtain ⟨g, hg⟩ := apply_ok (fun v => detrendFn polyfit v order) inplace suffix
    (detrendFn_cols_ok polyfit hc hwf (by simpa using hne) order (not_lt.mp ho)) _ _ rfl hcols
  simp [hframe, hne, ho, hany, hg]

/-- **per column, orders ≥ 1** (transfer of the RmsGen theorems to what the wrapper stores): the column `out` stored for a numeric
    input column `x` (`polynomial_detrend(x, order) = some out`) is orthogonal to `1, t, …, t^d`, `d = min(order, len-1)`; it vanishes
    when `x` is a polynomial of degree ≤ d on the sample grid; and detrending it again returns it unchanged -/
theorem gen_df_detrend_column_props (polyfit : RmsGen.Polyfit) (hc : RmsGen.PolyfitLS polyfit) (x out : Arr ℝ) (hn : x.n ≠ 0)
    (order : ℤ) (ho : 1 ≤ order) (hout : Gen.polynomial_detrend polyfit x order = some out) :
    out.n = x.n ∧
    (∀ k ≤ RmsGen.effDeg x.n order, ∑ i ∈ range x.n, out.get i * (i : ℝ) ^ k = 0) ∧
    (∀ a : ℕ → ℝ, (∀ i < x.n, x.get i = ∑ k ∈ range (RmsGen.effDeg x.n order + 1), a k * (i : ℝ) ^ k) → ∀ i < x.n, out.get i = 0) ∧
    (∃ r', Gen.polynomial_detrend polyfit out order = some r' ∧ r'.n = out.n ∧ ∀ i < x.n, r'.get i = out.get i) := by
  obtain ⟨r, hr, hrn, hd⟩ := RmsGen.detrend_of_contract polyfit hc x hn order ho
  obtain rfl : r = out := Option.some.inj (hr.symm.trans hout)
  obtain ⟨r', hr', hrn', hd'⟩ := RmsGen.detrend_of_contract polyfit hc r (hrn ▸ hn) order ho
  rw [hrn] at hd'
  -- second candidates: the zero vector for a polynomial `x`; `r` itself for its own detrending
  exact ⟨hrn, hd.2, fun a ha => hd.unique ⟨⟨a, fun i hi => by rw [sub_zero]; exact ha i hi⟩, fun k _ => by simp⟩,
    r', hr', hrn', hd'.unique ⟨⟨fun _ => 0, fun i _ => by simp⟩, hd.2⟩⟩

/-- order 0 per column: the stored column is `x - mean(x)` (`Model.detrend0`) and sums to zero -/
theorem gen_df_detrend_column_order0 (polyfit : RmsGen.Polyfit) (x out : Arr ℝ) (hn : x.n ≠ 0)
    (hout : Gen.polynomial_detrend polyfit x 0 = some out) :
    Np.Rms.toList out = Model.detrend0 (Np.Rms.toList x) ∧ (Np.Rms.toList out).sum = 0 := by
  have h := gen_detrend0_eq_model polyfit x hn
  rw [hout, Option.map_some, Option.some.injEq] at h
  exact ⟨h, gen_detrend0_sum_zero polyfit x hn out hout⟩

theorem gen_df_detrend_defaults :
    Gen.df_detrend_columns_default = none ∧ Gen.df_detrend_order_default = 1 ∧
    Gen.df_detrend_inplace_default = false ∧ Gen.df_detrend_suffix_default = "_detrended" :=
  ⟨rfl, rfl, rfl, by decide⟩

/-- `gen_df_timeshift_zero` / `gen_df_timeshift_rejects_iff` / `gen_df_detrend_rejects_iff`: a well-formed non-empty frame, `fs > 0` -/
example : ∃ (h : Heap ℝ) (df : Ref) (f : ℝ), h.isFrame df = true ∧ (h.frame df).empty = false ∧ (h.frame df).WF ∧ 0 < f :=
  ⟨⟨[some exFrame]⟩, 0, 2, exFrame_facts.1, exFrame_facts.2.1, exFrame_facts.2.2.1, by norm_num⟩

/-- `DfSpec.rows_trunc`: one row cut at each end of a three-row frame -/
example : ∃ (g : Frame ℝ) (nt : ℤ), 0 < nt ∧ nt * 2 < (g.nrows : ℤ) := ⟨exFrame, 1, by norm_num, by norm_num [exFrame]⟩

/-- `gen_df_detrend_column_props`: a polyfit obeying the contract, a non-empty column, an order ≥ 1 and the stored result -/
example : ∃ (polyfit : RmsGen.Polyfit) (x out : Arr ℝ) (order : ℤ),
    RmsGen.PolyfitLS polyfit ∧ x.n ≠ 0 ∧ 1 ≤ order ∧ Gen.polynomial_detrend polyfit x order = some out := by
  obtain ⟨out, ho, _⟩ := detrendFn_ok RmsGen.lsPolyfit RmsGen.lsPolyfit_contract (⟨4, fun i => (i : ℝ) ^ 3⟩ : Arr ℝ) (by norm_num) 2 (by norm_num)
  exact ⟨RmsGen.lsPolyfit, _, out, 2, RmsGen.lsPolyfit_contract, by norm_num, by norm_num, ho⟩

/-- `gen_df_detrend_column_order0` -/
example : ∃ (polyfit : RmsGen.Polyfit) (x out : Arr ℝ), x.n ≠ 0 ∧ Gen.polynomial_detrend polyfit x 0 = some out := by
  obtain ⟨out, ho, _⟩ := detrendFn_ok RmsGen.lsPolyfit RmsGen.lsPolyfit_contract (⟨4, fun i => (i : ℝ) ^ 3⟩ : Arr ℝ) (by norm_num) 0 (by norm_num)
  exact ⟨RmsGen.lsPolyfit, _, out, by norm_num, ho⟩

/-- `gen_df_timeshift_column_interpolant`: a 60-sample column, `fs = 4`, `seconds = -3/8` (shift −1.5 samples), an interior sample and
    the stored result (the interpolating polynomial exists by Lagrange interpolation: `TimeShiftGen`'s own example covers `Interior`) -/
example : ∃ (col out : Arr ℝ) (f seconds : ℝ), 0 < f ∧ seconds ≠ 0 ∧ 2 ≤ col.n ∧
    Gen.timeshift col (NpTS.ofScalar (seconds * f)) 31 = some out := by
  obtain ⟨out, ho, _⟩ := shiftFn_ok (⟨60, fun i => (i : ℝ) ^ 2⟩ : Arr ℝ) ((-3 / 8 : ℝ) * 4) (by norm_num)
  exact ⟨_, out, 4, -3 / 8, by norm_num, by norm_num, by norm_num, ho⟩

#print axioms gen_df_timeshift_eq_model
#print axioms gen_df_detrend_eq_model
#print axioms gen_df_timeshift_spec
#print axioms gen_df_timeshift_input_untouched
#print axioms gen_df_timeshift_zero
#print axioms gen_df_timeshift_truncate_false_eq_true
#print axioms gen_df_timeshift_rejects_iff
#print axioms gen_df_timeshift_column_interpolant
#print axioms gen_df_timeshift_defaults
#print axioms gen_df_detrend_spec
#print axioms gen_df_detrend_input_untouched
#print axioms gen_df_detrend_rejects_iff
#print axioms gen_df_detrend_column_props
#print axioms gen_df_detrend_column_order0
#print axioms gen_df_detrend_defaults
#print axioms DfSpec.rows_trunc
#print axioms DfSpec.rows_empty
#print axioms DfAux.col?_setCol
#print axioms DfAux.names_setCol
