/-
  Props/KernelHeapGen — the NumPy fallback kernels never write into a caller's buffer.

  `Gen.kheapAll` (regenerated from core.py on every run by vk/regions/kernel_heap.py) lists, per kernel, the buffer operations of its
  body, `_gather_segments` inlined.  `Model.KHeap.cRun` is the concrete aliasing semantics (one buffer per variable, run-time choices by an
  arbitrary oracle), `aRun` the may-alias abstraction.  The concrete written buffers are among the abstract ones for every oracle
  and op list (`cRun_sub_aRun`), and the abstract run of every generated list writes no caller buffer (evaluation): so
  no execution of a NumPy kernel, whatever `np.asarray` aliases and whichever branches run, writes the record, the start list, the window
  or the basis handed to it.  Sharpness (`view_gather_would_write`): were the gather a VIEW (basic indexing) instead of a fancy-index
  copy, the order-0 kernel's in-place mean removal would write the caller's record (the defect class of seeded changes C01, C13c, C14).
-/
import SpecKitV.Gen.KernelHeap

open Model Model.KHeap

namespace KHeapSim

/-- the abstract state covers the concrete one -/
structure Rel (c : CSt) (a : ASt) : Prop where
  next : c.next = a.next
  env : ∀ v, c.env v ∈ a.env v
  written : ∀ b ∈ c.written, b ∈ a.written

theorem rel_init (k : Nat) : Rel (cInit k) (aInit k) :=
  ⟨rfl, fun v => by simp [cInit, aInit], fun b hb => by simp [cInit] at hb⟩

variable {c : CSt} {a : ASt}

/-- binding `d` to a buffer the abstract state lists for it -/
theorem Rel.set (h : Rel c a) (d : Nat) {b : Nat} {bs : List Nat} (hb : b ∈ bs) : Rel (c.set d b) (a.set d bs) :=
  ⟨h.next, fun v => by
    by_cases hv : v = d
    · simpa [CSt.set, ASt.set, hv] using hb
    · simpa [CSt.set, ASt.set, hv] using h.env v, h.written⟩

theorem Rel.bump (h : Rel c a) : Rel { c with next := c.next + 1 } { a with next := a.next + 1 } :=
  ⟨congrArg (· + 1) h.next, h.env, h.written⟩

/-- the oracle counter is related to nothing -/
theorem Rel.tick (h : Rel c a) (t : Nat) : Rel { c with tick := t } a :=
  ⟨h.next, h.env, h.written⟩

/-- an in-place operation on `v` is charged to every buffer `v` may denote -/
theorem Rel.write (h : Rel c a) (v : Nat) :
    Rel { c with written := c.env v :: c.written } { a with written := a.env v ++ a.written } :=
  ⟨h.next, h.env, fun b hb => by
    rcases List.mem_cons.1 hb with rfl | hb
    · exact List.mem_append_left _ (h.env v)
    · exact List.mem_append_right _ (h.written b hb)⟩

theorem rel_step (ch : Nat → Bool) (c : CSt) (a : ASt) (h : Rel c a) (op : KOp) :
    Rel (cStep ch c op) (aStep a op) := by
  have hnew : c.next ∈ [a.next] := by simp [h.next]
  cases op with
  | asarray d x =>
    simp only [cStep, aStep]
    split
    · exact ((h.set d (List.mem_cons_of_mem _ (h.env x))).bump).tick _
    · exact ((h.set d (by simp [h.next])).bump).tick _
  | fancy d x => exact (h.set d hnew).bump
  | basic d x => exact h.set d (h.env x)
  | bind d x => exact h.set d (h.env x)
  | fresh d => exact (h.set d hnew).bump
  | nanToNum d x copy =>
    cases copy
    · exact (h.write x).set d (h.env x)
    · exact (h.set d hnew).bump
  | write v => exact h.write v
  | phi d x y =>
    simp only [cStep, aStep]
    split
    · exact (h.set d (List.mem_append_left _ (h.env x))).tick _
    · exact (h.set d (List.mem_append_right _ (h.env y))).tick _

theorem rel_foldl (ch : Nat → Bool) (ops : List KOp) :
    ∀ (c : CSt) (a : ASt), Rel c a → Rel (ops.foldl (cStep ch) c) (ops.foldl aStep a) :=
  fun _ _ h => List.foldl_rel h fun op _ c a h => rel_step ch c a h op

end KHeapSim

/-- every buffer a concrete execution writes is in the abstract written set — for every oracle, every op list -/
theorem cRun_sub_aRun (ch : Nat → Bool) (k : Nat) (ops : List KOp) :
    ∀ b ∈ (cRun ch k ops).written, b ∈ (aRun k ops).written :=
  (KHeapSim.rel_foldl ch ops _ _ (KHeapSim.rel_init k)).written

/-- abstract evaluation of the generated op lists: no caller buffer is ever charged with a write -/
theorem np_kernels_abstract_clean : ∀ p ∈ Gen.kheapAll, callerWritten p.1 p.2 = [] := by
  decide +kernel

/-- no execution of any NumPy fallback kernel writes one of the buffers it was handed (record(s), starts, window, basis) -/
theorem np_kernels_write_no_caller_buffer (ch : Nat → Bool) :
    ∀ p ∈ Gen.kheapAll, ∀ b ∈ (cRun ch p.1 p.2).written, p.1 ≤ b := by
  intro p hp b hb
  refine Nat.le_of_not_lt fun hlt => ?_
  have hm : b ∈ callerWritten p.1 p.2 := List.mem_filter.2 ⟨cRun_sub_aRun ch p.1 p.2 b hb, decide_eq_true hlt⟩
  rw [np_kernels_abstract_clean p hp] at hm
  exact List.not_mem_nil hm

/-- sharpness: with a VIEW in place of the fancy-index gather, in-place mean removal reaches the caller's record (buffer 0) -/
theorem view_gather_would_write :
    0 ∈ callerWritten 1 [.asarray 1 0, .basic 2 1, .nanToNum 3 2 false, .write 3] := by
  decide

/-- the generated lists are not trivially clean: the kernels DO write (their own) buffers -/
theorem np_kernels_do_write : ∀ p ∈ Gen.kheapAll, (aRun p.1 p.2).written ≠ [] := by
  decide +kernel

#print axioms cRun_sub_aRun
#print axioms np_kernels_abstract_clean
#print axioms np_kernels_write_no_caller_buffer
#print axioms view_gather_would_write
#print axioms np_kernels_do_write
