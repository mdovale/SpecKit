/-
  Props/StartsGen — the machine-translated start-position computation of `ltf_plan`
  (`Gen.ltf_plan_starts`, the per-bin body of the second loop of speckit/schedulers.py `ltf_plan`, regenerated
  from the source on every run) IS the hand model `Model.startsAccum`; hence the segment-safety theorems of
  `Lemmas/Starts.lean` (`startsAccum_safe`: every start is ≥ 0 and start + L ≤ N) and the overlap theorems are
  theorems about the code as translated.
-/
import SpecKitV.RealInst
import SpecKitV.Gen.Sched
import SpecKitV.Model.Sched
import SpecKitV.Lemmas.Starts

theorem gen_ltf_starts_eq_model (N L : ℕ) (K : ℤ) :
    Gen.ltf_plan_starts (α := ℝ) (N : ℤ) (L : ℤ) K = Model.startsAccum (α := ℝ) N L K := by
  unfold Gen.ltf_plan_starts Model.startsAccum
  simp only [RL.lit_one, RL.lit_zero, RL.ofNat_eq, RL.one_eq, RL.zero_eq, Nat.cast_one, Nat.cast_zero, beq_iff_eq,
    decide_eq_true_eq]

theorem gen_ltf_starts_safe (N L : ℕ) (K : ℤ) (hL : 1 ≤ L) (hLN : L ≤ N) (hK2 : 2 ≤ K) (hK : K ≤ (N : ℤ) - L + 1) :
    let D := Gen.ltf_plan_starts (α := ℝ) (N : ℤ) (L : ℤ) K
    D.length = K.toNat ∧ D.head? = some 0 ∧ D.getLast? = some ((N : ℤ) - L) ∧
    D.Pairwise (· < ·) ∧ (∀ d ∈ D, 0 ≤ d ∧ d + L ≤ N) := by
  intro D
  have h := startsAccum_safe N L K hL hLN hK2 hK
  simp only [D, gen_ltf_starts_eq_model]
  exact ⟨h.1, h.2.1, h.2.2.1, h.2.2.2.1, h.2.2.2.2.1⟩

#print axioms gen_ltf_starts_eq_model
#print axioms gen_ltf_starts_safe
