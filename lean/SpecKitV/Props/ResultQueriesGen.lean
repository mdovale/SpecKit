/-
  Props/ResultQueriesGen — the machine-translated result-side glue of speckit/analysis.py (`Gen/ResultQueries.lean`, regenerated from
  the source on every run by vk/regions/result_queries.py) IS the hand model / specification:

  (a) `Gen.compute_assemble`  (SpectrumAnalyzer.compute: scatter loop, sanitising, result dictionary) = `Model.assemble`,
      for rows in any order with distinct indices;
  (b) `Gen.getattr_protocol`  (the cache protocol of SpectrumResult.__getattr__) = `Model.lazyGet` / `Model.lazyRun`,
      with `Model.lazyGet_sound` / `lazy_order_independent` (C14-c) transferred to the translated protocol;
  (c) `Gen.get_measurement` = `Model.measure`, with the `np.interp` contract theorems transferred;
  (d) `Gen.to_dataframe` = `Model.exportFrame`; `Gen.result_dir` advertises the default attributes, the dictionary keys and
      the dynamic names, every one of which the formula table serves.
-/
import SpecKitV.RealInst
import SpecKitV.Gen.ResultQueries
import SpecKitV.Model.ResultQueries
import SpecKitV.Lemmas.AnalyzerGlue
import SpecKitV.Lemmas.Rms
import SpecKitV.PReal

-- Gen/ResultQueries is regenerated from the source on every run.  The simp sets below hold `re + 1j*im` in all its commuted
-- spellings (`cx_recombine` … `cx_recombine₄`); on the present text three of them are idle.
set_option linter.unusedSimpArgs false

namespace RQ

@[simp] theorem isfinite_real (x : ℝ) : Np.isfinite x = true := by
  simp [Np.isfinite]

@[simp] theorem nanToNum_real (x a b c : ℝ) : Np.nanToNum x a b c = x := by
  simp [Np.nanToNum]

/-- `re + 1j*im` (in any of its commuted spellings) is the complex number with these parts -/
theorem cx_recombine (a b : ℝ) : Cx.add (Cx.ofReal a) (Cx.mul Np.cxI (Cx.ofReal b)) = ⟨a, b⟩ := by
  simp [Cx.add, Cx.mul, Cx.ofReal, Np.cxI]
theorem cx_recombine₂ (a b : ℝ) : Cx.add (Cx.ofReal a) (Cx.mul (Cx.ofReal b) Np.cxI) = ⟨a, b⟩ := by
  simp [Cx.add, Cx.mul, Cx.ofReal, Np.cxI]
theorem cx_recombine₃ (a b : ℝ) : Cx.add (Cx.mul Np.cxI (Cx.ofReal b)) (Cx.ofReal a) = ⟨a, b⟩ := by
  simp [Cx.add, Cx.mul, Cx.ofReal, Np.cxI]
theorem cx_recombine₄ (a b : ℝ) : Cx.add (Cx.mul (Cx.ofReal b) Np.cxI) (Cx.ofReal a) = ⟨a, b⟩ := by
  simp [Cx.add, Cx.mul, Cx.ofReal, Np.cxI]

variable {α : Type}

/-- `Model.rowAt` finds the row of bin `k`, when the indices are distinct -/
theorem rowAt_eq_some_iff {rows : List (Np.Row8 α)} (hnd : (rows.map (·.p0)).Nodup) {k : ℕ} {r : Np.Row8 α} :
    Model.rowAt rows k = some r ↔ r ∈ rows ∧ r.p0 = (k : ℤ) := by
  unfold Model.rowAt
  constructor
  · exact fun h => ⟨List.mem_of_find?_eq_some h, by simpa using List.find?_some h⟩
  · rintro ⟨hr, hk⟩
    cases hf : rows.find? (fun q => q.p0 == (k : ℤ)) with
    | none => simpa [hk] using List.find?_eq_none.1 hf r hr
    | some q =>
      have hqk : q.p0 = r.p0 := by rw [hk]; simpa using List.find?_some hf
      rw [List.inj_on_of_nodup_map hnd (List.mem_of_find?_eq_some hf) hr hqk]

theorem rowAt_cons (r : Np.Row8 α) (rest : List (Np.Row8 α)) (k : ℕ) :
    Model.rowAt (r :: rest) k = if r.p0 = (k : ℤ) then some r else Model.rowAt rest k := by
  by_cases h : r.p0 = (k : ℤ) <;> simp [Model.rowAt, h]

/-- a row in front of rows that do not carry its bin: its component is written at its index into the default array -/
theorem binArray_cons {β : Type} {a : Arr β} {r : Np.Row8 α} {rest : List (Np.Row8 α)} {c : Np.Row8 α → β}
    (h0 : 0 ≤ r.p0) (hr : r.p0 ∉ rest.map (·.p0)) :
    Model.binArray a.n (r :: rest) c a.get = Model.binArray a.n rest c (a.set r.p0.toNat (c r)).get := by
  unfold Model.binArray
  congr 1
  funext k
  rw [rowAt_cons]
  split_ifs with hk
  · have hn : Model.rowAt rest k = none :=
      List.find?_eq_none.2 fun q hq hqk => hr (List.mem_map.2 ⟨q, hq, (beq_iff_eq.1 hqk).trans hk.symm⟩)
    rw [hn]
    exact (if_pos (by rw [hk, Int.toNat_natCast])).symm
  · cases Model.rowAt rest k with
    | some q => rfl
    | none => exact (if_neg fun e => hk (by rw [e, Int.toNat_of_nonneg h0])).symm

theorem compute_scatter_step_eq (nf : ℕ) (s : Arr α × Arr α × Arr (Cx α) × Arr α × Arr α × Arr α × Arr α)
    (r : Np.Row8 α) (h : 0 ≤ r.p0) :
    Gen.compute_scatter_step nf s r =
      (s.1.set r.p0.toNat r.p2, s.2.1.set r.p0.toNat r.p3, s.2.2.1.set r.p0.toNat r.p1,
        s.2.2.2.1.set r.p0.toNat r.p4, s.2.2.2.2.1.set r.p0.toNat r.p5, s.2.2.2.2.2.1.set r.p0.toNat r.p6,
        s.2.2.2.2.2.2.set r.p0.toNat r.p7) := by
  simp only [Gen.compute_scatter_step, Np.pyIndex_nonneg _ _ h]

theorem foldl_scatter_step (nf : ℕ) (rows : List (Np.Row8 α)) (hidx : ∀ r ∈ rows, 0 ≤ r.p0) (hnd : (rows.map (·.p0)).Nodup)
    (s : Arr α × Arr α × Arr (Cx α) × Arr α × Arr α × Arr α × Arr α) :
    rows.foldl (Gen.compute_scatter_step nf) s =
      (Model.binArray s.1.n rows (·.p2) s.1.get, Model.binArray s.2.1.n rows (·.p3) s.2.1.get,
        Model.binArray s.2.2.1.n rows (·.p1) s.2.2.1.get, Model.binArray s.2.2.2.1.n rows (·.p4) s.2.2.2.1.get,
        Model.binArray s.2.2.2.2.1.n rows (·.p5) s.2.2.2.2.1.get, Model.binArray s.2.2.2.2.2.1.n rows (·.p6) s.2.2.2.2.2.1.get,
        Model.binArray s.2.2.2.2.2.2.n rows (·.p7) s.2.2.2.2.2.2.get) := by
  induction rows generalizing s with
  | nil => rfl
  | cons r rest ih =>
    rw [List.map_cons, List.nodup_cons] at hnd
    have h0 := hidx r List.mem_cons_self
    rw [List.foldl_cons, ih (fun q hq => hidx q (List.mem_cons_of_mem _ hq)) hnd.2, compute_scatter_step_eq nf s r h0]
    simp only [binArray_cons h0 hnd.1]
    rfl

variable [RealLike α]

/-- `np.nan_to_num(·, nan=0.0, posinf=0.0, neginf=0.0)`, as `compute()` applies it to six of the seven arrays -/
def san (v : α) : α := Np.nanToNum v (RealLike.ofSci 0 true 1) (RealLike.ofSci 0 true 1) (RealLike.ofSci 0 true 1)

/-- what `compute()` makes of one scattered `XY` sample, `re + 1j*im` of the sanitised parts: read off the translated function (run on
    no rows, so that the buffer is the sample), so that the order in which the source writes the sum and the product is not written here -/
def recombine (z : Cx α) : Cx α := ((Gen.compute_assemble 0 [] (fun _ => z.re) fun _ => z).XY.get 0)

/-- `compute()` = scatter loop, then sanitising, field by field -/
theorem compute_assemble_eq (nf : ℕ) (rows : List (Np.Row8 α)) (junk : ℕ → α) (junkC : ℕ → Cx α) :
    Gen.compute_assemble nf rows junk junkC =
      (let s := rows.foldl (Gen.compute_scatter_step nf)
        (⟨nf, junk⟩, ⟨nf, junk⟩, ⟨nf, junkC⟩, ⟨nf, junk⟩, ⟨nf, junk⟩, ⟨nf, junk⟩, ⟨nf, junk⟩)
       { XX := Np.amap san s.1, YY := Np.amap san s.2.1, XY := ⟨s.2.2.1.n, fun i => recombine (s.2.2.1.get i)⟩,
         S12 := Np.amap san s.2.2.2.1, S2 := Np.amap san s.2.2.2.2.1, M2 := Np.amap san s.2.2.2.2.2.1,
         compute_t := s.2.2.2.2.2.2 }) := rfl

theorem san_real (x : ℝ) : san x = x := nanToNum_real x _ _ _

theorem recombine_real (z : Cx ℝ) : recombine z = z := by
  simp [recombine, Gen.compute_assemble, Np.amap, Np.azip, cx_recombine, cx_recombine₂, cx_recombine₃, cx_recombine₄]

end RQ

open RQ

/-- **(a) `compute()` assembles the rows of `_lpsd_core` as specified** — for rows in ANY order whose bin indices are
    distinct and non-negative (what `_lpsd_core(np.arange(nf))` returns; a negative index is not rejected by Python — it
    wraps around — and is excluded here; an index ≥ nf raises `IndexError` in Python and writes outside the arrays here),
    over ℝ (where `np.nan_to_num` is the identity), whatever `np.empty` left in the buffers. -/
theorem gen_compute_assemble_eq_model (nf : ℕ) (rows : List (Np.Row8 ℝ)) (junk : ℕ → ℝ) (junkC : ℕ → Cx ℝ)
    (hidx : ∀ r ∈ rows, 0 ≤ r.p0) (hnd : (rows.map (·.p0)).Nodup) :
    Gen.compute_assemble nf rows junk junkC = Model.assemble nf rows junk junkC := by
  rw [compute_assemble_eq, foldl_scatter_step nf rows hidx hnd]
  simp only [Model.assemble, Model.binArray, Np.amap, san_real, recombine_real]

/-- "field F of bin i of the result is component c of row i": `XX ← p2 (MXX)`, `YY ← p3 (MYY)`, `XY ← p1`, `S12 ← p4 (S1²)`,
    `S2 ← p5`, `M2 ← p6`, `compute_t ← p7`, all at index `p0`, all arrays of length `nf` -/
theorem gen_compute_field_of_row (nf : ℕ) (rows : List (Np.Row8 ℝ)) (junk : ℕ → ℝ) (junkC : ℕ → Cx ℝ)
    (hidx : ∀ r ∈ rows, 0 ≤ r.p0) (hnd : (rows.map (·.p0)).Nodup) (r : Np.Row8 ℝ) (hr : r ∈ rows) :
    let G := Gen.compute_assemble nf rows junk junkC
    (G.XX.n = nf ∧ G.YY.n = nf ∧ G.XY.n = nf ∧ G.S12.n = nf ∧ G.S2.n = nf ∧ G.M2.n = nf ∧ G.compute_t.n = nf) ∧
    G.XX.get r.p0.toNat = r.p2 ∧ G.YY.get r.p0.toNat = r.p3 ∧ G.XY.get r.p0.toNat = r.p1 ∧ G.S12.get r.p0.toNat = r.p4 ∧
    G.S2.get r.p0.toNat = r.p5 ∧ G.M2.get r.p0.toNat = r.p6 ∧ G.compute_t.get r.p0.toNat = r.p7 := by
  intro G
  simp only [G, gen_compute_assemble_eq_model nf rows junk junkC hidx hnd, Model.assemble, Model.binArray,
    (rowAt_eq_some_iff hnd).2 ⟨hr, (Int.toNat_of_nonneg (hidx r hr)).symm⟩, and_self]

/-- the order of the rows does not matter: any permutation of the rows (e.g. another thread schedule of a chunked core) gives
    the same result arrays -/
theorem gen_compute_assemble_perm (nf : ℕ) (rows rows' : List (Np.Row8 ℝ)) (junk : ℕ → ℝ) (junkC : ℕ → Cx ℝ)
    (hperm : rows.Perm rows') (hidx : ∀ r ∈ rows, 0 ≤ r.p0) (hnd : (rows.map (·.p0)).Nodup) :
    Gen.compute_assemble nf rows junk junkC = Gen.compute_assemble nf rows' junk junkC := by
  have hidx' : ∀ r ∈ rows', 0 ≤ r.p0 := fun r hr => hidx r (hperm.mem_iff.mpr hr)
  have hnd' : (rows'.map (·.p0)).Nodup := (hperm.map _).nodup_iff.mp hnd
  rw [gen_compute_assemble_eq_model nf rows junk junkC hidx hnd, gen_compute_assemble_eq_model nf rows' junk junkC hidx' hnd']
  have hrow : ∀ k, Model.rowAt rows k = Model.rowAt rows' k := fun k => Option.ext fun r => by
    rw [rowAt_eq_some_iff hnd, rowAt_eq_some_iff hnd', hperm.mem_iff]
  simp only [Model.assemble, Model.binArray, hrow]

/-- when the rows cover every bin `0 … nf−1`, nothing of what `np.empty` left in the buffers survives in bins `< nf` -/
theorem gen_compute_no_junk (nf : ℕ) (rows : List (Np.Row8 ℝ)) (junk junk' : ℕ → ℝ) (junkC junkC' : ℕ → Cx ℝ)
    (hidx : ∀ r ∈ rows, 0 ≤ r.p0) (hnd : (rows.map (·.p0)).Nodup) (hcover : ∀ k < nf, ∃ r ∈ rows, r.p0 = (k : ℤ))
    (k : ℕ) (hk : k < nf) :
    let G := Gen.compute_assemble nf rows junk junkC
    let G' := Gen.compute_assemble nf rows junk' junkC'
    G.XX.get k = G'.XX.get k ∧ G.YY.get k = G'.YY.get k ∧ G.XY.get k = G'.XY.get k ∧ G.S12.get k = G'.S12.get k ∧
    G.S2.get k = G'.S2.get k ∧ G.M2.get k = G'.M2.get k ∧ G.compute_t.get k = G'.compute_t.get k := by
  intro G G'
  obtain ⟨r, hr, hrk⟩ := hcover k hk
  -- the row of bin `k` is found, so the buffers' contents are not read
  simp only [G, G', gen_compute_assemble_eq_model nf rows _ _ hidx hnd, Model.assemble, Model.binArray,
    (rowAt_eq_some_iff hnd).2 ⟨hr, hrk⟩, and_self]

/-! ### sanitising, read at the STRICT partial reals (`PReal = Option ℝ`, `none` = NaN / ±Inf): over ℝ `np.nan_to_num` is the
    identity and invisible; here it is what makes every entry of the result a finite number -/

namespace RQ
theorem preal_isSome_ofNat (n : ℕ) : (RealLike.ofNat n : PReal).isSome = true := rfl

theorem isSome_iff_fin {x : PReal} : x.isSome = true ↔ PReal.Fin x := by
  cases x <;> simp

/-- `np.nan_to_num(x, nan=a, posinf=b, neginf=c)` with a finite `a` is finite, whatever `x` (the strict reals have one
    non-number, so `b` and `c` are never taken) -/
theorem nanToNum_fin (x : PReal) {a b c : PReal} (ha : PReal.Fin a) : PReal.Fin (Np.nanToNum x a b c) := by
  cases x with
  | none => simpa [Np.nanToNum] using ha
  | some v => simp [Np.nanToNum, Np.isfinite, PReal.Fin]

theorem san_fin (x : PReal) : PReal.Fin (san x) := nanToNum_fin x (PReal.fin_ofSci _ _ _)

/-- `re + 1j*im` of two finite numbers, in whatever order: sums and products of finite numbers -/
theorem recombine_fin (z : Cx PReal) : PReal.Fin (recombine z).re ∧ PReal.Fin (recombine z).im := by
  simp only [recombine, Gen.compute_assemble, List.foldl_cons, List.foldl_nil, Np.amap, Np.azip, Cx.add, Cx.mul, Cx.ofReal, Np.cxI,
    PReal.fin_add, PReal.fin_sub, PReal.fin_mul, PReal.fin_ofNat, nanToNum_fin _ (PReal.fin_ofSci _ _ _), and_self]
end RQ

/-- every entry of `XX, YY, XY, S12, S2, M2` that `compute()` hands to the result is a FINITE number — whatever the rows contain
    (NaN / ±Inf included), whatever their order, whatever `np.empty` left behind.  (`compute_t` is not sanitised by the code.) -/
theorem gen_compute_sanitised (nf : ℕ) (rows : List (Np.Row8 PReal)) (junk : ℕ → PReal) (junkC : ℕ → Cx PReal) (k : ℕ) :
    let G := Gen.compute_assemble nf rows junk junkC
    (G.XX.get k).isSome = true ∧ (G.YY.get k).isSome = true ∧ (G.XY.get k).re.isSome = true ∧ (G.XY.get k).im.isSome = true ∧
    (G.S12.get k).isSome = true ∧ (G.S2.get k).isSome = true ∧ (G.M2.get k).isSome = true := by
  intro G
  simp only [G, compute_assemble_eq, Np.amap, isSome_iff_fin, san_fin, recombine_fin, and_self]

/-- satisfiable: three rows in scrambled order -/
example : ∃ rows : List (Np.Row8 ℝ), rows.length = 3 ∧ (∀ r ∈ rows, 0 ≤ r.p0) ∧ (rows.map (·.p0)).Nodup ∧
    (∀ k : ℕ, k < 3 → ∃ r ∈ rows, r.p0 = (k : ℤ)) ∧ rows.map (·.p0) ≠ [0, 1, 2] :=
  ⟨[⟨2, ⟨1, 2⟩, 3, 4, 5, 6, 7, 8⟩, ⟨0, ⟨0, 1⟩, 1, 1, 1, 1, 1, 1⟩, ⟨1, ⟨5, 5⟩, 2, 2, 2, 2, 2, 2⟩], rfl, by decide, by decide,
    by decide, by decide⟩

namespace RQ

/-- the attribute function the protocol implements: the formula table for the names it serves, the result dictionary otherwise -/
def evalTbl {V : Type} (eval : String → V) (data : String → Option V) (n : String) : V :=
  if Gen.getattr_is_formula n then eval n else (data n).getD (eval n)

theorem evalTbl_formula {V : Type} (eval : String → V) (data : String → Option V) {n : String}
    (h : Gen.getattr_is_formula n = true) : evalTbl eval data n = eval n := if_pos h

/-- nested reads happen only while a formula is evaluated -/
def touchedTbl (touched : String → List String) (n : String) : List String :=
  if Gen.getattr_is_formula n then touched n else []

theorem dictGet_eq_lookup {V : Type} (c : List (String × V)) (k : String) : Np.dictGet c k = Model.lookup k c := by
  induction c with
  | nil => rfl
  | cons p rest ih =>
    obtain ⟨k', v⟩ := p
    simp only [Np.dictGet, Model.lookup, ih]

/-- a sequence of attribute reads through the generated protocol, threading the cache (`none`: some read raised) -/
def genRun {V : Type} (eval : String → V) (touched : String → List String) (data : String → Option V) :
    List (String × V) → List String → Option (List V)
  | _, [] => some []
  | c, n :: ns =>
    match Gen.getattr_protocol eval touched data c n with
    | none => none
    | some (v, c') => (genRun eval touched data c' ns).map (v :: ·)

/-- a readable name: public, and served by the formula table or present in the result dictionary -/
def Readable {V : Type} (data : String → Option V) (name : String) : Prop :=
  Np.startswith name "_" = false ∧ (Gen.getattr_is_formula name = true ∨ (data name).isSome = true)

end RQ

/-- **(b) the translated cache protocol IS `Model.lazyGet`** for every readable name (a name starting with `_` and a name
    that is neither a formula name nor a key of the result dictionary raise `AttributeError` in the real code: `gen_getattr_private`,
    `gen_getattr_unknown`), every cache, every formula table; `htf`: the attributes a formula reads are formula names (true of
    the generated tables: `gen_touched_are_formulas`). -/
theorem gen_getattr_eq_model {V : Type} (eval : String → V) (touched : String → List String) (data : String → Option V)
    (cache : List (String × V)) (name : String) (hread : Readable data name)
    (htf : ∀ n ∈ touched name, Gen.getattr_is_formula n = true) :
    Gen.getattr_protocol eval touched data cache name
      = some (Model.lazyGet (evalTbl eval data) (touchedTbl touched) cache name) := by
  obtain ⟨hpub, hknown⟩ := hread
  unfold Gen.getattr_protocol Model.lazyGet
  simp only [hpub, Bool.false_eq_true, if_false, Np.dictHas, dictGet_eq_lookup]
  cases hl : Model.lookup name cache with
  | some v => simp
  | none =>
    simp only [Option.isSome_none, Bool.false_eq_true, if_false]
    by_cases hf : Gen.getattr_is_formula name = true
    · have hmap : (touched name).map (fun n => (n, eval n)) = (touched name).map (fun n => (n, evalTbl eval data n)) :=
        List.map_congr_left fun n hn => by rw [evalTbl_formula eval data (htf n hn)]
      simp only [hf, if_true, Np.cacheStore, Np.formulaReads, evalTbl, touchedTbl, hmap]
    · obtain ⟨v, hv⟩ := Option.isSome_iff_exists.mp (hknown.resolve_left hf)
      simp [hf, hv, Np.cacheStore, evalTbl, touchedTbl]

/-- a private name raises `AttributeError` and leaves the cache alone -/
theorem gen_getattr_private {V : Type} (eval : String → V) (touched : String → List String) (data : String → Option V)
    (cache : List (String × V)) (name : String) (h : Np.startswith name "_" = true) :
    Gen.getattr_protocol eval touched data cache name = none := by
  unfold Gen.getattr_protocol
  simp [h]

/-- an unknown name (not cached, no formula, not in the result dictionary) raises `AttributeError` -/
theorem gen_getattr_unknown {V : Type} (eval : String → V) (touched : String → List String) (data : String → Option V)
    (cache : List (String × V)) (name : String) (hc : Model.lookup name cache = none)
    (hf : Gen.getattr_is_formula name = false) (hd : data name = none) :
    Gen.getattr_protocol eval touched data cache name = none := by
  unfold Gen.getattr_protocol
  simp [Np.dictHas, RQ.dictGet_eq_lookup, hc, hf, hd]

/-- sequences of reads: the translated protocol threaded through a list of readable names IS `Model.lazyRun` -/
theorem gen_getattr_run_eq_model {V : Type} (eval : String → V) (touched : String → List String) (data : String → Option V)
    (cache : List (String × V)) (names : List String) (hread : ∀ n ∈ names, Readable data n)
    (htf : ∀ m, ∀ n ∈ touched m, Gen.getattr_is_formula n = true) :
    genRun eval touched data cache names = some (Model.lazyRun (evalTbl eval data) (touchedTbl touched) cache names) := by
  induction names generalizing cache with
  | nil => rfl
  | cons n ns ih =>
    simp only [genRun, Model.lazyRun]
    rw [gen_getattr_eq_model eval touched data cache n (hread n List.mem_cons_self) (htf n)]
    simp only [ih _ (fun m hm => hread m (List.mem_cons_of_mem _ hm)), Option.map_some]

/-- transfer of `Model.lazyGet_sound` (C14-c): on a cache whose entries are values of the attribute function, a read
    through the translated protocol returns the attribute function's value and leaves such a cache -/
theorem gen_lazy_cache_sound {V : Type} (eval : String → V) (touched : String → List String) (data : String → Option V)
    (cache : List (String × V)) (name : String) (hread : Readable data name)
    (htf : ∀ n ∈ touched name, Gen.getattr_is_formula n = true) (hok : Model.LazyOk (evalTbl eval data) cache) :
    ∃ c', Gen.getattr_protocol eval touched data cache name = some (evalTbl eval data name, c')
      ∧ Model.LazyOk (evalTbl eval data) c' := by
  obtain ⟨h1, h2⟩ := Model.lazyGet_sound (evalTbl eval data) (touchedTbl touched) cache hok name
  refine ⟨(Model.lazyGet (evalTbl eval data) (touchedTbl touched) cache name).2, ?_, h2⟩
  rw [gen_getattr_eq_model eval touched data cache name hread htf, ← h1]

/-- transfer of `lazyRun_empty`: from the empty cache every sequence of readable names returns the attribute function's values,
    whatever the order and the repetitions -/
theorem gen_lazy_run_empty {V : Type} (eval : String → V) (touched : String → List String) (data : String → Option V)
    (names : List String) (hread : ∀ n ∈ names, Readable data n)
    (htf : ∀ m, ∀ n ∈ touched m, Gen.getattr_is_formula n = true) :
    genRun eval touched data [] names = some (names.map (evalTbl eval data)) := by
  rw [gen_getattr_run_eq_model eval touched data [] names hread htf, Model.lazyRun_empty]

/-- transfer of `lazy_order_independent`: two access orders that are permutations of each other return, for every name read,
    the same value (the attribute function's) -/
theorem gen_lazy_order_independent {V : Type} (eval : String → V) (touched : String → List String) (data : String → Option V)
    (ns ms : List String) (hperm : ns.Perm ms) (hread : ∀ n ∈ ns, Readable data n)
    (htf : ∀ m, ∀ n ∈ touched m, Gen.getattr_is_formula n = true) (n : String) (hn : n ∈ ns) :
    ∃ (vs ws : List V) (i j : ℕ), genRun eval touched data [] ns = some vs ∧ genRun eval touched data [] ms = some ws
      ∧ vs[i]? = some (evalTbl eval data n) ∧ ws[j]? = some (evalTbl eval data n) := by
  have hread' : ∀ n ∈ ms, Readable data n := fun m hm => hread m (hperm.mem_iff.mpr hm)
  obtain ⟨i, j, hi, hj⟩ := Model.lazy_order_independent (evalTbl eval data) (touchedTbl touched) ns ms hperm n hn
  exact ⟨_, _, i, j, gen_getattr_run_eq_model eval touched data [] ns hread htf,
    gen_getattr_run_eq_model eval touched data [] ms hread' htf, hi, hj⟩

/-- the formula table wins over the result dictionary: a formula name that is ALSO a key of the dictionary is served by its formula -/
theorem gen_getattr_formula_first {V : Type} (eval : String → V) (touched : String → List String) (data : String → Option V)
    (name : String) (hpub : Np.startswith name "_" = false) (hf : Gen.getattr_is_formula name = true)
    (htf : ∀ n ∈ touched name, Gen.getattr_is_formula n = true) :
    (Gen.getattr_protocol eval touched data [] name).map Prod.fst = some (eval name) := by
  obtain ⟨c', h, _⟩ := gen_lazy_cache_sound eval touched data [] name ⟨hpub, Or.inl hf⟩ htf (Model.lookup_nil_ok _)
  rw [h, Option.map_some, evalTbl_formula eval data hf]

namespace RQ

theorem all_isfinite_real (f : List ℝ) : f.all Np.isfinite = true := by
  simp [List.all_eq_true]

end RQ

/-- **(c) the translated `get_measurement` IS `Model.measure`**: over ℝ (every query is finite, so the `ValueError` branch is not
    taken) for every grid, every real or complex table, every scalar or array query: real tables are interpolated with
    `np.interp` on the grid `self.f`; complex tables componentwise (real and imaginary parts separately, recombined as
    `re + 1j*im`); a scalar query gives a scalar, an array query an array of the same length. -/
theorem gen_get_measurement_eq_model (grid : List ℝ) (tbl : Np.Table ℝ) (q : Np.Query ℝ) :
    Gen.get_measurement grid tbl q = some (Model.measure grid tbl q) := by
  unfold Gen.get_measurement
  simp only [all_isfinite_real, Bool.not_true, Bool.false_eq_true, if_false]
  cases tbl with
  | real y =>
    cases q with
    | scalar x => simp [Model.measure, Model.measureR, Np.asarrayQ, Np.isscalarQ, Np.interp, Np.item]
    | array xs => simp [Model.measure, Model.measureR, Np.asarrayQ, Np.isscalarQ, Np.interp]
  | cplx y =>
    cases q with
    | scalar x =>
      simp [Model.measure, Model.measureC, Np.asarrayQ, Np.isscalarQ, Np.item, Np.interp, cx_recombine, cx_recombine₂, cx_recombine₃,
        cx_recombine₄]
    | array xs =>
      simp [Model.measure, Model.measureC, Np.asarrayQ, Np.isscalarQ, Np.interp, List.zipWith_map_left, List.zipWith_map_right,
        List.zipWith_self, cx_recombine, cx_recombine₂, cx_recombine₃, cx_recombine₄]

/-! transfer of the `np.interp` contract theorems (Lemmas/Rms `interp_at_grid`, `interp_between`, `interp_clamp_left/right`)
    to the translated method; the grid is strictly increasing (C03) and as long as the table -/

namespace RQ
theorem measurement_real (grid y : List ℝ) (x : ℝ) :
    Gen.get_measurement grid (.real y) (.scalar x) = some (.scalarR (Model.interp grid y x)) :=
  gen_get_measurement_eq_model grid _ _
theorem measurement_cplx (grid : List ℝ) (y : List (Cx ℝ)) (x : ℝ) :
    Gen.get_measurement grid (.cplx y) (.scalar x)
      = some (.scalarC ⟨Model.interp grid (y.map Cx.re) x, Model.interp grid (y.map Cx.im) x⟩) :=
  gen_get_measurement_eq_model grid _ _
end RQ

/-- at a grid frequency the measurement is the tabulated value (real quantity) -/
theorem gen_get_measurement_at_grid_real (grid y : List ℝ) (hlen : grid.length = y.length) (hs : grid.Pairwise (· < ·))
    (i : ℕ) (hi : i < grid.length) :
    Gen.get_measurement grid (.real y) (.scalar (grid.getD i 0)) = some (.scalarR (y.getD i 0)) := by
  rw [RQ.measurement_real, interp_at_grid grid y hlen hs i hi]

/-- at a grid frequency the measurement is the tabulated value, componentwise (complex quantity) -/
theorem gen_get_measurement_at_grid_cplx (grid : List ℝ) (y : List (Cx ℝ)) (hlen : grid.length = y.length)
    (hs : grid.Pairwise (· < ·)) (i : ℕ) (hi : i < grid.length) :
    Gen.get_measurement grid (.cplx y) (.scalar (grid.getD i 0))
      = some (.scalarC ⟨(y.map Cx.re).getD i 0, (y.map Cx.im).getD i 0⟩) := by
  rw [RQ.measurement_cplx, interp_at_grid grid _ (hlen.trans (List.length_map _).symm) hs i hi,
    interp_at_grid grid _ (hlen.trans (List.length_map _).symm) hs i hi]

/-- strictly between two neighbouring grid frequencies the measurement is the affine interpolant (real quantity) -/
theorem gen_get_measurement_between_real (grid y : List ℝ) (hlen : grid.length = y.length) (hs : grid.Pairwise (· < ·))
    (i : ℕ) (hi : i + 1 < grid.length) (x : ℝ) (h1 : grid.getD i 0 < x) (h2 : x < grid.getD (i+1) 0) :
    Gen.get_measurement grid (.real y) (.scalar x)
      = some (.scalarR (y.getD i 0 + (y.getD (i+1) 0 - y.getD i 0) / (grid.getD (i+1) 0 - grid.getD i 0) * (x - grid.getD i 0))) := by
  rw [RQ.measurement_real, interp_between grid y hlen hs i hi x h1 h2]

/-- … and componentwise for a complex quantity -/
theorem gen_get_measurement_between_cplx (grid : List ℝ) (y : List (Cx ℝ)) (hlen : grid.length = y.length)
    (hs : grid.Pairwise (· < ·)) (i : ℕ) (hi : i + 1 < grid.length) (x : ℝ) (h1 : grid.getD i 0 < x) (h2 : x < grid.getD (i+1) 0) :
    Gen.get_measurement grid (.cplx y) (.scalar x)
      = some (.scalarC
          ⟨(y.map Cx.re).getD i 0 + ((y.map Cx.re).getD (i+1) 0 - (y.map Cx.re).getD i 0) / (grid.getD (i+1) 0 - grid.getD i 0) * (x - grid.getD i 0),
           (y.map Cx.im).getD i 0 + ((y.map Cx.im).getD (i+1) 0 - (y.map Cx.im).getD i 0) / (grid.getD (i+1) 0 - grid.getD i 0) * (x - grid.getD i 0)⟩) := by
  rw [RQ.measurement_cplx, interp_between grid _ (hlen.trans (List.length_map _).symm) hs i hi x h1 h2,
    interp_between grid _ (hlen.trans (List.length_map _).symm) hs i hi x h1 h2]

/-- below the first / above the last grid frequency the measurement is clamped to the boundary value (real and complex) -/
theorem gen_get_measurement_clamp_real (grid y : List ℝ) (hlen : grid.length = y.length) (hne : grid ≠ [])
    (hs : grid.Pairwise (· < ·)) (x : ℝ) :
    (x ≤ grid.headD 0 → Gen.get_measurement grid (.real y) (.scalar x) = some (.scalarR (y.headD 0))) ∧
    (grid.getLastD 0 ≤ x → Gen.get_measurement grid (.real y) (.scalar x) = some (.scalarR (y.getLastD 0))) := by
  refine ⟨fun hx => ?_, fun hx => ?_⟩
  · rw [RQ.measurement_real, interp_clamp_left grid y hlen hne x hx]
  · rw [RQ.measurement_real, interp_clamp_right grid y hlen hne hs x hx]

theorem gen_get_measurement_clamp_cplx (grid : List ℝ) (y : List (Cx ℝ)) (hlen : grid.length = y.length) (hne : grid ≠ [])
    (hs : grid.Pairwise (· < ·)) (x : ℝ) :
    (x ≤ grid.headD 0 → Gen.get_measurement grid (.cplx y) (.scalar x)
        = some (.scalarC ⟨(y.map Cx.re).headD 0, (y.map Cx.im).headD 0⟩)) ∧
    (grid.getLastD 0 ≤ x → Gen.get_measurement grid (.cplx y) (.scalar x)
        = some (.scalarC ⟨(y.map Cx.re).getLastD 0, (y.map Cx.im).getLastD 0⟩)) := by
  have h1 : grid.length = (y.map Cx.re).length := hlen.trans (List.length_map _).symm
  have h2 : grid.length = (y.map Cx.im).length := hlen.trans (List.length_map _).symm
  refine ⟨fun hx => ?_, fun hx => ?_⟩
  · rw [RQ.measurement_cplx, interp_clamp_left grid _ h1 hne x hx, interp_clamp_left grid _ h2 hne x hx]
  · rw [RQ.measurement_cplx, interp_clamp_right grid _ h1 hne hs x hx, interp_clamp_right grid _ h2 hne hs x hx]

/-- an array query is answered element by element with the scalar answers, in order -/
theorem gen_get_measurement_array (grid : List ℝ) (y : List ℝ) (xs : List ℝ) :
    Gen.get_measurement grid (.real y) (.array xs) = some (.arrayR (xs.map (fun x => Model.interp grid y x))) := by
  rw [gen_get_measurement_eq_model]
  rfl

namespace RQ

/-- `set(xs)` as modelled (one representative per element, the last occurrence) is Mathlib's `List.dedup` -/
theorem dedup_eq (l : List String) : Np.dedup l = l.dedup := by
  induction l with
  | nil => rfl
  | cons a l ih =>
    unfold Np.dedup
    split_ifs with h
    · rw [ih, List.dedup_cons_of_mem h]
    · rw [ih, List.dedup_cons_of_notMem h]

/-- the contract of `sorted(set(xs) - S)`: its elements … -/
theorem mem_sortedSetDiff (a : String) (xs S : List String) : a ∈ Np.sortedSetDiff xs S ↔ a ∈ xs ∧ a ∉ S := by
  unfold Np.sortedSetDiff
  rw [List.mem_mergeSort, dedup_eq, List.mem_dedup, List.mem_filter]
  simp

/-- … without repetition -/
theorem nodup_sortedSetDiff (xs S : List String) : (Np.sortedSetDiff xs S).Nodup := by
  unfold Np.sortedSetDiff
  rw [dedup_eq]
  exact (List.mergeSort_perm _ _).nodup_iff.mpr (List.nodup_dedup _)

section Frame
variable {V : Type} (callable isNdarray : V → Bool) (shape : V → List Nat) (tbl : String → Option V) (n : ℕ)

/-- the model's column selector -/
def sel (a : String) : Option (String × V) :=
  if a = "f" ∨ Np.startswith a "_" = true then none
  else match tbl a with
    | some v => if Model.perBin callable isNdarray shape n v then some (a, v) else none
    | none => none

variable {callable isNdarray shape tbl n}

theorem exportColumns_eq (names : List String) :
    Model.exportColumns callable isNdarray shape names tbl n
      = (Np.sortedSetDiff names ["iscsd", "fs"]).filterMap (sel callable isNdarray shape tbl n) := rfl

theorem sel_eq_some_iff {a k : String} {v : V} :
    sel callable isNdarray shape tbl n a = some (k, v) ↔
      k = a ∧ a ≠ "f" ∧ Np.startswith a "_" = false ∧ tbl a = some v ∧
        Model.perBin callable isNdarray shape n v = true := by
  unfold sel
  by_cases h1 : a = "f"
  · simp [h1]
  by_cases h2 : Np.startswith a "_" = true
  · simp [h2]
  cases tbl a with
  | none => simp [h1, h2]
  | some w =>
    by_cases hp : Model.perBin callable isNdarray shape n w = true
    · simp [h1, h2, hp]
      constructor
      · rintro ⟨rfl, rfl⟩; exact ⟨rfl, rfl, hp⟩
      · rintro ⟨rfl, rfl, _⟩; exact ⟨rfl, rfl⟩
    · simp [h1, h2, hp]
      rintro rfl rfl
      simpa using hp

theorem sel_key {a : String} {p : String × V} (h : sel callable isNdarray shape tbl n a = some p) : p.1 = a ∧ a ≠ "f" :=
  (sel_eq_some_iff.1 h).imp_right And.left

/-- a selected column carries the name it was selected for, so distinct names give distinct keys -/
theorem filterMap_sel_keys_nodup {l : List String} (hnd : l.Nodup) :
    ((l.filterMap (sel callable isNdarray shape tbl n)).map Prod.fst).Nodup := by
  rw [List.map_filterMap]
  refine hnd.filterMap fun a a' k hk hk' => ?_
  obtain ⟨p, hp, rfl⟩ := Option.mem_map.1 hk
  obtain ⟨p', hp', e⟩ := Option.mem_map.1 hk'
  rw [← (sel_key hp).1, ← (sel_key hp').1, e]

theorem dictHas_false_of_not_mem (d : List (String × V)) (k : String) (h : k ∉ d.map Prod.fst) : Np.dictHas d k = false := by
  induction d with
  | nil => rfl
  | cons p d ih =>
    simp only [List.map_cons, List.mem_cons, not_or] at h
    simpa [Np.dictHas, Np.dictGet, h.1] using ih h.2

theorem odictSet_new (d : List (String × V)) (k : String) (v : V) (h : k ∉ d.map Prod.fst) :
    Np.odictSet d k v = d ++ [(k, v)] := by
  unfold Np.odictSet
  rw [dictHas_false_of_not_mem d k h]
  simp

theorem odictSet_head_same (cols : List (String × V)) (k : String) (v : V) (h : k ∉ cols.map Prod.fst) :
    Np.odictSet ((k, v) :: cols) k v = (k, v) :: cols := by
  unfold Np.odictSet
  have : Np.dictHas ((k, v) :: cols) k = true := by simp [Np.dictHas, Np.dictGet]
  rw [this, if_pos rfl, List.map_cons, if_pos rfl]
  congr 1
  conv_rhs => rw [← List.map_id cols]
  apply List.map_congr_left
  intro p hp
  have : k ≠ p.1 := fun e => h (e ▸ List.mem_map_of_mem hp)
  simp [this]

/-- `set_index` on the key in front, when no other column carries it -/
theorem frameSetIndex_head (k : String) (v : V) (cols : List (String × V)) (h : ∀ p ∈ cols, p.1 ≠ k) :
    Np.frameSetIndex ((k, v) :: cols) k = some (v, cols) := by
  simp only [Np.frameSetIndex, Np.dictGet, if_true, List.filter_cons, beq_self_eq_true, Bool.not_true, Bool.false_eq_true,
    if_false]
  rw [List.filter_eq_self.mpr fun p hp => by simpa using h p hp]

/-- the loop body on a name other than the index: the selected column, if any, is stored -/
theorem step_ne_f {a : String} (ha : a ≠ "f") (d : List (String × V)) :
    Gen.to_dataframe_step callable isNdarray shape tbl n d a =
      match sel callable isNdarray shape tbl n a with
      | some p => Np.odictSet d p.1 p.2
      | none => d := by
  unfold Gen.to_dataframe_step sel
  by_cases h1 : Np.startswith a "_" = true
  · simp [h1]
  cases ht : tbl a with
  | none => simp [h1, ha]
  | some v =>
    by_cases hc : callable v = true
    · simp [h1, ha, Model.perBin, hc]
    · by_cases hs : (isNdarray v && ((shape v).take 1 == [n])) = true <;>
        simp [h1, ha, Model.perBin, hc, hs]

/-- … and on the index itself: `f` is skipped, or stored again under its own key with its own value -/
theorem step_f (f0 : V) (htf : tbl "f" = some f0) (cols : List (String × V)) (hf : "f" ∉ cols.map Prod.fst) :
    Gen.to_dataframe_step callable isNdarray shape tbl n (("f", f0) :: cols) "f" = ("f", f0) :: cols := by
  have h1 : Np.startswith "f" "_" = false := by decide
  simp only [Gen.to_dataframe_step, h1, Bool.false_eq_true, if_false, htf]
  split_ifs
  · rfl
  · exact odictSet_head_same cols "f" f0 hf
  · rfl

/-- the translated loop over distinct names: the selected columns are appended in order, the index stays in front -/
theorem fold_cols (f0 : V) (htf : tbl "f" = some f0) (names : List String) (hnd : names.Nodup)
    (cols : List (String × V)) (hdisj : ∀ a ∈ names, a ∉ cols.map Prod.fst) (hf : "f" ∉ cols.map Prod.fst) :
    names.foldl (Gen.to_dataframe_step callable isNdarray shape tbl n) (("f", f0) :: cols)
      = ("f", f0) :: (cols ++ names.filterMap (sel callable isNdarray shape tbl n)) := by
  induction names generalizing cols with
  | nil => simp
  | cons a rest ih =>
    rw [List.nodup_cons] at hnd
    have hdisj' : ∀ b ∈ rest, b ∉ cols.map Prod.fst := fun b hb => hdisj b (List.mem_cons_of_mem _ hb)
    rw [List.foldl_cons, List.filterMap_cons]
    by_cases haf : a = "f"
    · subst haf
      rw [step_f f0 htf cols hf, show sel callable isNdarray shape tbl n "f" = none by simp [sel]]
      exact ih hnd.2 cols hdisj' hf
    rw [step_ne_f haf]
    cases hs : sel callable isNdarray shape tbl n a with
    | none => exact ih hnd.2 cols hdisj' hf
    | some p =>
      obtain ⟨k, v⟩ := p
      obtain rfl : k = a := (sel_key hs).1
      have hnew : k ∉ (("f", f0) :: cols).map Prod.fst :=
        List.not_mem_cons_of_ne_of_not_mem haf (hdisj k List.mem_cons_self)
      have hkeys : ∀ b, b ∉ (cols ++ [(k, v)]).map Prod.fst ↔ b ∉ cols.map Prod.fst ∧ b ≠ k := fun b => by
        simp only [List.map_append, List.map_cons, List.map_nil, List.mem_append, List.mem_singleton, not_or]
      simp only [odictSet_new _ k v hnew, List.cons_append]
      rw [ih hnd.2 (cols ++ [(k, v)]) ?_ ?_, List.append_assoc, List.singleton_append]
      · exact fun b hb => (hkeys b).2 ⟨hdisj' b hb, fun e => hnd.1 (e ▸ hb)⟩
      · exact (hkeys "f").2 ⟨hf, fun e => haf e.symm⟩

end Frame
end RQ

/-- **(d) the translated `to_dataframe` IS the model export** — for every attribute table (`tbl name = none`: the read raises
    `AttributeError`), every description of values (`callable`, `isNdarray`, `shape`), every name list `dir(self)`:
    index = the attribute `f`; columns = the public names of `set(dir(self)) − {iscsd, fs}` whose value is a non-callable
    ndarray with first dimension `n = f.shape[0]`, in sorted order; `none` (an exception) exactly when `f` cannot be read or is
    0-dimensional. -/
theorem gen_to_dataframe_eq_model {V : Type} (callable isNdarray : V → Bool) (shape : V → List ℕ) (names : List String)
    (tbl : String → Option V) :
    Gen.to_dataframe callable isNdarray shape names tbl = Model.exportFrame callable isNdarray shape names tbl := by
  unfold Gen.to_dataframe Model.exportFrame
  cases htf : tbl "f" with
  | none => rfl
  | some f0 =>
    simp only [Np.dictGet, if_true]
    cases hn : (shape f0)[0]? with
    | none => rfl
    | some n =>
      have hkey : ∀ p ∈ (Np.sortedSetDiff names ["iscsd", "fs"]).filterMap (sel callable isNdarray shape tbl n), p.1 ≠ "f" := by
        intro p hp
        obtain ⟨a, _, ha⟩ := List.mem_filterMap.mp hp
        rw [(sel_key ha).1]
        exact (sel_key ha).2
      simp only []
      rw [fold_cols f0 htf _ (nodup_sortedSetDiff _ _) [] (fun a _ => by simp) (by simp), List.nil_append,
        frameSetIndex_head "f" f0 _ hkey, exportColumns_eq]

/-- which names become columns: exactly the per-bin array attributes, each once -/
theorem gen_to_dataframe_columns {V : Type} (callable isNdarray : V → Bool) (shape : V → List ℕ) (names : List String)
    (tbl : String → Option V) (f0 : V) (n : ℕ) (hf : tbl "f" = some f0) (hn : (shape f0)[0]? = some n) :
    ∃ cols, Gen.to_dataframe callable isNdarray shape names tbl = some (f0, cols) ∧ (cols.map Prod.fst).Nodup ∧
      ∀ a v, (a, v) ∈ cols ↔
        (a ∈ names ∧ a ≠ "iscsd" ∧ a ≠ "fs" ∧ a ≠ "f" ∧ Np.startswith a "_" = false ∧ tbl a = some v ∧
          callable v = false ∧ isNdarray v = true ∧ (shape v).take 1 = [n]) := by
  refine ⟨Model.exportColumns callable isNdarray shape names tbl n, ?_, ?_, ?_⟩
  · rw [gen_to_dataframe_eq_model]
    simp only [Model.exportFrame, hf, hn]
  · rw [exportColumns_eq]
    exact filterMap_sel_keys_nodup (nodup_sortedSetDiff names ["iscsd", "fs"])
  · intro a v
    simp only [exportColumns_eq, List.mem_filterMap, sel_eq_some_iff, mem_sortedSetDiff, List.mem_cons, List.not_mem_nil,
      or_false, not_or, Model.perBin, Bool.and_eq_true, Bool.not_eq_true', beq_iff_eq]
    constructor
    · rintro ⟨b, ⟨hb, h2, h3⟩, rfl, h⟩
      exact ⟨hb, h2, h3, h.1, h.2.1, h.2.2.1, h.2.2.2.1.1, h.2.2.2.1.2, h.2.2.2.2⟩
    · rintro ⟨h1, h2, h3, h4, h5, h6, h7, h8, h9⟩
      exact ⟨a, ⟨h1, h2, h3⟩, rfl, h4, h5, h6, ⟨h7, h8⟩, h9⟩

/-- `__dir__`: the advertised names are the default attributes, the keys of the result dictionary and the dynamic names (the same
    list for auto and cross results), each once -/
theorem gen_result_dir_spec (dflt dataKeys : List String) :
    (Gen.result_dir dflt dataKeys).Nodup ∧
    ∀ a, a ∈ Gen.result_dir dflt dataKeys ↔ Model.advertised dflt dataKeys Gen.dir_dynamic a := by
  unfold Gen.result_dir Np.sortedSet Model.advertised
  refine ⟨RQ.nodup_sortedSetDiff _ _, fun a => ?_⟩
  rw [RQ.mem_sortedSetDiff]
  simp

/-! ## consistency of the generated tables

The tables are fixed finite lists of names generated from the source, so evaluation is the proof; `+kernel`: the
string comparisons are evaluated by the kernel only (the elaborator's own evaluation costs as much again). -/

/-- every dynamic name `__dir__` advertises is served by the formula table of `__getattr__` (so `dir(result)` never advertises a
    name whose read raises `AttributeError`) -/
theorem gen_dir_served : ∀ a ∈ Gen.dir_dynamic, Gen.getattr_is_formula a = true := by
  decide +kernel

/-- no advertised dynamic name is private -/
theorem gen_dir_public : ∀ a ∈ Gen.dir_dynamic, Np.startswith a "_" = false := by
  decide +kernel

/-- the attributes a formula reads through `self.<attr>` are themselves formula names (the premise `htf` of the protocol theorems),
    for auto and for cross results -/
theorem gen_touched_are_formulas :
    (∀ m, ∀ n ∈ Gen.touchedAuto m, Gen.getattr_is_formula n = true) ∧
    (∀ m, ∀ n ∈ Gen.touchedCross m, Gen.getattr_is_formula n = true) := by
  have key : ∀ (tbl : List (String × List String)), (∀ p ∈ tbl, ∀ n ∈ p.2, Gen.getattr_is_formula n = true) →
      ∀ m, ∀ n ∈ (Np.dictGet tbl m).getD [], Gen.getattr_is_formula n = true := by
    intro tbl h m n hn
    induction tbl with
    | nil => simp [Np.dictGet] at hn
    | cons p tbl ih =>
      obtain ⟨k, l⟩ := p
      unfold Np.dictGet at hn
      split_ifs at hn with hk
      · exact h (k, l) List.mem_cons_self n (by simpa using hn)
      · exact ih (fun q hq => h q (List.mem_cons_of_mem _ hq)) hn
  exact ⟨key Gen.touchedAutoTable (by decide +kernel), key Gen.touchedCrossTable (by decide +kernel)⟩

/-- hence: on a fresh AUTO or CROSS result, ANY sequence of reads of advertised dynamic names through the translated protocol
    (with the generated nested-read tables) returns the formula table's value for each — whatever the order and the repetitions -/
theorem gen_lazy_run_dynamic {V : Type} (eval : String → V) (data : String → Option V) (names : List String)
    (hn : ∀ n ∈ names, n ∈ Gen.dir_dynamic) :
    RQ.genRun eval Gen.touchedAuto data [] names = some (names.map eval) ∧
    RQ.genRun eval Gen.touchedCross data [] names = some (names.map eval) := by
  have hread : ∀ n ∈ names, RQ.Readable data n :=
    fun n h => ⟨gen_dir_public n (hn n h), Or.inl (gen_dir_served n (hn n h))⟩
  have hev : names.map (evalTbl eval data) = names.map eval :=
    List.map_congr_left fun n h => evalTbl_formula eval data (gen_dir_served n (hn n h))
  rw [gen_lazy_run_empty eval Gen.touchedAuto data names hread gen_touched_are_formulas.1,
    gen_lazy_run_empty eval Gen.touchedCross data names hread gen_touched_are_formulas.2, hev]
  exact ⟨rfl, rfl⟩

/-- `Readable`: a formula name, a dictionary key; not readable: a private name -/
example : RQ.Readable (fun n => if n = "f" then some (0 : ℕ) else none) "asd"
    ∧ RQ.Readable (fun n => if n = "f" then some (0 : ℕ) else none) "f"
    ∧ ¬ RQ.Readable (fun n => if n = "f" then some (0 : ℕ) else none) "_cache" := by
  refine ⟨⟨by decide, Or.inl (by decide)⟩, ⟨by decide, Or.inr (by simp)⟩, ?_⟩
  rintro ⟨h, _⟩
  exact absurd h (by decide)

/-- `gen_getattr_unknown`: an unknown public name -/
example : Gen.getattr_is_formula "nonexistent" = false ∧ Np.startswith "nonexistent" "_" = false := by
  decide

/-- a strictly increasing grid with a table of the same length (premises of the `get_measurement` transfer theorems) -/
example : ([1, 2, 4] : List ℝ).Pairwise (· < ·) ∧ ([1, 2, 4] : List ℝ).length = ([⟨1, 0⟩, ⟨0, 1⟩, ⟨2, 2⟩] : List (Cx ℝ)).length
    ∧ ([1, 2, 4] : List ℝ) ≠ [] ∧ ([1, 2, 4] : List ℝ).getD 0 0 < 3 / 2 ∧ (3 / 2 : ℝ) < ([1, 2, 4] : List ℝ).getD 1 0 :=
  ⟨by norm_num, rfl, List.cons_ne_nil _ _, show (1 : ℝ) < 3 / 2 by norm_num, show (3 / 2 : ℝ) < 2 by norm_num⟩

/-- `gen_to_dataframe_columns`: an attribute table with an index `f` of 3 bins, one per-bin column, one scalar, one method -/
example : ∃ (tbl : String → Option (Bool × Bool × List ℕ)) (f0 : Bool × Bool × List ℕ),
    tbl "f" = some f0 ∧ (f0.2.2)[0]? = some 3 ∧ tbl "asd" = some (false, true, [3]) ∧ tbl "nf" = some (false, false, [])
      ∧ tbl "plot" = some (true, false, []) ∧ tbl "zzz" = none :=
  ⟨fun n => if n = "f" then some (false, true, [3]) else if n = "asd" then some (false, true, [3])
     else if n = "nf" then some (false, false, []) else if n = "plot" then some (true, false, []) else none,
   (false, true, [3]), rfl, rfl, rfl, rfl, rfl, rfl⟩

#print axioms gen_compute_assemble_eq_model
#print axioms gen_compute_field_of_row
#print axioms gen_compute_assemble_perm
#print axioms gen_compute_no_junk
#print axioms gen_compute_sanitised
#print axioms gen_getattr_eq_model
#print axioms gen_getattr_private
#print axioms gen_getattr_unknown
#print axioms gen_getattr_run_eq_model
#print axioms gen_lazy_cache_sound
#print axioms gen_lazy_run_empty
#print axioms gen_lazy_order_independent
#print axioms gen_getattr_formula_first
#print axioms gen_get_measurement_eq_model
#print axioms gen_get_measurement_at_grid_real
#print axioms gen_get_measurement_at_grid_cplx
#print axioms gen_get_measurement_between_real
#print axioms gen_get_measurement_between_cplx
#print axioms gen_get_measurement_clamp_real
#print axioms gen_get_measurement_clamp_cplx
#print axioms gen_get_measurement_array
#print axioms gen_to_dataframe_eq_model
#print axioms gen_to_dataframe_columns
#print axioms gen_result_dir_spec
#print axioms gen_dir_served
#print axioms gen_dir_public
#print axioms gen_touched_are_formulas
#print axioms gen_lazy_run_dynamic
#print axioms RQ.mem_sortedSetDiff
#print axioms RQ.nodup_sortedSetDiff
