/-
  SpecKitV.Props.C05 — composition: the per-bin loop of `_lpsd_core` (`Model.lpsdCore`: window cache
  per `L`, basis cache per `(L, order)`, dispatch on mode and detrend order to the six translated
  Numba kernels) computes, for every plan bin, the reference estimator of that bin.
-/
import SpecKitV.Props.C01
import SpecKitV.Lemmas.AnalyzerGlue
import SpecKitV.Model.Pipeline
import SpecKitV.Lemmas.Detrend
open Finset

theorem order_nat (order : ℤ) (h : order = 1 ∨ order = 2) :
    ∃ p : ℕ, (p = 1 ∨ p = 2) ∧ ((p : ℕ) : ℤ) = order ∧ (order + 1).toNat = p + 1 := by
  rcases h with rfl | rfl
  · exact ⟨1, Or.inl rfl, rfl, rfl⟩
  · exact ⟨2, Or.inr rfl, rfl, rfl⟩

/-- a basis with `order + 1` columns: the trend the reference removes is the projection on its columns -/
theorem detrIsProj_of_cols {order : ℤ} (h : order = 1 ∨ order = 2) {Q : Arr2 ℝ} (hQ : Q.m = (order + 1).toNat) {L : ℕ} :
    DetrIsProj order Q.get Q L := by
  obtain ⟨p, hp, rfl, hp1⟩ := order_nat order h
  exact detrIsProj_poly Q p (by omega) (hQ.trans hp1) L

/-- the dispatched kernel of one bin, fed the way `coreStep` feeds it, is the reference estimator of the bin's mode.
    For the polynomial orders the kernels project on the columns the basis has, so the reference must detrend by that projection
    (`DetrIsProj`: true of a basis with `order + 1` columns, and of the library's own, which has `min(L, order+1)`, at every length). -/
theorem dispatch_eq_ref (iscsd : Bool) {order : ℤ} (hord : order = -1 ∨ order = 0 ∨ order = 1 ∨ order = 2)
    {x1 x2 : Arr ℝ} {fs : ℝ} (b : Model.PBin ℝ) (hK : 0 < b.D.n) {w : Arr ℝ} {Q : Arr2 ℝ}
    (hd : order = 1 ∨ order = 2 → DetrIsProj order Q.get Q b.L) :
    Model.dispatch iscsd order x1 x2 fs b w (if order = 1 ∨ order = 2 then some Q else none)
      = bif iscsd then Model.refStats order Q.get x1.get x2.get b.D.get b.D.n b.L w.get (2 * Real.pi * b.f / fs)
        else Model.refStatsAuto order Q.get x1.get b.D.get b.D.n b.L w.get (2 * Real.pi * b.f / fs) := by
  simp only [Model.dispatch, RL.two_eq, RL.pi_eq]
  rcases hord with rfl | rfl | h12
  · rw [if_pos rfl]
    cases iscsd
    · exact stats_win_only_auto_eq_ref x1 b.D hK b.L w _ Q.get
    · exact stats_win_only_csd_eq_ref x1 x2 b.D hK b.L w _ Q.get
  · rw [if_neg (by decide), if_pos rfl]
    cases iscsd
    · exact stats_detrend0_auto_eq_ref x1 b.D hK b.L w _ Q.get
    · exact stats_detrend0_csd_eq_ref x1 x2 b.D hK b.L w _ Q.get
  · rw [if_neg (by omega), if_neg (by omega), if_pos h12, if_pos h12]
    cases iscsd
    · exact stats_poly_auto_eq_ref_of hK (hd h12)
    · exact stats_poly_csd_eq_ref_of hK (hd h12)

/-- the cached loop is the plain per-bin map -/
theorem lpsdCore_eq_map (iscsd : Bool) (order : ℤ) (x1 x2 : Arr ℝ) (fs : ℝ)
    (mkWin : ℕ → Arr ℝ) (mkQ : ℕ → ℤ → Arr2 ℝ) (bins : List (Model.PBin ℝ)) :
    Model.lpsdCore iscsd order x1 x2 fs mkWin mkQ bins
      = bins.map (fun b => Model.dispatch iscsd order x1 x2 fs b (mkWin b.L)
          (if order = 1 ∨ order = 2 then some (mkQ b.L order) else none)) := by
  unfold Model.lpsdCore
  rw [Model.coreLoop_eq_map mkWin mkQ order _ _ _ (Model.cachesOk_empty mkWin mkQ)]

/-- bin j of the computed spectrum is the reference estimator on the bin's own (f, L, D), with the window
    for that L and (orders 1,2) the basis for (L, order).
    `hQ` (column count of the basis) is asked ONLY for the polynomial orders and ONLY at the segment lengths of the plan's own bins:
    the library's `_build_Q(L, p)` has `min(L, p+1)` columns (Props/BuildQGen), so a hypothesis "for every L" is false of it. -/
theorem lpsdCore_eq_ref_cross (order : ℤ) (hord : order = -1 ∨ order = 0 ∨ order = 1 ∨ order = 2)
    (x1 x2 : Arr ℝ) (fs : ℝ)
    (mkWin : ℕ → Arr ℝ) (mkQ : ℕ → ℤ → Arr2 ℝ) (bins : List (Model.PBin ℝ))
    (hQ : order = 1 ∨ order = 2 → ∀ b ∈ bins, (mkQ b.L order).m = (order + 1).toNat)
    (hK : ∀ b ∈ bins, 0 < b.D.n) :
    Model.lpsdCore true order x1 x2 fs mkWin mkQ bins
      = bins.map (fun b => Model.refStats order (mkQ b.L order).get x1.get x2.get b.D.get b.D.n b.L
          (mkWin b.L).get (2 * Real.pi * b.f / fs)) := by
  rw [lpsdCore_eq_map]
  exact List.map_congr_left fun b hb => dispatch_eq_ref true hord b (hK b hb) fun h => detrIsProj_of_cols h (hQ h b hb)

theorem lpsdCore_eq_ref_auto (order : ℤ) (hord : order = -1 ∨ order = 0 ∨ order = 1 ∨ order = 2)
    (x1 x2 : Arr ℝ) (fs : ℝ)
    (mkWin : ℕ → Arr ℝ) (mkQ : ℕ → ℤ → Arr2 ℝ) (bins : List (Model.PBin ℝ))
    (hQ : order = 1 ∨ order = 2 → ∀ b ∈ bins, (mkQ b.L order).m = (order + 1).toNat)
    (hK : ∀ b ∈ bins, 0 < b.D.n) :
    Model.lpsdCore false order x1 x2 fs mkWin mkQ bins
      = bins.map (fun b => Model.refStatsAuto order (mkQ b.L order).get x1.get b.D.get b.D.n b.L
          (mkWin b.L).get (2 * Real.pi * b.f / fs)) := by
  rw [lpsdCore_eq_map]
  exact List.map_congr_left fun b hb => dispatch_eq_ref false hord b (hK b hb) fun h => detrIsProj_of_cols h (hQ h b hb)

/-- a cached window or basis is never used for another length: the result for a bin depends only on that bin -/
theorem lpsdCore_bin_local (iscsd : Bool) (order : ℤ) (x1 x2 : Arr ℝ) (fs : ℝ)
    (mkWin : ℕ → Arr ℝ) (mkQ : ℕ → ℤ → Arr2 ℝ) (pre post : List (Model.PBin ℝ)) (b : Model.PBin ℝ) :
    (Model.lpsdCore iscsd order x1 x2 fs mkWin mkQ (pre ++ b :: post))[pre.length]?
      = some ((Model.lpsdCore iscsd order x1 x2 fs mkWin mkQ [b])[0]'(by
          simp [Model.lpsdCore, Model.coreLoop])) := by
  simp only [lpsdCore_eq_map, List.map_append, List.map_cons, List.map_nil, List.getElem_cons_zero]
  rw [List.getElem?_append_right (by simp)]
  simp

/-- restricting to a band = filtering the unrestricted result (per-bin fields stay aligned) -/
theorem lpsdCore_band (iscsd : Bool) (order : ℤ) (x1 x2 : Arr ℝ) (fs : ℝ)
    (mkWin : ℕ → Arr ℝ) (mkQ : ℕ → ℤ → Arr2 ℝ) (lo hi : ℝ) (bins : List (Model.PBin ℝ)) :
    Model.lpsdCore iscsd order x1 x2 fs mkWin mkQ (Model.bandFilter (fun b => b.f) lo hi bins)
      = ((bins.zip (Model.lpsdCore iscsd order x1 x2 fs mkWin mkQ bins)).filter
          (fun p => decide (lo ≤ p.1.f) && decide (p.1.f ≤ hi))).map Prod.snd := by
  unfold Model.lpsdCore
  rw [Model.band_commutes_zip]
  simp only [RL.ge_eq, RL.le_eq]

theorem winSums_spec (w : Arr ℝ) :
    Model.winSums w = ((∑ n ∈ Finset.range w.n, w.get n) ^ 2, ∑ n ∈ Finset.range w.n, (w.get n) ^ 2) := by
  simp only [Model.winSums, sumRange_eq_sum, RLmul, pow_two]

/-- `compute_single_bin` (analysis.py:622-735) runs the same dispatch on one user-defined bin with a freshly built window and basis:
    it is the one-element plan through `_lpsd_core` -/
theorem lpsdCore_single (iscsd : Bool) (order : ℤ) (x1 x2 : Arr ℝ) (fs : ℝ)
    (mkWin : ℕ → Arr ℝ) (mkQ : ℕ → ℤ → Arr2 ℝ) (b : Model.PBin ℝ) :
    Model.lpsdCore iscsd order x1 x2 fs mkWin mkQ [b]
      = [Model.dispatch iscsd order x1 x2 fs b (mkWin b.L)
          (if order = 1 ∨ order = 2 then some (mkQ b.L order) else none)] := by
  rw [lpsdCore_eq_map, List.map_cons, List.map_nil]

/-! ### order dispatch: order 1 uses the kernel family of 1 and the basis built for 1

If the basis built for `(L, 1)` has orthonormal
columns whose span contains the affine functions (what `_build_Q(L, 1)` is for), adding any straight line
`a + c·m` to the input leaves every bin of the order-1 spectrum unchanged.  (With the basis of order 0, one
column, or the mean-removal kernel this fails.) -/

theorem segDFT_order1_add_line (Q : ℕ → ℕ → ℝ) (L : ℕ) (hO : OrthoCols Q L 2)
    (hS : ∀ c d : ℝ, InSpan Q L 2 (fun n => c + d * n)) (x : ℕ → ℝ) (s : ℕ) (w : ℕ → ℝ) (ω a c : ℝ) :
    Model.segDFT 1 Q (fun m => x m + (a + c * m)) s L w ω = Model.segDFT 1 Q x s L w ω := by
  -- seen from the segment start the line is `(a + c·s) + c·n`
  obtain ⟨k, hk⟩ := hS (a + c * s) c
  have key := segDFT_add_trend (p := 1) le_rfl hO x (fun m => a + c * m) s ⟨k, fun n hn => by
    rw [← hk n hn]
    simp only [Nat.cast_add]
    ring⟩ w ω
  rwa [Nat.cast_one] at key

theorem lpsdCore_order1_add_line_auto (x1 x2 : Arr ℝ) (fs : ℝ)
    (mkWin : ℕ → Arr ℝ) (mkQ : ℕ → ℤ → Arr2 ℝ)
    (bins : List (Model.PBin ℝ)) (hQ : ∀ b ∈ bins, (mkQ b.L 1).m = 2) (hK : ∀ b ∈ bins, 0 < b.D.n)
    (hO : ∀ b ∈ bins, OrthoCols (mkQ b.L 1).get b.L 2)
    (hS : ∀ b ∈ bins, ∀ c d : ℝ, InSpan (mkQ b.L 1).get b.L 2 (fun n => c + d * n)) (a c : ℝ) :
    Model.lpsdCore false 1 ⟨x1.n, fun m => x1.get m + (a + c * m)⟩ x2 fs mkWin mkQ bins
      = Model.lpsdCore false 1 x1 x2 fs mkWin mkQ bins := by
  rw [lpsdCore_eq_ref_auto 1 (by decide) _ x2 fs mkWin mkQ bins (fun _ => hQ) hK,
    lpsdCore_eq_ref_auto 1 (by decide) x1 x2 fs mkWin mkQ bins (fun _ => hQ) hK]
  apply List.map_congr_left
  intro b hb
  simp only [Model.refStatsAuto, segDFT_order1_add_line _ _ (hO b hb) (hS b hb)]

theorem lpsdCore_order1_add_line_cross (x1 x2 : Arr ℝ) (fs : ℝ)
    (mkWin : ℕ → Arr ℝ) (mkQ : ℕ → ℤ → Arr2 ℝ)
    (bins : List (Model.PBin ℝ)) (hQ : ∀ b ∈ bins, (mkQ b.L 1).m = 2) (hK : ∀ b ∈ bins, 0 < b.D.n)
    (hO : ∀ b ∈ bins, OrthoCols (mkQ b.L 1).get b.L 2)
    (hS : ∀ b ∈ bins, ∀ c d : ℝ, InSpan (mkQ b.L 1).get b.L 2 (fun n => c + d * n)) (a1 c1 a2 c2 : ℝ) :
    Model.lpsdCore true 1 ⟨x1.n, fun m => x1.get m + (a1 + c1 * m)⟩
        ⟨x2.n, fun m => x2.get m + (a2 + c2 * m)⟩ fs mkWin mkQ bins
      = Model.lpsdCore true 1 x1 x2 fs mkWin mkQ bins := by
  rw [lpsdCore_eq_ref_cross 1 (by decide) _ _ fs mkWin mkQ bins (fun _ => hQ) hK,
    lpsdCore_eq_ref_cross 1 (by decide) x1 x2 fs mkWin mkQ bins (fun _ => hQ) hK]
  apply List.map_congr_left
  intro b hb
  simp only [Model.refStats, segDFT_order1_add_line _ _ (hO b hb) (hS b hb)]

/-! ### the hypotheses are satisfiable: one bin, `L = 3`, two segment starts, every supported order -/

example (order : ℤ) (hord : order = -1 ∨ order = 0 ∨ order = 1 ∨ order = 2) (x1 x2 : Arr ℝ) :
    Model.lpsdCore true order x1 x2 2 (fun L => ⟨L, fun _ => 1⟩)
        (fun L o => ⟨L, (o + 1).toNat, fun _ _ => 0⟩) [⟨1 / 3, 3, ⟨2, fun j => 2 * j⟩⟩]
      = [Model.refStats order (fun _ _ => 0) x1.get x2.get (fun j => 2 * j) 2 3 (fun _ => 1)
          (2 * Real.pi * (1 / 3) / 2)] :=
  lpsdCore_eq_ref_cross order hord x1 x2 2 _ _ _ (fun _ _ _ => rfl)
    (by intro b hb; rw [List.mem_singleton] at hb; subst hb; exact Nat.zero_lt_two)

example (order : ℤ) (hord : order = -1 ∨ order = 0 ∨ order = 1 ∨ order = 2) (x1 x2 : Arr ℝ) :
    Model.lpsdCore false order x1 x2 2 (fun L => ⟨L, fun _ => 1⟩)
        (fun L o => ⟨L, (o + 1).toNat, fun _ _ => 0⟩) [⟨1 / 3, 3, ⟨2, fun j => 2 * j⟩⟩]
      = [Model.refStatsAuto order (fun _ _ => 0) x1.get (fun j => 2 * j) 2 3 (fun _ => 1)
          (2 * Real.pi * (1 / 3) / 2)] :=
  lpsdCore_eq_ref_auto order hord x1 x2 2 _ _ _ (fun _ _ _ => rfl)
    (by intro b hb; rw [List.mem_singleton] at hb; subst hb; exact Nat.zero_lt_two)

/-- the extra hypotheses of the order-1 corollary are satisfiable (L = 2, orthonormal 2×2 basis) -/
example : OrthoCols (fun n k => if n = k then (1 : ℝ) else 0) 2 2 ∧
    ∀ c d : ℝ, InSpan (fun n k => if n = k then (1 : ℝ) else 0) 2 2 (fun n => c + d * n) := by
  refine ⟨fun k hk k' hk' => ?_, fun c d => ⟨fun k => c + d * k, fun n hn => ?_⟩⟩
  · simp only [mul_ite, mul_one, mul_zero, sum_ite_eq', mem_range, hk', if_true]
    simp only [eq_comm]
  · simp only [mul_ite, mul_one, mul_zero, sum_ite_eq, mem_range, hn, if_true]

#print axioms lpsdCore_eq_ref_cross
#print axioms lpsdCore_eq_ref_auto
#print axioms lpsdCore_bin_local
#print axioms lpsdCore_band
#print axioms winSums_spec
#print axioms lpsdCore_single
#print axioms lpsdCore_order1_add_line_auto
#print axioms lpsdCore_order1_add_line_cross
