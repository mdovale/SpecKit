/-
  Props/PostGen — the machine-translated post-processing of `vectorized_ltf_plan` and `new_ltf_plan`
  (`Gen.vectorized_ltf_plan_post`, `Gen.new_ltf_plan_post`: the three NumPy statements for the segment shift, the starts `D` and
  the overlap `O`) IS the hand model (`Model.shiftOf`, `Model.startsEven`, `Model.overlapClosed`), bin by bin; hence `startsEven_safe`
  and the overlap theorems of `Lemmas/Starts.lean` hold of the code as translated.
-/
import SpecKitV.RealInst
import SpecKitV.Gen.Sched
import SpecKitV.Model.Sched
import SpecKitV.Lemmas.Starts
import SpecKitV.Props.VecGen   -- not used below: the post-processing is re-checked whenever the translated walk it follows changes

theorem gen_vec_post_eq_model (N : ℕ) (L K : Arr ℤ) (j Lj : ℕ) (hL : L.get j = (Lj : ℤ)) :
    let g := Gen.vectorized_ltf_plan_post (α := ℝ) (N : ℤ) L K
    g.1.get j = Model.shiftOf (α := ℝ) N Lj (K.get j) ∧
    (g.2.1.get j).n = (K.get j).toNat ∧
    (List.range (g.2.1.get j).n).map (g.2.1.get j).get = Model.startsEven (α := ℝ) N Lj (K.get j) ∧
    g.2.2.get j = Model.overlapClosed (α := ℝ) N Lj (K.get j) := by
  intro g
  simp only [g, Gen.vectorized_ltf_plan_post, Arr.memo_eq, Model.shiftOf, Model.startsEven, Model.overlapClosed, hL,
    RL.ofInt_eq, RL.ofNat_eq, RL.zero_eq, gt_iff_lt, decide_eq_true_eq, RL.trunc_intCast, Int.cast_natCast, Nat.cast_zero,
    and_self]

-- `rfl`: the translator emits the same text for both; an edit of either in schedulers.py breaks it
theorem gen_new_post_eq_vec_post (N : ℤ) (L K : Arr ℤ) :
    Gen.new_ltf_plan_post (α := ℝ) N L K = Gen.vectorized_ltf_plan_post (α := ℝ) N L K := rfl

theorem gen_post_starts_safe (N : ℕ) (L K : Arr ℤ) (j Lj : ℕ) (hL : L.get j = (Lj : ℤ))
    (hL1 : 1 ≤ Lj) (hLN : Lj ≤ N) (hK2 : 2 ≤ K.get j) (hKcap : K.get j ≤ (N : ℤ) - Lj + 1) :
    let D := (List.range ((Gen.vectorized_ltf_plan_post (α := ℝ) (N : ℤ) L K).2.1.get j).n).map
               ((Gen.vectorized_ltf_plan_post (α := ℝ) (N : ℤ) L K).2.1.get j).get
    D.length = (K.get j).toNat ∧ ∀ d ∈ D, 0 ≤ d ∧ d + Lj ≤ N := by
  intro D
  have h := (gen_vec_post_eq_model N L K j Lj hL).2.2.1
  have hs := startsEven_safe N Lj (K.get j) hL1 hLN hK2 hKcap
  simp only [D, h]
  exact ⟨hs.1, hs.2.2.2.2.1⟩

#print axioms gen_vec_post_eq_model
#print axioms gen_new_post_eq_vec_post
#print axioms gen_post_starts_safe
