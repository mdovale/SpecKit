/-
  Props/VecGen — the machine-translated vectorised scheduler (`Gen.vectorized_ltf_plan_walk`, from speckit/schedulers.py
  `vectorized_ltf_plan`) IS the hand model (`Model.vecWalk` over `Model.vecGrid` / `Model.vecGridPoint`),
  for every configuration and fuel, with no side condition.

  `Arr.memo_eq` erases the eager-evaluation wrappers; `Np.logspace` / `Np.searchsortedLeft` are definitionally the model's
  `logGrid` / `searchLeft`; the model walk is a `genWalk` and the loop with
  the carried `brk__` flag an instance of `whileFuel_emit`, the `break` being the case where the walk has stopped
  and the loop's condition sees it one iteration later.
-/
import SpecKitV.RealInst
import SpecKitV.Gen.Sched
import SpecKitV.Model.Sched
import SpecKitV.Lemmas.SchedNewVec
import SpecKitV.Props.Utils

theorem Np.logspace_get (a b : ℝ) (n : ℕ) :
    (Np.logspace a b n).get = Model.logGrid a b n ∧ (Np.logspace a b n).n = n := ⟨rfl, rfl⟩

theorem Np.searchsortedLeft_eq (g : Arr ℝ) (v : ℝ) :
    Np.searchsortedLeft g v = Model.searchLeft g.get g.n v := rfl

namespace VecGen

theorem trunc_natCast (n : ℕ) : RealLike.trunc ((n : ℝ)) = (n : ℤ) := by
  rw [← Int.cast_natCast, RL.trunc_intCast]

/-- One grid point: the generated code keeps `L` as a REAL vector (clipped with real min/max, `K == 1` compared on reals,
    `trunc` at the end, cap on integers), the model computes on integers throughout. -/
theorem point_eq (c : Model.Cfg ℝ) (xov rmin ravg clog fg rpp rpp2 L1 Kg L2 : ℝ) (Km Lm : ℤ)
    (hrpp : rpp = if RealLike.ge (fg * clog) ravg = true then fg * clog
      else if RealLike.gt (RealLike.sqrt (ravg * (fg * clog))) rmin = true then RealLike.sqrt (ravg * (fg * clog)) else rmin)
    (hrpp2 : rpp2 = if RealLike.lt (fg / rpp) c.bmin = true then fg / c.bmin else rpp)
    (hL1 : L1 = RealLike.min (RealLike.max ((RealLike.roundEven (c.fs / rpp2) : ℤ) : ℝ) (c.Lmin : ℝ)) (c.N : ℝ))
    (hKg : Kg = ((RealLike.roundEven (((c.N : ℝ) - L1) / (xov * L1) + 1) : ℤ) : ℝ))
    (hL2 : L2 = if RealLike.beq Kg 1 = true then (c.N : ℝ) else L1)
    (hKm : Km = RealLike.trunc (((RealLike.roundEven (((c.N : ℝ) - L2) / (xov * L2) + 1) : ℤ) : ℝ)))
    (hLm : Lm = RealLike.trunc L2) :
    c.fs / L2 = (Model.vecGridPoint c xov rmin ravg clog fg).1 ∧
    Lm = (((Model.vecGridPoint c xov rmin ravg clog fg).2.1 : ℕ) : ℤ) ∧
    (if Km ≤ (c.N : ℤ) - Lm + 1 then Km else (c.N : ℤ) - Lm + 1) = (Model.vecGridPoint c xov rmin ravg clog fg).2.2 := by
  have hclip : L1 = (((Model.vecGridPoint.clampClip c.N c.Lmin (RealLike.roundEven (c.fs / rpp2)) : ℕ) : ℤ) : ℝ) := by
    rw [hL1, RL.max_eq, RL.min_eq, Sched.clampClip_cast, Int.cast_min, Int.cast_max, Int.cast_natCast, Int.cast_natCast]
  subst hLm hKm hL2 hKg hrpp
  rw [hclip]
  simp only [Model.vecGridPoint, Model.capK, RL.ofInt_eq, RL.ofNat_eq, RL.one_eq, RL.beq_eq, Int.cast_sub, Int.cast_natCast,
    Int.cast_eq_one, decide_eq_true_eq, beq_iff_eq, ← Nat.cast_ite, trunc_natCast, RL.trunc_intCast, ← hrpp2, and_self]

end VecGen
open VecGen

theorem gen_vec_walk_eq_model (c : Model.Cfg ℝ) (fuel : ℕ) :
    let xov : ℝ := 1 - c.olap
    let rmin : ℝ := c.fs / c.N
    let ravg : ℝ := rmin * (1 + xov * ((c.Kdes : ℝ) - 1))
    let clog : ℝ := ((c.N : ℝ) / 2) ^ ((1 : ℝ) / (c.Jdes : ℝ)) - 1
    let w := Model.vecWalk fuel (c.fs / 2) (Model.vecGrid c) (10 * c.Jdes)
               (fun i => Model.vecGridPoint c xov rmin ravg clog (Model.vecGrid c i)) (c.bmin * c.fs / c.N)
    Gen.vectorized_ltf_plan_walk (c.N : ℤ) c.fs c.olap c.bmin (c.Lmin : ℤ) (c.Jdes : ℤ) (c.Kdes : ℤ) fuel
      = (w.map (·.1), w.map (·.2.1), w.map (fun e => ((e.2.2.1 : ℕ) : ℤ)), w.map (·.2.2.2)) := by
  intro xov rmin ravg clog
  -- the grid of the statement in the translator's spelling, the constants of the translated code in Mathlib's
  have hn : (10 * (c.Jdes : ℤ)).toNat = 10 * c.Jdes := Int.toNat_natCast (10 * c.Jdes)
  simp only [Model.vecGrid, RL.ofNat_eq, RL.two_eq]
  rw [← hn]
  unfold Gen.vectorized_ltf_plan_walk
  simp -zeta only [Arr.memo_eq, RL.ofNat_eq, RL.ofInt_eq, RL.pow_eq, Nat.cast_one, Nat.cast_ofNat,
    Int.cast_natCast, Int.cast_sub, Int.cast_one]
  extract_lets -underBinder -merge xov' fmin fmax rmin' ravg' clog' ngp f_grid rpg c0 c1 ch0 ch1 rpp mask rpp2 L0 L1 Kg L2
    r_map K_map L_map K_map2
  -- `point_eq` takes the intermediate values as variables with their defining equations: vector by vector each equation is one
  -- unfolding, while matching it against the unfolded vectors makes the unifier expand them all
  have hp : ∀ i, r_map.get i = _ ∧ L_map.get i = _ ∧ K_map2.get i = _ := fun i =>
    point_eq c xov' rmin' ravg' clog' (f_grid.get i) (rpp.get i) (rpp2.get i) (L1.get i) (Kg.get i) (L2.get i) (K_map.get i)
      (L_map.get i) rfl rfl rfl rfl rfl rfl rfl
  rw [SchedNV.vecWalk_eq_genWalk]
  -- `enc`: the translator's loop state (`ws1` in Gen/Sched.lean, live variables in sorted-name order) `(K_out, L_out, brk__, current_f, f_out, r_out)`
  refine whileFuel_emit
    (enc := fun (fi : ℝ) (acc : List (ℝ × ℝ × ℕ × ℤ)) => (acc.map (·.2.2.2), acc.map (fun e => ((e.2.2.1 : ℕ) : ℤ)), false, fi,
      acc.map (·.1), acc.map (·.2.1)))
    (obs := fun t => (t.2.2.2.2.1, t.2.2.2.2.2, t.2.1, t.1))
    (out := fun w => (w.map (·.1), w.map (·.2.1), w.map (fun e => ((e.2.2.1 : ℕ) : ℤ)), w.map (·.2.2.2)))
    (cont := fun f => RealLike.lt f fmax && decide (Model.searchLeft f_grid.get f_grid.n f < f_grid.n))
    (row := fun f => (f, Model.vecGridPoint c xov' rmin' ravg' clog' (f_grid.get (Model.searchLeft f_grid.get f_grid.n f))))
    (fun _ _ => rfl) ?_ ?_ fuel _ []
  · intro fi acc hc
    obtain ⟨hlt, hi⟩ := Bool.and_eq_true_iff.mp hc
    refine ⟨hlt, ?_⟩
    have hq := hp (Model.searchLeft f_grid.get f_grid.n fi)
    have hge : ¬ Model.searchLeft f_grid.get f_grid.n fi ≥ r_map.n := not_le.mpr (of_decide_eq_true hi)
    dsimp only
    rw [Np.searchsortedLeft_eq, if_neg (mt of_decide_eq_true hge)]
    simp only [List.map_append, List.map_cons, List.map_nil, hq.1, hq.2.1, hq.2.2]
    rfl
  · intro fi acc hc
    cases hlt : RealLike.lt fi fmax with
    | false => exact .inl hlt
    | true =>
      rw [hlt, Bool.true_and] at hc
      have hge : Model.searchLeft f_grid.get f_grid.n fi ≥ r_map.n := not_lt.mp (of_decide_eq_false hc)
      refine .inr ?_
      dsimp only
      rw [Np.searchsortedLeft_eq, if_pos (decide_eq_true hge)]
      exact ⟨rfl, rfl⟩

theorem gen_vec_walk_eq_plan (c : Model.Cfg ℝ) (fuel : ℕ) :
    let g := Gen.vectorized_ltf_plan_walk (c.N : ℤ) c.fs c.olap c.bmin (c.Lmin : ℤ) (c.Jdes : ℤ) (c.Kdes : ℤ) fuel
    g.1 = (Model.vecPlan c fuel).map (·.f) ∧ g.2.1 = (Model.vecPlan c fuel).map (·.r) ∧
    g.2.2.1 = (Model.vecPlan c fuel).map (fun b => (b.L : ℤ)) ∧ g.2.2.2 = (Model.vecPlan c fuel).map (·.K) := by
  intro g
  have h := gen_vec_walk_eq_model c fuel
  simp only [g, h, Model.vecPlan, Model.vecPlanCore, List.map_map, RL.one_eq, RL.ofNat_eq, RL.two_eq,
    RL.pow_eq]
  exact ⟨rfl, rfl, rfl, rfl⟩

#print axioms Arr.memo_eq
#print axioms Np.logspace_get
#print axioms Np.searchsortedLeft_eq
#print axioms gen_vec_walk_eq_model
#print axioms gen_vec_walk_eq_plan
