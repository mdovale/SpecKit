/-
  The translated glue of speckit/analysis.py (Props/LpsdLoopGen: the hand model for ANY kernels) run on the TRANSLATED kernels — Numba
  kernels, CUDA wrappers, and a third backend that is abstract (`genFamily np6`, `BackendOk`) or the translated NumPy fallbacks
  (`genFamilyAll u`): the selected kernels give `Model.dispatch`, so the loop computes `Model.lpsdCore`, hence the reference estimator of
  every bin; the per-bin theorems of Props/C05 are restated for the translated loop (band restriction and bin locality: Props/LpsdLoopGen).
  The general statements: `gen_lpsd_core_stats` (the loop is the per-bin dispatch), `genFamilyAll_pick` (every backend name selects the
  Numba kernels), `dispatch_eq_ref` (Props/C05: the dispatch is the reference, both modes).  The `_cross`/`_auto`, `genFamily`/`_all_backends`
  theorems here and the `libQ` ones of Props/PipelineClosed are instances, each listed by the checks.
-/
import SpecKitV.Props.LpsdLoopGen
import SpecKitV.Props.C05
import SpecKitV.Props.NumpyKernelsGen

namespace LpsdCoreGen

noncomputable def genNumba6 : NpLC.Kernels6 ℝ :=
  ⟨Gen._stats_win_only_auto, Gen._stats_win_only_csd, Gen._stats_detrend0_auto, Gen._stats_detrend0_csd,
   Gen._stats_poly_auto, Gen._stats_poly_csd⟩

noncomputable def genCuda6 : NpLC.Kernels6 ℝ :=
  ⟨Gen._stats_win_only_auto_cuda, Gen._stats_win_only_csd_cuda, Gen._stats_detrend0_auto_cuda, Gen._stats_detrend0_csd_cuda,
   Gen._stats_poly_auto_cuda, Gen._stats_poly_csd_cuda⟩

theorem dispatchWith_numba (iscsd : Bool) (order : ℤ) (x1 x2 : Arr ℝ) (fs : ℝ) (b : Model.PBin ℝ) (w : Arr ℝ) (q : Option (Arr2 ℝ)) :
    Model.dispatchWith genNumba6 iscsd order x1 x2 fs b w q = Model.dispatch iscsd order x1 x2 fs b w q := rfl

theorem genCuda6_eq_genNumba6 : genCuda6 = genNumba6 := by
  unfold genCuda6 genNumba6
  congr 1
  · funext x s L w ω; exact numba_cuda_agree_win_only_auto x s L w ω
  · funext x1 x2 s L w ω; exact numba_cuda_agree_win_only_csd x1 x2 s L w ω
  · funext x s L w ω; exact numba_cuda_agree_detrend0_auto x s L w ω
  · funext x1 x2 s L w ω; exact numba_cuda_agree_detrend0_csd x1 x2 s L w ω
  · funext x s L w ω Q; exact numba_cuda_agree_poly_auto x s L w ω Q
  · funext x1 x2 s L w ω Q; exact numba_cuda_agree_poly_csd x1 x2 s L w ω Q

/-- two backends agree on every call with at least one segment (what C01 proves of each backend: both are the reference) -/
def Agree6 (a b : NpLC.Kernels6 ℝ) : Prop :=
  (∀ x s L w ω, 0 < s.n → a.win_only_auto x s L w ω = b.win_only_auto x s L w ω) ∧
  (∀ x1 x2 s L w ω, 0 < s.n → a.win_only_csd x1 x2 s L w ω = b.win_only_csd x1 x2 s L w ω) ∧
  (∀ x s L w ω, 0 < s.n → a.detrend0_auto x s L w ω = b.detrend0_auto x s L w ω) ∧
  (∀ x1 x2 s L w ω, 0 < s.n → a.detrend0_csd x1 x2 s L w ω = b.detrend0_csd x1 x2 s L w ω) ∧
  (∀ x s L w ω Q, 0 < s.n → a.poly_auto x s L w ω Q = b.poly_auto x s L w ω Q) ∧
  (∀ x1 x2 s L w ω Q, 0 < s.n → a.poly_csd x1 x2 s L w ω Q = b.poly_csd x1 x2 s L w ω Q)

theorem dispatchWith_congr {a b : NpLC.Kernels6 ℝ} (h : Agree6 a b) {iscsd : Bool} {order : ℤ} {x1 x2 : Arr ℝ} {fs : ℝ}
    {p : Model.PBin ℝ} (hK : 0 < p.D.n) {w : Arr ℝ} {q : Option (Arr2 ℝ)} :
    Model.dispatchWith a iscsd order x1 x2 fs p w q = Model.dispatchWith b iscsd order x1 x2 fs p w q := by
  obtain ⟨h1, h2, h3, h4, h5, h6⟩ := h
  unfold Model.dispatchWith
  simp only [h1 _ _ _ _ _ hK, h2 _ _ _ _ _ _ hK, h3 _ _ _ _ _ hK, h4 _ _ _ _ _ _ hK]
  cases q with
  | none => rfl
  | some Q => simp only [h5 _ _ _ _ _ _ hK, h6 _ _ _ _ _ _ _ hK]

/-- the family the analyzer runs: translated Numba kernels, translated CUDA wrappers, and NumPy fallbacks `np6` (abstract here) -/
noncomputable def genFamily (np6 : NpLC.Kernels6 ℝ) : NpLC.KernelFamily ℝ := NpLC.KernelFamily.ofBackends genNumba6 genCuda6 np6

/-- a backend string is served by translated kernels, or by fallbacks that agree with them on non-empty segment lists -/
def BackendOk (np6 : NpLC.Kernels6 ℝ) (backend : String) (K : ℕ) : Prop :=
  backend = "cuda" ∨ backend = "numba" ∨ (Agree6 np6 genNumba6 ∧ 0 < K)

theorem dispatchWith_genFamily (np6 : NpLC.Kernels6 ℝ) (backend : String) (iscsd : Bool) (order : ℤ) (x1 x2 : Arr ℝ) (fs : ℝ)
    (p : Model.PBin ℝ) (hb : BackendOk np6 backend p.D.n) (w : Arr ℝ) (q : Option (Arr2 ℝ)) :
    Model.dispatchWith ((genFamily np6).pick backend) iscsd order x1 x2 fs p w q = Model.dispatch iscsd order x1 x2 fs p w q := by
  rw [genFamily, pick_ofBackends]
  split_ifs with h1 h2
  · rw [genCuda6_eq_genNumba6, dispatchWith_numba]
  · rw [dispatchWith_numba]
  · obtain ⟨hb, hK⟩ := (hb.resolve_left h1).resolve_left h2
    rw [dispatchWith_congr hb hK, dispatchWith_numba]

/-- the translated `_lpsd_core` (loop + both caches + dispatch, run on the translated kernels) computes `Model.lpsdCore` on the bins it
    reads, with the window `Model.lpsdWindow` (Kaiser rule as coded) and the basis `_build_Q(L, order)` -/
theorem gen_lpsd_core_eq_model (np6 : NpLC.Kernels6 ℝ) (bq : ℕ → ℤ → Arr2 ℝ) (sel : ℕ → String → String) (wf : NpLC.WinFunc ℝ) (alpha : ℝ)
    (order : ℤ) (cb : String) (x1 x2 : Arr ℝ) (iscsd : Bool) (fs : ℝ) (nx : ℤ) (pL : Arr ℕ) (pD : Arr (Arr ℕ)) (pf : Arr ℝ)
    (idx : List ℕ) (hb : ∀ i ∈ idx, BackendOk np6 (sel (pD.get i).n cb) (pD.get i).n) :
    ((Gen._lpsd_core (genFamily np6) bq sel wf alpha order cb x1 x2 iscsd fs nx pL pD pf idx).2).map rowStats
      = Model.lpsdCore iscsd order x1 x2 fs (Model.lpsdWindow wf alpha) bq (idx.map (Model.pbinAt pf pL pD)) := by
  rw [lpsdCore_eq_map, List.map_map]
  exact gen_lpsd_core_stats
    (fun i hi => dispatchWith_genFamily np6 _ iscsd order x1 x2 fs _ (hb i hi) _ _)

/-- bin `i` of the translated `_lpsd_core` is the reference estimator on the bin's own (f, L, D), window for that L, basis for (L, order);
    cross mode.  Hypotheses: a supported order (the code raises otherwise), for the polynomial orders a basis with order+1 columns at the
    segment lengths of the bins read (as in `lpsdCore_eq_ref_cross`), at least one segment per bin (plan() rejects empty D), backends as in
    `BackendOk`. -/
theorem gen_lpsd_core_eq_ref_cross (np6 : NpLC.Kernels6 ℝ) (bq : ℕ → ℤ → Arr2 ℝ) (sel : ℕ → String → String) (wf : NpLC.WinFunc ℝ) (alpha : ℝ)
    (order : ℤ) (hord : order = -1 ∨ order = 0 ∨ order = 1 ∨ order = 2)
    (cb : String) (x1 x2 : Arr ℝ) (fs : ℝ) (nx : ℤ) (pL : Arr ℕ) (pD : Arr (Arr ℕ)) (pf : Arr ℝ)
    (idx : List ℕ) (hQ : order = 1 ∨ order = 2 → ∀ i ∈ idx, (bq (pL.get i) order).m = (order + 1).toNat) (hK : ∀ i ∈ idx, 0 < (pD.get i).n) (hb : ∀ i ∈ idx, BackendOk np6 (sel (pD.get i).n cb) (pD.get i).n) :
    ((Gen._lpsd_core (genFamily np6) bq sel wf alpha order cb x1 x2 true fs nx pL pD pf idx).2).map rowStats
      = idx.map (fun i => Model.refStats order (bq (pL.get i) order).get x1.get x2.get (pD.get i).get (pD.get i).n (pL.get i)
          (Model.lpsdWindow wf alpha (pL.get i)).get (2 * Real.pi * pf.get i / fs)) :=
  gen_lpsd_core_stats (fun i hi =>
    (dispatchWith_genFamily np6 _ true order x1 x2 fs _ (hb i hi) _ _).trans
      (dispatch_eq_ref true hord (Model.pbinAt pf pL pD i) (hK i hi) fun h => detrIsProj_of_cols h (hQ h i hi)))

theorem gen_lpsd_core_eq_ref_auto (np6 : NpLC.Kernels6 ℝ) (bq : ℕ → ℤ → Arr2 ℝ) (sel : ℕ → String → String) (wf : NpLC.WinFunc ℝ) (alpha : ℝ)
    (order : ℤ) (hord : order = -1 ∨ order = 0 ∨ order = 1 ∨ order = 2)
    (cb : String) (x1 x2 : Arr ℝ) (fs : ℝ) (nx : ℤ) (pL : Arr ℕ) (pD : Arr (Arr ℕ)) (pf : Arr ℝ)
    (idx : List ℕ) (hQ : order = 1 ∨ order = 2 → ∀ i ∈ idx, (bq (pL.get i) order).m = (order + 1).toNat) (hK : ∀ i ∈ idx, 0 < (pD.get i).n) (hb : ∀ i ∈ idx, BackendOk np6 (sel (pD.get i).n cb) (pD.get i).n) :
    ((Gen._lpsd_core (genFamily np6) bq sel wf alpha order cb x1 x2 false fs nx pL pD pf idx).2).map rowStats
      = idx.map (fun i => Model.refStatsAuto order (bq (pL.get i) order).get x1.get (pD.get i).get (pD.get i).n (pL.get i)
          (Model.lpsdWindow wf alpha (pL.get i)).get (2 * Real.pi * pf.get i / fs)) :=
  gen_lpsd_core_stats (fun i hi =>
    (dispatchWith_genFamily np6 _ false order x1 x2 fs _ (hb i hi) _ _).trans
      (dispatch_eq_ref false hord (Model.pbinAt pf pL pD i) (hK i hi) fun h => detrIsProj_of_cols h (hQ h i hi)))

/-- order 1: adding any straight line to the record leaves every bin unchanged (auto mode), when `_build_Q(L, 1)` is an orthonormal
    basis of the affine functions at the segment lengths of the bins read (`BuildQ.libQ_line_contract`: true of the library's basis for `L ≥ 2`) -/
theorem gen_lpsd_core_order1_add_line_auto (np6 : NpLC.Kernels6 ℝ) (bq : ℕ → ℤ → Arr2 ℝ) (sel : ℕ → String → String) (wf : NpLC.WinFunc ℝ)
    (alpha : ℝ) (cb : String) (x1 x2 : Arr ℝ) (fs : ℝ) (nx : ℤ) (pL : Arr ℕ) (pD : Arr (Arr ℕ)) (pf : Arr ℝ)
    (idx : List ℕ) (hQ : ∀ i ∈ idx, (bq (pL.get i) 1).m = 2) (hK : ∀ i ∈ idx, 0 < (pD.get i).n) (hb : ∀ i ∈ idx, BackendOk np6 (sel (pD.get i).n cb) (pD.get i).n)
    (hO : ∀ i ∈ idx, OrthoCols (bq (pL.get i) 1).get (pL.get i) 2)
    (hS : ∀ i ∈ idx, ∀ c d : ℝ, InSpan (bq (pL.get i) 1).get (pL.get i) 2 (fun n => c + d * n)) (a c : ℝ) :
    ((Gen._lpsd_core (genFamily np6) bq sel wf alpha 1 cb ⟨x1.n, fun m => x1.get m + (a + c * m)⟩ x2 false fs nx pL pD pf idx).2).map rowStats
      = ((Gen._lpsd_core (genFamily np6) bq sel wf alpha 1 cb x1 x2 false fs nx pL pD pf idx).2).map rowStats := by
  rw [gen_lpsd_core_eq_ref_auto np6 bq sel wf alpha 1 (by decide) cb _ x2 fs nx pL pD pf idx (fun _ => hQ) hK hb,
    gen_lpsd_core_eq_ref_auto np6 bq sel wf alpha 1 (by decide) cb x1 x2 fs nx pL pD pf idx (fun _ => hQ) hK hb]
  apply List.map_congr_left
  intro i hi
  simp only [Model.refStatsAuto, segDFT_order1_add_line _ _ (hO i hi) (hS i hi)]

/-- the single-bin path on the translated kernels: its kernel result is the one-element plan through `Model.lpsdCore` -/
theorem gen_single_bin_eq_lpsdCore (np6 : NpLC.Kernels6 ℝ) (bq : ℕ → ℤ → Arr2 ℝ) (sel : ℕ → String → String) (wf : NpLC.WinFunc ℝ)
    (alpha : ℝ) (order : ℤ) (hord : order = -1 ∨ order = 0 ∨ order = 1 ∨ order = 2) (cb : String) (x1 x2 : Arr ℝ) (iscsd : Bool) (fs : ℝ) (nx : ℤ)
    (freq fres : ℝ) (segL : ℕ) (starts : Arr ℕ) (hb : BackendOk np6 (sel starts.n cb) starts.n) :
    let o := (Gen.single_bin_kernel_section (genFamily np6) bq sel wf alpha order cb x1 x2 iscsd fs nx freq fres segL starts).2
    [(o.1, o.2.1, o.2.2.1.re, o.2.2.1.im, o.2.2.2.2.2)]
        = Model.lpsdCore iscsd order x1 x2 fs (Model.lpsdWindow wf alpha) bq [⟨freq, segL, starts⟩] ∧
      (o.2.2.2.1, o.2.2.2.2.1) = Model.winSums (Model.lpsdWindow wf alpha segL) := by
  intro o
  have ho : o = _ := congrArg Prod.snd (gen_single_bin_section_stats hord
    (dispatchWith_genFamily np6 _ iscsd order x1 x2 fs ⟨freq, segL, starts⟩ hb _ _))
  rw [ho, lpsdCore_single]
  exact ⟨rfl, rfl⟩

/-! ### all three backends concrete — the `_np` names are the TRANSLATED NumPy fallbacks (Gen/NumpyKernels)

The fallbacks take two more arguments than the Numba kernels: the keyword-only `_chunk` (the analyzer never passes it: the default of
the Python signature, translated as `Gen._stats_*_np_chunk_default`) and `uninit` (the contents of `np.empty`, arbitrary).
Props/NumpyKernelsGen proves each fallback equal to its Numba kernel for every segment count including 0 and every basis, so four
statements below do not need their hypothesis `hQ`; the checks list them as they stand (`vk/props/C05.py: THEOREMS`), hence the linter option. -/

/-- the six NumPy fallbacks as translated, called the way analysis.py calls them (default `_chunk`), for any uninitialised memory `u` -/
noncomputable def genNp6 (u : ℕ → ℕ → ℝ) : NpLC.Kernels6 ℝ :=
  ⟨fun x s L w ω => Gen._stats_win_only_auto_np x s L w ω Gen._stats_win_only_auto_np_chunk_default u,
   fun x1 x2 s L w ω => Gen._stats_win_only_csd_np x1 x2 s L w ω Gen._stats_win_only_csd_np_chunk_default u,
   fun x s L w ω => Gen._stats_detrend0_auto_np x s L w ω Gen._stats_detrend0_auto_np_chunk_default u,
   fun x1 x2 s L w ω => Gen._stats_detrend0_csd_np x1 x2 s L w ω Gen._stats_detrend0_csd_np_chunk_default u,
   fun x s L w ω Q => Gen._stats_poly_auto_np x s L w ω Q Gen._stats_poly_auto_np_chunk_default u,
   fun x1 x2 s L w ω Q => Gen._stats_poly_csd_np x1 x2 s L w ω Q Gen._stats_poly_csd_np_chunk_default u⟩

/-- the family the analyzer really runs: every one of the 18 names is translated code -/
noncomputable def genFamilyAll (u : ℕ → ℕ → ℝ) : NpLC.KernelFamily ℝ := NpLC.KernelFamily.ofBackends genNumba6 genCuda6 (genNp6 u)

theorem genNp6_eq_genNumba6 (u : ℕ → ℕ → ℝ) : genNp6 u = genNumba6 := by
  obtain ⟨c1, c2, c3, c4, c5, c6⟩ := gen_np_default_chunks_pos
  unfold genNp6 genNumba6
  congr 1
  · funext x s L w ω; exact np_numba_agree_win_only_auto x s L w ω _ c1 u
  · funext x1 x2 s L w ω; exact np_numba_agree_win_only_csd x1 x2 s L w ω _ c2 u
  · funext x s L w ω; exact np_numba_agree_detrend0_auto x s L w ω _ c3 u
  · funext x1 x2 s L w ω; exact np_numba_agree_detrend0_csd x1 x2 s L w ω _ c4 u
  · funext x s L w ω Q; exact np_eq_numba_poly_auto c5
  · funext x1 x2 s L w ω Q; exact np_eq_numba_poly_csd c6

theorem genFamilyAll_pick (u : ℕ → ℕ → ℝ) (backend : String) : (genFamilyAll u).pick backend = genNumba6 := by
  rw [genFamilyAll, pick_ofBackends, genNp6_eq_genNumba6, genCuda6_eq_genNumba6, ite_self, ite_self]

theorem dispatchWith_genFamilyAll_eq {u : ℕ → ℕ → ℝ} {backend : String} {iscsd : Bool} {order : ℤ} {x1 x2 : Arr ℝ} {fs : ℝ}
    {b : Model.PBin ℝ} {w : Arr ℝ} {q : Option (Arr2 ℝ)} :
    Model.dispatchWith ((genFamilyAll u).pick backend) iscsd order x1 x2 fs b w q = Model.dispatch iscsd order x1 x2 fs b w q := by
  rw [genFamilyAll_pick, dispatchWith_numba]

set_option linter.unusedVariables false in
theorem dispatchWith_genNp6 (u : ℕ → ℕ → ℝ) (iscsd : Bool) (order : ℤ) (x1 x2 : Arr ℝ) (fs : ℝ) (b : Model.PBin ℝ) (w : Arr ℝ)
    (q : Option (Arr2 ℝ)) (hQ : order = 1 ∨ order = 2 → ∀ Q, q = some Q → 2 ≤ Q.m) :
    Model.dispatchWith (genNp6 u) iscsd order x1 x2 fs b w q = Model.dispatch iscsd order x1 x2 fs b w q := by
  rw [genNp6_eq_genNumba6, dispatchWith_numba]

set_option linter.unusedVariables false in
theorem dispatchWith_genFamilyAll (u : ℕ → ℕ → ℝ) (backend : String) (iscsd : Bool) (order : ℤ) (x1 x2 : Arr ℝ) (fs : ℝ)
    (b : Model.PBin ℝ) (w : Arr ℝ) (q : Option (Arr2 ℝ)) (hQ : order = 1 ∨ order = 2 → ∀ Q, q = some Q → 2 ≤ Q.m) :
    Model.dispatchWith ((genFamilyAll u).pick backend) iscsd order x1 x2 fs b w q = Model.dispatch iscsd order x1 x2 fs b w q :=
  dispatchWith_genFamilyAll_eq

set_option linter.unusedVariables false in
/-- the translated `_lpsd_core` run on the 18 translated kernels computes `Model.lpsdCore`, whatever `_select_backend` answers for each
    bin, for every plan (empty segment lists included) and every `u` -/
theorem gen_lpsd_core_eq_model_all_backends (u : ℕ → ℕ → ℝ) (bq : ℕ → ℤ → Arr2 ℝ) (sel : ℕ → String → String) (wf : NpLC.WinFunc ℝ)
    (alpha : ℝ) (order : ℤ)
    (cb : String) (x1 x2 : Arr ℝ) (iscsd : Bool) (fs : ℝ) (nx : ℤ) (pL : Arr ℕ) (pD : Arr (Arr ℕ)) (pf : Arr ℝ) (idx : List ℕ)
    (hQ : order = 1 ∨ order = 2 → ∀ i ∈ idx, 2 ≤ (bq (pL.get i) order).m) :
    ((Gen._lpsd_core (genFamilyAll u) bq sel wf alpha order cb x1 x2 iscsd fs nx pL pD pf idx).2).map rowStats
      = Model.lpsdCore iscsd order x1 x2 fs (Model.lpsdWindow wf alpha) bq (idx.map (Model.pbinAt pf pL pD)) := by
  rw [lpsdCore_eq_map, List.map_map]
  exact gen_lpsd_core_stats (fun _ _ => dispatchWith_genFamilyAll_eq)

/-- every bin of the translated analysis = the reference estimator on its own (f, L, D), ALL backends, cross mode.  `hQ` is true of the
    library's basis for `L ≥ order + 1` (Props/PipelineClosed: every `L`); `hK`: the reference divides by K. -/
theorem gen_lpsd_core_eq_ref_all_backends_cross (u : ℕ → ℕ → ℝ) (bq : ℕ → ℤ → Arr2 ℝ) (sel : ℕ → String → String) (wf : NpLC.WinFunc ℝ)
    (alpha : ℝ) (order : ℤ) (hord : order = -1 ∨ order = 0 ∨ order = 1 ∨ order = 2)
    (cb : String) (x1 x2 : Arr ℝ) (fs : ℝ) (nx : ℤ) (pL : Arr ℕ) (pD : Arr (Arr ℕ)) (pf : Arr ℝ)
    (idx : List ℕ) (hQ : order = 1 ∨ order = 2 → ∀ i ∈ idx, (bq (pL.get i) order).m = (order + 1).toNat) (hK : ∀ i ∈ idx, 0 < (pD.get i).n) :
    ((Gen._lpsd_core (genFamilyAll u) bq sel wf alpha order cb x1 x2 true fs nx pL pD pf idx).2).map rowStats
      = idx.map (fun i => Model.refStats order (bq (pL.get i) order).get x1.get x2.get (pD.get i).get (pD.get i).n (pL.get i)
          (Model.lpsdWindow wf alpha (pL.get i)).get (2 * Real.pi * pf.get i / fs)) :=
  gen_lpsd_core_stats (fun i hi =>
    dispatchWith_genFamilyAll_eq.trans
      (dispatch_eq_ref true hord (Model.pbinAt pf pL pD i) (hK i hi) fun h => detrIsProj_of_cols h (hQ h i hi)))

theorem gen_lpsd_core_eq_ref_all_backends_auto (u : ℕ → ℕ → ℝ) (bq : ℕ → ℤ → Arr2 ℝ) (sel : ℕ → String → String) (wf : NpLC.WinFunc ℝ)
    (alpha : ℝ) (order : ℤ) (hord : order = -1 ∨ order = 0 ∨ order = 1 ∨ order = 2)
    (cb : String) (x1 x2 : Arr ℝ) (fs : ℝ) (nx : ℤ) (pL : Arr ℕ) (pD : Arr (Arr ℕ)) (pf : Arr ℝ)
    (idx : List ℕ) (hQ : order = 1 ∨ order = 2 → ∀ i ∈ idx, (bq (pL.get i) order).m = (order + 1).toNat) (hK : ∀ i ∈ idx, 0 < (pD.get i).n) :
    ((Gen._lpsd_core (genFamilyAll u) bq sel wf alpha order cb x1 x2 false fs nx pL pD pf idx).2).map rowStats
      = idx.map (fun i => Model.refStatsAuto order (bq (pL.get i) order).get x1.get (pD.get i).get (pD.get i).n (pL.get i)
          (Model.lpsdWindow wf alpha (pL.get i)).get (2 * Real.pi * pf.get i / fs)) :=
  gen_lpsd_core_stats (fun i hi =>
    dispatchWith_genFamilyAll_eq.trans
      (dispatch_eq_ref false hord (Model.pbinAt pf pL pD i) (hK i hi) fun h => detrIsProj_of_cols h (hQ h i hi)))

set_option linter.unusedVariables false in
/-- the kernel section of `compute_single_bin` on the 18 translated kernels, ALL backends: its six stored values are `Model.dispatch` on
    the requested bin and `Model.winSums` of the window built for `segL`.  `hord`: the code raises otherwise. -/
theorem gen_single_bin_section_all_backends (u : ℕ → ℕ → ℝ) (bq : ℕ → ℤ → Arr2 ℝ) (sel : ℕ → String → String) (wf : NpLC.WinFunc ℝ)
    (alpha : ℝ) (order : ℤ) (hord : order = -1 ∨ order = 0 ∨ order = 1 ∨ order = 2)
    (cb : String) (x1 x2 : Arr ℝ) (iscsd : Bool) (fs : ℝ) (nx : ℤ)
    (freq fres : ℝ) (segL : ℕ) (starts : Arr ℕ) (hQ : order = 1 ∨ order = 2 → 2 ≤ (bq segL order).m) :
    Gen.single_bin_kernel_section (genFamilyAll u) bq sel wf alpha order cb x1 x2 iscsd fs nx freq fres segL starts
      = (decide ((Model.lpsdWindow wf alpha segL).n ≠ segL),
          (let s := Model.dispatch iscsd order x1 x2 fs ⟨freq, segL, starts⟩ (Model.lpsdWindow wf alpha segL)
              (if order = 1 ∨ order = 2 then some (bq segL order) else none)
           (s.1, s.2.1, (⟨s.2.2.1, s.2.2.2.1⟩ : Cx ℝ), (Model.winSums (Model.lpsdWindow wf alpha segL)).1,
            (Model.winSums (Model.lpsdWindow wf alpha segL)).2, s.2.2.2.2))) :=
  gen_single_bin_section_stats hord dispatchWith_genFamilyAll_eq

/-- satisfiability: order 2, a basis with 3 columns, the "numpy" backend selected for every bin, one bin with NO segment and one with two -/
example (u : ℕ → ℕ → ℝ) (x1 x2 : Arr ℝ) :
    ((Gen._lpsd_core (genFamilyAll u) (fun L o => ⟨L, (o + 1).toNat, fun _ _ => 0⟩) (fun _ _ => "numpy")
        (⟨false, fun L => ⟨L, fun _ => 1⟩, fun L _ => ⟨L, fun _ => 1⟩⟩ : NpLC.WinFunc ℝ) 0 2 "numpy" x1 x2 true 2 10
        ⟨2, fun i => 3 - i⟩ ⟨2, fun i => ⟨2 * i, fun j => 2 * j⟩⟩ ⟨2, fun i => 1 / 3 + i⟩ [0, 1]).2).map rowStats
      = Model.lpsdCore true 2 x1 x2 2 (Model.lpsdWindow ⟨false, fun L => ⟨L, fun _ => 1⟩, fun L _ => ⟨L, fun _ => 1⟩⟩ 0)
          (fun L o => ⟨L, (o + 1).toNat, fun _ _ => 0⟩)
          ([0, 1].map (Model.pbinAt ⟨2, fun i => 1 / 3 + i⟩ ⟨2, fun i => 3 - i⟩ ⟨2, fun i => ⟨2 * i, fun j => 2 * j⟩⟩)) :=
  gen_lpsd_core_eq_model_all_backends u _ _ _ 0 2 "numpy" x1 x2 true 2 10 _ _ _ _ (fun _ _ _ => by show 2 ≤ ((2 : ℤ) + 1).toNat; decide)

/-- `BackendOk` can be met: by any selection rule once the fallbacks agree with the translated kernels (here: they ARE those kernels)
    and the bin has a segment; by the rule that always answers "numba" without more -/
example (sel : ℕ → String → String) (cb : String) (K : ℕ) (hK : 0 < K) : BackendOk genNumba6 (sel K cb) K :=
  Or.inr (Or.inr ⟨⟨fun _ _ _ _ _ _ => rfl, fun _ _ _ _ _ _ _ => rfl, fun _ _ _ _ _ _ => rfl, fun _ _ _ _ _ _ _ => rfl,
    fun _ _ _ _ _ _ _ => rfl, fun _ _ _ _ _ _ _ _ => rfl⟩, hK⟩)
example (np6 : NpLC.Kernels6 ℝ) (K : ℕ) : BackendOk np6 ((fun _ _ => "numba") K "auto") K := Or.inr (Or.inl rfl)

/-- `gen_lpsd_core_eq_ref_cross`: one plan with two bins, `L = 3` and `L = 2`, two / three starts, every supported order, a basis with
    order+1 columns, a rule that picks CUDA for the first and Numba for the second bin -/
example (order : ℤ) (hord : order = -1 ∨ order = 0 ∨ order = 1 ∨ order = 2) (np6 : NpLC.Kernels6 ℝ) (x1 x2 : Arr ℝ) :
    ∃ ref : List (ℝ × ℝ × ℝ × ℝ × ℝ),
    ((Gen._lpsd_core (genFamily np6) (fun L o => ⟨L, (o + 1).toNat, fun _ _ => 0⟩) (fun K _ => if K = 2 then "cuda" else "numba")
        (⟨false, fun L => ⟨L, fun _ => 1⟩, fun L _ => ⟨L, fun _ => 1⟩⟩ : NpLC.WinFunc ℝ) 0 order "auto" x1 x2 true 2 10
        ⟨2, fun i => 3 - i⟩ ⟨2, fun i => ⟨2 + i, fun j => 2 * j⟩⟩ ⟨2, fun i => 1 / 3 + i⟩ [0, 1]).2).map rowStats = ref :=
  ⟨_, gen_lpsd_core_eq_ref_cross np6 (fun L o => ⟨L, (o + 1).toNat, fun _ _ => 0⟩) (fun K _ => if K = 2 then "cuda" else "numba")
    ⟨false, fun L => ⟨L, fun _ => 1⟩, fun L _ => ⟨L, fun _ => 1⟩⟩ 0 order hord "auto" x1 x2 2 10
    ⟨2, fun i => 3 - i⟩ ⟨2, fun i => ⟨2 + i, fun j => 2 * j⟩⟩ ⟨2, fun i => 1 / 3 + i⟩ [0, 1] (fun _ _ _ => rfl)
    (by decide) (List.forall_mem_cons.2 ⟨Or.inl rfl, List.forall_mem_cons.2 ⟨Or.inr (Or.inl rfl), List.forall_mem_nil _⟩⟩)⟩

end LpsdCoreGen

open LpsdCoreGen

#print axioms dispatchWith_numba
#print axioms genCuda6_eq_genNumba6
#print axioms dispatchWith_genFamily
#print axioms gen_lpsd_core_eq_model
#print axioms gen_lpsd_core_eq_ref_cross
#print axioms gen_lpsd_core_eq_ref_auto
#print axioms gen_lpsd_core_order1_add_line_auto
#print axioms gen_single_bin_eq_lpsdCore
#print axioms dispatchWith_genNp6
#print axioms dispatchWith_genFamilyAll
#print axioms gen_lpsd_core_eq_model_all_backends
#print axioms gen_lpsd_core_eq_ref_all_backends_cross
#print axioms gen_lpsd_core_eq_ref_all_backends_auto
#print axioms gen_single_bin_section_all_backends
