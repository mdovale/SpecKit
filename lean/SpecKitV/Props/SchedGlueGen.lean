/-
  Props/SchedGlueGen — the machine-translated glue of speckit/schedulers.py (`Gen/SchedGlue.lean`, regenerated from the source on every
  run by vk/regions/sched_glue.py): `_require_args`, `lpsd_plan`'s forwarding, and for `ltf_plan`, `vectorized_ltf_plan`, `new_ltf_plan`
  the unpacking of the keyword dictionary, the statements after the frequency walk and the output dictionary, composed with the
  translated walks / start positions / closed-form post-processing of region Sched at the positions the source has them.

  For every fuel and every keyword dictionary that binds the seven names (`HasCfg`; a missing name is the TypeError case) each
  scheduler returns `planDict` of its model plan.  So a published value that is not the model's (a swapped key, `navg` from another
  count, overlaps of the wrong sign, the caller's bmin winning in `lpsd_plan`, two names exchanged in the unpacking) breaks these
  equalities.  The theorems of Props/C02, C03, C04* are then restated for the dictionary the translated code returns.
-/
import SpecKitV.RealInst
import SpecKitV.Gen.SchedGlue
import SpecKitV.Model.Sched
import SpecKitV.Props.SchedGen
import SpecKitV.Props.VecGen
import SpecKitV.Props.StartsGen
import SpecKitV.Props.PostGen
import SpecKitV.Props.C04
import SpecKitV.Props.C04New
import SpecKitV.Props.C04Vec

namespace SchedGlue

theorem get?_copy {β : Type} (d : Py.Dict β) (k : String) : Py.Dict.get? (Py.Dict.copy d) k = Py.Dict.get? d k := rfl

theorem get?_set {β : Type} (d : Py.Dict β) (k k' : String) (v : β) :
    Py.Dict.get? (Py.Dict.set d k v) k' = if k' = k then some v else Py.Dict.get? d k' := by
  have h : (k' == k) = decide (k' = k) := rfl
  simp only [Py.Dict.get?, Py.Dict.set, List.lookup, h]
  split_ifs with hk
  · rw [decide_eq_true hk]
  · rw [decide_eq_false hk]

theorem mapM_none_of_mem {γ δ : Type} {f : γ → Option δ} {l : List γ} {a : γ} (h : a ∈ l) (hf : f a = none) :
    l.mapM f = none := by
  induction l with
  | nil => cases h
  | cons x t ih =>
    rw [List.mapM_cons]
    rcases List.mem_cons.mp h with rfl | h'
    · simp [hf]
    · cases f x <;> simp [ih h']

theorem ofList_n {β : Type} (d : β) (l : List β) : (NpSG.ofList d l).n = l.length := List.size_toArray

theorem ofList_get {β : Type} (d : β) (l : List β) (i : ℕ) : (NpSG.ofList d l).get i = l.getD i d := by
  simp [NpSG.ofList, Array.getD_eq_getD_getElem?, List.getD_eq_getElem?_getD]

/-- the loops read the columns of the plan back by position (`X[j]`, emitted as `getD`): over all positions that is a map
    over the bins themselves -/
theorem map_range_getD₂ {γ β δ ε : Type} (l : List γ) {a : γ → β} {b : γ → δ} (da : β) (db : δ) (F : β → δ → ε) (G : γ → ε)
    (h : ∀ x ∈ l, F (a x) (b x) = G x) :
    (List.range l.length).map (fun j => F ((l.map a).getD j da) ((l.map b).getD j db)) = l.map G := by
  apply List.ext_getElem
  · rw [List.length_map, List.length_range, List.length_map]
  · intro i h1 h2
    rw [List.length_map] at h2
    simp only [List.getElem_map, List.getElem_range, List.getD_eq_getElem?_getD, List.getElem?_map,
      List.getElem?_eq_getElem h2, Option.map_some, Option.getD_some]
    exact h _ (List.getElem_mem h2)

/-- a column of naturals stored as Python ints, read back by position (also beyond the end, where both sides are `0`) -/
theorem getD_map_natCast {γ : Type} (l : List γ) (a : γ → ℕ) (j : ℕ) :
    (l.map (fun x => (a x : ℤ))).getD j 0 = (((l.map a).getD j 0 : ℕ) : ℤ) := by
  rw [List.getD_eq_getElem?_getD, List.getD_eq_getElem?_getD, List.getElem?_map, List.getElem?_map]
  cases l[j]? <;> rfl

theorem toList_ofList {β : Type} (d : β) (l : List β) : NpSG.toList (NpSG.ofList d l) = l := by
  unfold NpSG.toList
  rw [ofList_n, funext (ofList_get d l)]
  exact List.range_map_getD l d

theorem toList_mk {β : Type} (n : ℕ) (g : ℕ → β) : NpSG.toList ⟨n, g⟩ = (List.range n).map g := rfl

theorem slice_from_one_n {β : Type} (a : Arr β) : (NpSG.slice a (some 1) none).n = a.n - 1 := by
  show a.n - min (Int.toNat 1) a.n = a.n - 1
  rw [Int.toNat_one, min_comm, tsub_min]

theorem slice_from_one_get {β : Type} (a : Arr β) (i : ℕ) (h : 1 ≤ a.n) : (NpSG.slice a (some 1) none).get i = a.get (1 + i) := by
  show a.get (min (Int.toNat 1) a.n + i) = a.get (1 + i)
  rw [Int.toNat_one, min_eq_left h]

theorem slice_to_m1_n {β : Type} (a : Arr β) : (NpSG.slice a none (some (-1))).n = a.n - 1 := by
  show Int.toNat ((a.n : ℤ) + -1) - 0 = a.n - 1
  rw [Nat.sub_zero, ← Int.sub_eq_add_neg, ← Nat.cast_one, ← Int.toNat_sub]

theorem slice_to_m1_get {β : Type} (a : Arr β) (i : ℕ) : (NpSG.slice a none (some (-1))).get i = a.get i :=
  congrArg a.get (Nat.zero_add i)

theorem forRange_append {β : Type} (n : ℕ) {body : ℕ → List β → List β} (val : ℕ → β)
    (hb : ∀ j, j < n → ∀ O, body j O = O ++ [val j]) : forRange n [] body = (List.range n).map val :=
  forRange_inv (fun i s => s = (List.range i).map val) n [] body rfl
    (fun i s hi hs => by rw [hs, hb i hi, List.range_succ, List.map_append]; rfl)

/-- appends to the first and third list, keeps the second -/
theorem forRange_append3 {β γ δ : Type} (n : ℕ) {L0 : List γ} {body : ℕ → (List β × List γ × List δ) → (List β × List γ × List δ)}
    (d : ℕ → β) (a : ℕ → δ) (hb : ∀ j, j < n → ∀ D nv, body j (D, L0, nv) = (D ++ [d j], L0, nv ++ [a j])) :
    forRange n ([], L0, []) body = ((List.range n).map d, L0, (List.range n).map a) :=
  forRange_inv (fun i s => s = ((List.range i).map d, L0, (List.range i).map a)) n _ body rfl
    (fun i s hi hs => by rw [hs, hb i hi, List.range_succ, List.map_append, List.map_append]; rfl)

theorem sum_map_range (n : ℕ) (g : ℕ → ℝ) : ((List.range n).map g).sum = ∑ i ∈ Finset.range n, g i := rfl

theorem zip_tail (l : List ℤ) :
    List.zip l l.tail = (List.range (l.length - 1)).map (fun i => (l.getD i 0, l.getD (1 + i) 0)) := by
  apply List.ext_getElem
  · rw [List.length_zip, List.length_tail, List.length_map, List.length_range, min_eq_right (Nat.sub_le _ _)]
  · intro i h1 h2
    rw [List.length_zip, List.length_tail] at h1
    have h3 : i < l.length := lt_of_lt_of_le h1 (min_le_left _ _)
    have h4 : 1 + i < l.length := Nat.add_comm i 1 ▸ Nat.add_lt_of_lt_sub (lt_of_lt_of_le h1 (min_le_right _ _))
    simp only [List.getElem_zip, List.getElem_tail, List.getElem_map, List.getElem_range, List.getD_eq_getElem?_getD,
      List.getElem?_eq_getElem h3, List.getElem?_eq_getElem h4, Option.getD_some, Nat.add_comm i 1]

/-- the mean of `(L − (D[1+i] − D[i])) / L` over the `len(D) − 1` gaps; for fewer than two starts the sum is empty and the
    quotient `0 / 0 = 0`, the value the source sets by hand -/
theorem overlapMean_eq_sum (l : ℕ) (d : List ℤ) :
    Model.overlapMean (α := ℝ) l d
      = (∑ i ∈ Finset.range (d.length - 1), ((((l : ℤ) - (d.getD (1 + i) 0 - d.getD i 0) : ℤ) : ℝ) / ((l : ℤ) : ℝ)))
          / ((d.length - 1 : ℕ) : ℝ) := by
  match d with
  | [] | [_] =>
    show (RealLike.zero : ℝ) = (∑ i ∈ Finset.range 0, _) / _
    rw [RL.zero_eq, Finset.sum_range_zero, zero_div]
  | d0 :: d1 :: rest =>
    have hz := zip_tail (d0 :: d1 :: rest)
    rw [List.tail_cons] at hz
    rw [overlapMean_cons_cons, hz, List.map_map, sum_map_range]
    simp only [Function.comp_def, List.length_cons, Nat.add_sub_cancel, Int.cast_natCast]

/-- the dictionary of a plan given bin by bin -/
noncomputable def planDict (bins : List (Model.Bin ℝ)) : Py.PlanDict ℝ :=
  { f := bins.map (·.f), r := bins.map (·.r), b := bins.map (·.b), m := bins.map (·.b),
    L := bins.map (fun x => (x.L : ℤ)), K := bins.map (·.K), navg := bins.map (·.navg),
    D := bins.map (·.D), O := bins.map (·.O), nf := bins.length }

theorem set_getD_self {β : Type} (l : List β) (j : ℕ) (d : β) : l.set j (l.getD j d) = l := by
  by_cases h : j < l.length
  · rw [List.getD_eq_getElem?_getD, List.getElem?_eq_getElem h, Option.getD_some, List.set_getElem_self]
  · exact List.set_eq_of_length_le (Nat.le_of_not_lt h)

theorem gen_ltf_post_eq (Nn : ℕ) (bins : List (Model.Bin ℝ))
    (hshape : ∀ b ∈ bins, b.navg = b.K ∧ b.D = Model.startsAccum (α := ℝ) Nn b.L b.K ∧ b.O = Model.overlapMean (α := ℝ) b.L b.D)
    (fs olap bmin : ℝ) (Lmin Jdes Kdes : ℤ) :
    Gen.ltf_plan_glue_post (Nn : ℤ) fs olap bmin Lmin Jdes Kdes (bins.map (·.f)) (bins.map (·.r)) (bins.map (·.b))
      (bins.map (fun b => (b.L : ℤ))) (bins.map (·.K)) = if bins = [] then none else some (planDict bins) := by
  unfold Gen.ltf_plan_glue_post
  simp only [List.length_map]
  -- second loop: `navg`, the start positions per bin, and the no-op store `L_arr[j] = L_j`
  rw [forRange_append3 bins.length
      (fun j => Gen.ltf_plan_starts (α := ℝ) (Nn : ℤ) ((bins.map (fun b => (b.L : ℤ))).getD j 0) ((bins.map (·.K)).getD j 0))
      (fun j => (bins.map (·.K)).getD j 0) (fun j hj D nv => by simp only [set_getD_self]),
    map_range_getD₂ bins 0 0 (Gen.ltf_plan_starts (α := ℝ) (Nn : ℤ)) (·.D)
      (fun b hb => by rw [gen_ltf_starts_eq_model, (hshape b hb).2.1]),
    map_range_getD₂ bins (a := (·.K)) (b := (·.K)) 0 0 (fun k _ => k) (·.navg) (fun b hb => (hshape b hb).1.symm)]
  -- third loop: `np.mean((L - (indices[1:] - indices[:-1])) / L)`, `0.0` for a single segment, is `Model.overlapMean`
  rw [forRange_append bins.length
      (fun j => Model.overlapMean (α := ℝ) ((bins.map (·.L)).getD j 0) ((bins.map (·.D)).getD j [])) ?hb3,
    map_range_getD₂ bins 0 [] (Model.overlapMean (α := ℝ)) (·.O) (fun b hb => (hshape b hb).2.2.symm)]
  case hb3 =>
    intro j hj O
    rw [getD_map_natCast, overlapMean_eq_sum]
    generalize (bins.map (·.L)).getD j 0 = l
    generalize (bins.map (·.D)).getD j [] = d
    simp only [Arr.memo_eq, ofList_n, slice_from_one_n, slice_to_m1_get, ofList_get, Arr.mean, sumRange_eq_sum,
      RL.ofInt_eq, RL.ofNat_eq, RL.lit_zero, gt_iff_lt, decide_eq_true_eq]
    by_cases hlen : 1 < d.length
    · have hs : ∀ i, (NpSG.slice (NpSG.ofList 0 d) (some 1) none).get i = d.getD (1 + i) 0 := fun i => by
        rw [slice_from_one_get _ _ (by rw [ofList_n]; exact hlen.le), ofList_get]
      simp only [if_pos hlen, hs]
    · rw [if_neg hlen, Nat.sub_eq_zero_of_le (not_lt.mp hlen), Finset.sum_range_zero, zero_div]
  simp only [toList_ofList, ofList_n, List.length_map, decide_eq_true_eq, List.length_eq_zero_iff]
  rfl

theorem vec_post_D_n (N : ℤ) (L K : Arr ℤ) : (Gen.vectorized_ltf_plan_post (α := ℝ) N L K).2.1.n = K.n := rfl
theorem vec_post_O_n (N : ℤ) (L K : Arr ℤ) : (Gen.vectorized_ltf_plan_post (α := ℝ) N L K).2.2.n = L.n := rfl

theorem vec_post_views (Nn : ℕ) (bins : List (Model.Bin ℝ))
    (h : ∀ b ∈ bins, b.D = Model.startsEven (α := ℝ) Nn b.L b.K ∧ b.O = Model.overlapClosed (α := ℝ) Nn b.L b.K) :
    let g := Gen.vectorized_ltf_plan_post (α := ℝ) (Nn : ℤ) (NpSG.ofList 0 (bins.map (fun b => (b.L : ℤ)))) (NpSG.ofList 0 (bins.map (·.K)))
    NpSG.toList2 g.2.1 = bins.map (·.D) ∧ NpSG.toList g.2.2 = bins.map (·.O) := by
  intro g
  have hget : ∀ j,
      NpSG.toList (g.2.1.get j) = Model.startsEven (α := ℝ) Nn ((bins.map (·.L)).getD j 0) ((bins.map (·.K)).getD j 0) ∧
      g.2.2.get j = Model.overlapClosed (α := ℝ) Nn ((bins.map (·.L)).getD j 0) ((bins.map (·.K)).getD j 0) := by
    intro j
    have h := gen_vec_post_eq_model Nn (NpSG.ofList 0 (bins.map (fun b => (b.L : ℤ)))) (NpSG.ofList 0 (bins.map (·.K))) j
      ((bins.map (·.L)).getD j 0) (by rw [ofList_get, getD_map_natCast])
    rw [ofList_get] at h
    exact ⟨h.2.2.1, h.2.2.2⟩
  constructor
  · rw [NpSG.toList2, NpSG.toList, List.map_map, vec_post_D_n, ofList_n, List.length_map]
    exact (List.map_congr_left (fun j _ => (hget j).1)).trans
      (map_range_getD₂ bins 0 0 _ _ (fun b hb => (h b hb).1.symm))
  · rw [NpSG.toList, vec_post_O_n, ofList_n, List.length_map]
    exact (List.map_congr_left (fun j _ => (hget j).2)).trans
      (map_range_getD₂ bins 0 0 _ _ (fun b hb => (h b hb).2.symm))

theorem gen_vec_post_glue_eq (Nn : ℕ) (bins : List (Model.Bin ℝ))
    (hshape : ∀ b ∈ bins, b.b = b.f / b.r ∧ b.navg = b.K ∧ b.D = Model.startsEven (α := ℝ) Nn b.L b.K ∧
      b.O = Model.overlapClosed (α := ℝ) Nn b.L b.K)
    (fs olap bmin : ℝ) (Lmin Jdes Kdes : ℤ) :
    Gen.vectorized_ltf_plan_glue_post (Nn : ℤ) fs olap bmin Lmin Jdes Kdes (bins.map (·.f)) (bins.map (·.r))
      (bins.map (fun b => (b.L : ℤ))) (bins.map (·.K)) = some (planDict bins) := by
  unfold Gen.vectorized_ltf_plan_glue_post
  have hv := vec_post_views Nn bins (fun b hb => (hshape b hb).2.2)
  have hb := map_range_getD₂ bins (a := (·.f)) (b := (·.r)) (0 : ℝ) 0 (· / ·) (·.b) (fun b hb => (hshape b hb).1.symm)
  simp only [Arr.memo_eq, hv.1, hv.2, toList_ofList, toList_mk, ofList_n, ofList_get, List.length_map, RL.ofNat_eq, Nat.cast_zero,
    hb]
  rw [planDict, List.map_congr_left (fun b hb => (hshape b hb).2.1)]

theorem gen_new_post_glue_eq (Nn : ℕ) (bins : List (Model.Bin ℝ))
    (hshape : ∀ b ∈ bins, b.navg = b.K ∧ b.D = Model.startsEven (α := ℝ) Nn b.L b.K ∧ b.O = Model.overlapClosed (α := ℝ) Nn b.L b.K)
    (fs olap bmin : ℝ) (Lmin Jdes Kdes : ℤ) :
    Gen.new_ltf_plan_glue_post (Nn : ℤ) fs olap bmin Lmin Jdes Kdes (bins.map (·.f)) (bins.map (·.r)) (bins.map (·.b))
      (bins.map (fun b => (b.L : ℤ))) (bins.map (·.K)) = some (planDict bins) := by
  unfold Gen.new_ltf_plan_glue_post
  have hv := vec_post_views Nn bins (fun b hb => (hshape b hb).2)
  simp only [gen_new_post_eq_vec_post, hv.1, hv.2, toList_ofList, ofList_n, List.length_map]
  rw [planDict, List.map_congr_left (fun b hb => (hshape b hb).1)]

/-- `_require_args` returns the values of the required names in the order of the list, or raises when one is missing
    (the separate `missing` test never decides anything the lookups would not) -/
theorem gen_require_args_eq {β : Type} (d : Py.Dict β) (req : List String) :
    Gen._require_args d req = req.mapM (fun k => Py.Dict.get? d k) := by
  unfold Gen._require_args
  simp only
  split_ifs with h
  · have hne : List.filter (fun k => !Py.Dict.contains d k) req ≠ [] := by
      intro h0
      rw [h0] at h
      simp at h
    obtain ⟨k, hk⟩ := List.exists_mem_of_ne_nil _ hne
    rw [List.mem_filter] at hk
    have hn : Py.Dict.get? d k = none := by
      have := hk.2
      simp only [Py.Dict.contains, Bool.not_eq_eq_eq_not, Bool.not_true, Option.isSome_eq_false_iff, Option.isNone_iff_eq_none] at this
      exact this
    exact (mapM_none_of_mem hk.1 hn).symm
  · rfl

/-- the keyword dictionary binds the configuration `c`: the seven names the schedulers unpack, lengths / counts as Python ints -/
structure HasCfg (args : Py.Dict (Py.Val ℝ)) (c : Model.Cfg ℝ) : Prop where
  hN : (Py.Dict.get? args "N").bind Py.Val.asInt = some (c.N : ℤ)
  hfs : (Py.Dict.get? args "fs").map Py.Val.asReal = some c.fs
  holap : (Py.Dict.get? args "olap").map Py.Val.asReal = some c.olap
  hbmin : (Py.Dict.get? args "bmin").map Py.Val.asReal = some c.bmin
  hLmin : (Py.Dict.get? args "Lmin").bind Py.Val.asInt = some (c.Lmin : ℤ)
  hJdes : (Py.Dict.get? args "Jdes").bind Py.Val.asInt = some (c.Jdes : ℤ)
  hKdes : (Py.Dict.get? args "Kdes").bind Py.Val.asInt = some (c.Kdes : ℤ)

theorem unpack7 {args : Py.Dict (Py.Val ℝ)} {c : Model.Cfg ℝ} (h : HasCfg args c) :
    ∃ vN vfs volap vbmin vLmin vJdes vKdes,
      Gen._require_args args ["N", "fs", "olap", "bmin", "Lmin", "Jdes", "Kdes"] = some [vN, vfs, volap, vbmin, vLmin, vJdes, vKdes] ∧
      Py.Val.asInt vN = some (c.N : ℤ) ∧ Py.Val.asReal vfs = c.fs ∧ Py.Val.asReal volap = c.olap ∧ Py.Val.asReal vbmin = c.bmin ∧
      Py.Val.asInt vLmin = some (c.Lmin : ℤ) ∧ Py.Val.asInt vJdes = some (c.Jdes : ℤ) ∧ Py.Val.asInt vKdes = some (c.Kdes : ℤ) := by
  obtain ⟨vN, hN1, hN2⟩ := Option.bind_eq_some_iff.mp h.hN
  obtain ⟨vfs, hfs1, hfs2⟩ := Option.map_eq_some_iff.mp h.hfs
  obtain ⟨volap, ho1, ho2⟩ := Option.map_eq_some_iff.mp h.holap
  obtain ⟨vbmin, hb1, hb2⟩ := Option.map_eq_some_iff.mp h.hbmin
  obtain ⟨vLmin, hL1, hL2⟩ := Option.bind_eq_some_iff.mp h.hLmin
  obtain ⟨vJdes, hJ1, hJ2⟩ := Option.bind_eq_some_iff.mp h.hJdes
  obtain ⟨vKdes, hK1, hK2⟩ := Option.bind_eq_some_iff.mp h.hKdes
  refine ⟨vN, vfs, volap, vbmin, vLmin, vJdes, vKdes, ?_, hN2, hfs2, ho2, hb2, hL2, hJ2, hK2⟩
  rw [gen_require_args_eq]
  simp only [List.mapM_cons, List.mapM_nil, hN1, hfs1, ho1, hb1, hL1, hJ1, hK1, Option.pure_def, Option.bind_eq_bind,
    Option.bind_some]

theorem ltf_walk_lists (c : Model.Cfg ℝ) (fuel : ℕ) :
    Gen.ltf_plan_walk (c.N : ℤ) c.fs c.olap c.bmin (c.Lmin : ℤ) (c.Jdes : ℤ) (c.Kdes : ℤ) fuel =
      ((Model.ltfPlan c fuel).map (·.f), (Model.ltfPlan c fuel).map (·.r), (Model.ltfPlan c fuel).map (·.b),
       (Model.ltfPlan c fuel).map (fun b => (b.L : ℤ)), (Model.ltfPlan c fuel).map (·.K)) := by
  rw [gen_ltf_walk_eq_model]
  simp only [Model.ltfPlan, List.map_map]
  rfl

theorem gen_ltf_plan_eq_model (args : Py.Dict (Py.Val ℝ)) (c : Model.Cfg ℝ) (h : HasCfg args c) (fuel : ℕ) :
    Gen.ltf_plan args fuel = if Model.ltfPlan c fuel = [] then none else some (planDict (Model.ltfPlan c fuel)) := by
  obtain ⟨_, _, _, _, _, _, _, hreq, hv⟩ := unpack7 h
  unfold Gen.ltf_plan
  simp only [hreq, hv, ltf_walk_lists]
  -- every bin is the one the model builds from a row of the walk: the derived fields hold by definition
  exact gen_ltf_post_eq c.N _ (List.forall_mem_map.mpr fun _ _ => ⟨rfl, rfl, rfl⟩) _ _ _ _ _ _

theorem gen_vec_plan_eq_model (args : Py.Dict (Py.Val ℝ)) (c : Model.Cfg ℝ) (h : HasCfg args c) (fuel : ℕ) :
    Gen.vectorized_ltf_plan args fuel = some (planDict (Model.vecPlan c fuel)) := by
  obtain ⟨_, _, _, _, _, _, _, hreq, hv⟩ := unpack7 h
  unfold Gen.vectorized_ltf_plan
  simp only [hreq, hv, gen_vec_walk_eq_plan c fuel]
  exact gen_vec_post_glue_eq c.N _ (List.forall_mem_map.mpr fun _ _ => ⟨rfl, rfl, rfl, rfl⟩) _ _ _ _ _ _

theorem new_walk_lists (c : Model.Cfg ℝ) (fuel : ℕ) :
    Gen.new_ltf_plan_walk (c.N : ℤ) c.fs c.olap c.bmin (c.Lmin : ℤ) (c.Jdes : ℤ) (c.Kdes : ℤ) fuel =
      ((Model.newPlan c fuel).map (·.f), (Model.newPlan c fuel).map (·.r), (Model.newPlan c fuel).map (·.b),
       (Model.newPlan c fuel).map (fun b => (b.L : ℤ)), (Model.newPlan c fuel).map (·.K)) := by
  rw [gen_new_walk_eq_model]
  simp only [Model.newPlan, List.map_map, RL.zero_eq]
  rfl

theorem gen_new_plan_eq_model (args : Py.Dict (Py.Val ℝ)) (c : Model.Cfg ℝ) (h : HasCfg args c) (fuel : ℕ) :
    Gen.new_ltf_plan args fuel = some (planDict (Model.newPlan c fuel)) := by
  obtain ⟨_, _, _, _, _, _, _, hreq, hv⟩ := unpack7 h
  unfold Gen.new_ltf_plan
  simp only [hreq, hv, new_walk_lists]
  exact gen_new_post_glue_eq c.N _ (List.forall_mem_map.mpr fun _ _ => ⟨rfl, rfl, rfl⟩) _ _ _ _ _ _

/-- `lpsd_plan(**args)` is `ltf_plan` applied to `args` with `bmin := 1.0`, `Lmin := 1` overriding whatever the caller passed under
    these two names, provided the five names it requires are present; otherwise it raises -/
theorem gen_lpsd_forward (args : Py.Dict (Py.Val ℝ)) (fuel : ℕ) :
    Gen.lpsd_plan args fuel =
      (Gen._require_args args ["N", "fs", "olap", "Jdes", "Kdes"]).bind (fun _ =>
        Gen.ltf_plan (Py.Dict.set (Py.Dict.set args "bmin" (Py.Val.real 1)) "Lmin" (Py.Val.int 1)) fuel) := by
  unfold Gen.lpsd_plan
  rw [RL.lit_one]
  cases Gen._require_args args ["N", "fs", "olap", "Jdes", "Kdes"] <;> rfl

/-- the five names `lpsd_plan` requires, bound to the configuration `c` (nothing is asked of `bmin`, `Lmin`: they may be absent or
    hold anything) -/
structure HasCfg5 (args : Py.Dict (Py.Val ℝ)) (c : Model.Cfg ℝ) : Prop where
  hN : (Py.Dict.get? args "N").bind Py.Val.asInt = some (c.N : ℤ)
  hfs : (Py.Dict.get? args "fs").map Py.Val.asReal = some c.fs
  holap : (Py.Dict.get? args "olap").map Py.Val.asReal = some c.olap
  hJdes : (Py.Dict.get? args "Jdes").bind Py.Val.asInt = some (c.Jdes : ℤ)
  hKdes : (Py.Dict.get? args "Kdes").bind Py.Val.asInt = some (c.Kdes : ℤ)

theorem hasCfg_forwarded {args : Py.Dict (Py.Val ℝ)} {c : Model.Cfg ℝ} (h : HasCfg5 args c) :
    HasCfg (Py.Dict.set (Py.Dict.set args "bmin" (Py.Val.real 1)) "Lmin" (Py.Val.int 1)) { c with bmin := 1, Lmin := 1 } := by
  constructor <;> simp [get?_set, h.hN, h.hfs, h.holap, h.hJdes, h.hKdes, Py.Val.asReal, Py.Val.asInt]

theorem require5 {args : Py.Dict (Py.Val ℝ)} {c : Model.Cfg ℝ} (h : HasCfg5 args c) :
    ∃ vs, Gen._require_args args ["N", "fs", "olap", "Jdes", "Kdes"] = some vs := by
  obtain ⟨vN, hN1, _⟩ := Option.bind_eq_some_iff.mp h.hN
  obtain ⟨vfs, hfs1, _⟩ := Option.map_eq_some_iff.mp h.hfs
  obtain ⟨volap, ho1, _⟩ := Option.map_eq_some_iff.mp h.holap
  obtain ⟨vJdes, hJ1, _⟩ := Option.bind_eq_some_iff.mp h.hJdes
  obtain ⟨vKdes, hK1, _⟩ := Option.bind_eq_some_iff.mp h.hKdes
  refine ⟨[vN, vfs, volap, vJdes, vKdes], ?_⟩
  rw [gen_require_args_eq]
  simp only [List.mapM_cons, List.mapM_nil, hN1, hfs1, ho1, hJ1, hK1, Option.pure_def, Option.bind_eq_bind, Option.bind_some]

/-- "The LPSD scheduler is the LTF scheduler with bmin=1 and Lmin=1": for the translated code, whatever the caller passed as
    `bmin` / `Lmin` (or did not pass) -/
theorem gen_lpsd_plan_eq_ltf (args : Py.Dict (Py.Val ℝ)) (c : Model.Cfg ℝ) (h : HasCfg5 args c) (fuel : ℕ) :
    Gen.lpsd_plan args fuel = Gen.ltf_plan (Py.Dict.set (Py.Dict.set args "bmin" (Py.Val.real 1)) "Lmin" (Py.Val.int 1)) fuel ∧
    Gen.lpsd_plan args fuel =
      (if Model.ltfPlan { c with bmin := 1, Lmin := 1 } fuel = [] then none
       else some (planDict (Model.ltfPlan { c with bmin := 1, Lmin := 1 } fuel))) := by
  obtain ⟨vs, hvs⟩ := require5 h
  have hf := gen_lpsd_forward args fuel
  rw [hvs, Option.bind_some] at hf
  exact ⟨hf, hf.trans (gen_ltf_plan_eq_model _ _ (hasCfg_forwarded h) fuel)⟩

theorem gen_lpsd_plan_eq_model (args : Py.Dict (Py.Val ℝ)) (c : Model.Cfg ℝ) (h : HasCfg5 args c) (fuel : ℕ) :
    Gen.lpsd_plan args fuel = if Model.lpsdPlan c fuel = [] then none else some (planDict (Model.lpsdPlan c fuel)) := by
  rw [lpsd_is_ltf]
  exact (gen_lpsd_plan_eq_ltf args c h fuel).2

/-- a missing required name: no scheduler returns a plan (`TypeError`) -/
theorem gen_plan_missing_key (args : Py.Dict (Py.Val ℝ)) (k : String)
    (hk : k ∈ ["N", "fs", "olap", "bmin", "Lmin", "Jdes", "Kdes"]) (hn : Py.Dict.get? args k = none) (fuel : ℕ) :
    Gen.ltf_plan args fuel = none ∧ Gen.vectorized_ltf_plan args fuel = none ∧ Gen.new_ltf_plan args fuel = none := by
  have hreq : Gen._require_args args ["N", "fs", "olap", "bmin", "Lmin", "Jdes", "Kdes"] = none := by
    rw [gen_require_args_eq]
    exact mapM_none_of_mem hk hn
  refine ⟨?_, ?_, ?_⟩
  · rw [Gen.ltf_plan, hreq]
  · rw [Gen.vectorized_ltf_plan, hreq]
  · rw [Gen.new_ltf_plan, hreq]

theorem gen_lpsd_missing_key (args : Py.Dict (Py.Val ℝ)) (k : String)
    (hk : k ∈ ["N", "fs", "olap", "Jdes", "Kdes"]) (hn : Py.Dict.get? args k = none) (fuel : ℕ) :
    Gen.lpsd_plan args fuel = none := by
  rw [gen_lpsd_forward, gen_require_args_eq, mapM_none_of_mem hk hn]
  rfl

theorem planDict_keys (bins : List (Model.Bin ℝ)) :
    (planDict bins).f = bins.map (·.f) ∧ (planDict bins).r = bins.map (·.r) ∧ (planDict bins).b = bins.map (·.b) ∧
    (planDict bins).m = bins.map (·.b) ∧ (planDict bins).L = bins.map (fun x => (x.L : ℤ)) ∧ (planDict bins).K = bins.map (·.K) ∧
    (planDict bins).navg = bins.map (·.navg) ∧ (planDict bins).D = bins.map (·.D) ∧ (planDict bins).O = bins.map (·.O) ∧
    (planDict bins).nf = bins.length := ⟨rfl, rfl, rfl, rfl, rfl, rfl, rfl, rfl, rfl, rfl⟩

/-- the wiring claims of the properties: `"m"` IS the bin number `"b"`, `"navg"` equals `"K"`, `"nf" = len(f)`, every per-bin entry
    has `nf` elements -/
def Wired (d : Py.PlanDict ℝ) : Prop :=
  d.m = d.b ∧ d.navg = d.K ∧ d.nf = d.f.length ∧ d.r.length = d.nf ∧ d.b.length = d.nf ∧ d.L.length = d.nf ∧ d.K.length = d.nf ∧
  d.D.length = d.nf ∧ d.O.length = d.nf

theorem wired_planDict {bins : List (Model.Bin ℝ)} (hnv : ∀ b ∈ bins, b.navg = b.K) : Wired (planDict bins) :=
  ⟨rfl, List.map_congr_left hnv, (List.length_map _).symm, List.length_map _, List.length_map _, List.length_map _,
    List.length_map _, List.length_map _, List.length_map _⟩

theorem gen_plan_cases {args : Py.Dict (Py.Val ℝ)} {c : Model.Cfg ℝ} (h : HasCfg args c) {fuel : ℕ} {d : Py.PlanDict ℝ}
    (hd : Gen.ltf_plan args fuel = some d ∨ Gen.lpsd_plan args fuel = some d ∨ Gen.vectorized_ltf_plan args fuel = some d ∨
      Gen.new_ltf_plan args fuel = some d) :
    d = planDict (Model.ltfPlan c fuel) ∨ d = planDict (Model.lpsdPlan c fuel) ∨ d = planDict (Model.vecPlan c fuel) ∨
      d = planDict (Model.newPlan c fuel) := by
  rcases hd with hd | hd | hd | hd
  · rw [gen_ltf_plan_eq_model args c h fuel] at hd
    split_ifs at hd
    exact .inl (Option.some.inj hd).symm
  · rw [gen_lpsd_plan_eq_model args c ⟨h.hN, h.hfs, h.holap, h.hJdes, h.hKdes⟩ fuel] at hd
    split_ifs at hd
    exact .inr (.inl (Option.some.inj hd).symm)
  · rw [gen_vec_plan_eq_model args c h fuel] at hd
    exact .inr (.inr (.inl (Option.some.inj hd).symm))
  · rw [gen_new_plan_eq_model args c h fuel] at hd
    exact .inr (.inr (.inr (Option.some.inj hd).symm))

theorem gen_plan_wiring (args : Py.Dict (Py.Val ℝ)) (c : Model.Cfg ℝ) (h : HasCfg args c) (fuel : ℕ) (d : Py.PlanDict ℝ)
    (hd : Gen.ltf_plan args fuel = some d ∨ Gen.lpsd_plan args fuel = some d ∨ Gen.vectorized_ltf_plan args fuel = some d ∨
      Gen.new_ltf_plan args fuel = some d) : Wired d := by
  -- each of the four model plans maps a bin-builder with `navg := K` over its walk
  rcases gen_plan_cases h hd with rfl | rfl | rfl | rfl <;>
    exact wired_planDict (List.forall_mem_map.mpr fun _ _ => rfl)

/-- dictionary-level form of "the reported overlap is the realised mean overlap": entry by entry, `"O"` is the mean of
    `(L − (D[i+1] − D[i])) / L` over the published `"D"` with the published `"L"` -/
theorem planDict_overlap (bins : List (Model.Bin ℝ)) (h : ∀ b ∈ bins, b.O = Model.overlapMean (α := ℝ) b.L b.D) :
    (planDict bins).O = List.zipWith (fun (l : ℤ) D => Model.overlapMean (α := ℝ) l.toNat D) (planDict bins).L (planDict bins).D := by
  simp only [planDict, List.zipWith_map, List.zipWith_self, Int.toNat_natCast]
  exact List.map_congr_left h

/-- C02 + C03 + C04 for the translated `ltf_plan` (fuel `N` suffices): it returns a plan; every bin is safe and complete, the starts are
    evenly spread, the reported overlap is the realised one (`BinFull`); the grid obeys the DFT / stepping constraints (`GridOK`) with
    the bmin slack; L never increases and K never decreases -/
theorem gen_ltf_plan_props (args : Py.Dict (Py.Val ℝ)) (c : Model.Cfg ℝ) (h : HasCfg args c) (hA : Adm c) (extra : ℕ) :
    ∃ bins : List (Model.Bin ℝ), Gen.ltf_plan args (c.N + extra) = some (planDict bins) ∧ bins ≠ [] ∧
      (∀ b ∈ bins, BinFull c.N c.Lmin b) ∧ GridOK c c.bmin bins ∧ (∀ b ∈ bins, c.bmin - b.f / (2 * c.fs) ≤ b.b) ∧
      bins.Pairwise (fun a b => b.L ≤ a.L ∧ a.K ≤ b.K) := by
  have hf := PlanC02.ltfPlan_full hA extra
  refine ⟨Model.ltfPlan c (c.N + extra), ?_, hf.1, hf.2, (ltfPlan_grid c hA extra).1, (ltfPlan_grid c hA extra).2,
    ltfPlan_monotone c hA extra⟩
  rw [gen_ltf_plan_eq_model args c h, if_neg hf.1]

/-- the same for the translated `lpsd_plan`, with the effective `bmin = 1`, `Lmin = 1`, whatever the caller passed for them -/
theorem gen_lpsd_plan_props (args : Py.Dict (Py.Val ℝ)) (c : Model.Cfg ℝ) (h : HasCfg5 args c) (hA : Adm c) (extra : ℕ) :
    ∃ bins : List (Model.Bin ℝ), Gen.lpsd_plan args (c.N + extra) = some (planDict bins) ∧ bins ≠ [] ∧
      (∀ b ∈ bins, BinFull c.N 1 b) ∧ GridOK c 1 bins ∧ (∀ b ∈ bins, 1 - b.f / (2 * c.fs) ≤ b.b) ∧
      bins.Pairwise (fun a b => b.L ≤ a.L ∧ a.K ≤ b.K) := by
  have hf := PlanC02.lpsdPlan_full hA extra
  refine ⟨Model.lpsdPlan c (c.N + extra), ?_, hf.1, hf.2, (lpsdPlan_grid c hA extra).1, (lpsdPlan_grid c hA extra).2,
    lpsdPlan_monotone c hA extra⟩
  rw [gen_lpsd_plan_eq_model args c h, if_neg hf.1]

theorem gen_new_plan_props (args : Py.Dict (Py.Val ℝ)) (c : Model.Cfg ℝ) (h : HasCfg args c) (hA : Adm c) (extra : ℕ) :
    ∃ bins : List (Model.Bin ℝ), Gen.new_ltf_plan args (c.N + extra) = some (planDict bins) ∧ bins ≠ [] ∧
      (∀ b ∈ bins, BinFull c.N c.Lmin b) ∧ GridOK c c.bmin bins ∧ (∀ b ∈ bins, c.bmin ≤ b.b) ∧
      bins.Pairwise (fun a b => b.L ≤ a.L ∧ a.K ≤ b.K) := by
  have hf := PlanC02.newPlan_full hA extra
  exact ⟨Model.newPlan c (c.N + extra), gen_new_plan_eq_model args c h _, hf.1, hf.2, (newPlan_grid c hA extra).1,
    (newPlan_grid c hA extra).2, newPlan_monotone c hA _⟩

theorem gen_vec_plan_props (args : Py.Dict (Py.Val ℝ)) (c : Model.Cfg ℝ) (h : HasCfg args c) (hA : Adm c) (fuel : ℕ) :
    ∃ bins : List (Model.Bin ℝ), Gen.vectorized_ltf_plan args fuel = some (planDict bins) ∧
      (∀ b ∈ bins, BinFull c.N c.Lmin b) ∧
      (∀ b ∈ bins, b.r * (b.L : ℝ) = c.fs ∧ b.f < c.fs / 2 ∧ b.b = b.f / b.r ∧ 0 < b.r) ∧
      bins.IsChain (fun a b => b.f = a.f + a.r) ∧ bins.Pairwise (fun a b => a.f < b.f) ∧
      (∀ b0, bins.head? = some b0 → b0.f = c.bmin * c.fs / c.N) ∧
      bins.Pairwise (fun a b => b.L ≤ a.L ∧ a.K ≤ b.K) :=
  ⟨Model.vecPlan c fuel, gen_vec_plan_eq_model args c h fuel, PlanC02.vecPlan_full hA fuel, (vecPlan_grid c hA fuel).1,
    (vecPlan_grid c hA fuel).2.1, vecPlan_increasing c hA fuel, (vecPlan_grid c hA fuel).2.2, vecPlan_monotone c hA fuel⟩

/-- C04 f at the level of the dictionary, all four translated schedulers: `"O"[j]` is the realised mean overlap of `"D"[j]` for
    segment length `"L"[j]` -/
theorem gen_plan_overlap_key (args : Py.Dict (Py.Val ℝ)) (c : Model.Cfg ℝ) (h : HasCfg args c) (hA : Adm c) (extra : ℕ)
    (d : Py.PlanDict ℝ)
    (hd : Gen.ltf_plan args (c.N + extra) = some d ∨ Gen.lpsd_plan args (c.N + extra) = some d ∨
      Gen.vectorized_ltf_plan args (c.N + extra) = some d ∨ Gen.new_ltf_plan args (c.N + extra) = some d) :
    d.O = List.zipWith (fun (l : ℤ) D => Model.overlapMean (α := ℝ) l.toNat D) d.L d.D := by
  rcases gen_plan_cases h hd with rfl | rfl | rfl | rfl
  · exact planDict_overlap _ (fun b hb => ((PlanC02.ltfPlan_full hA extra).2 b hb).O_eq)
  · exact planDict_overlap _ (fun b hb => ((PlanC02.lpsdPlan_full hA extra).2 b hb).O_eq)
  · exact planDict_overlap _ (fun b hb => (PlanC02.vecPlan_full hA _ b hb).O_eq)
  · exact planDict_overlap _ (fun b hb => ((PlanC02.newPlan_full hA extra).2 b hb).O_eq)

/-- a keyword dictionary as a caller builds it: the seven names (an `int` where a float is expected, an unknown extra name, and a
    SECOND, later binding of `bmin` that wins) -/
noncomputable def exArgs : Py.Dict (Py.Val ℝ) :=
  Py.Dict.set (Py.Dict.set (Py.Dict.set (Py.Dict.set (Py.Dict.set (Py.Dict.set (Py.Dict.set (Py.Dict.set (Py.Dict.set Py.Dict.empty
    "bmin" (Py.Val.real 7)) "N" (Py.Val.int 1000)) "fs" (Py.Val.real 2)) "olap" (Py.Val.real (1 / 2))) "zzz" (Py.Val.real 9))
    "bmin" (Py.Val.int 3)) "Lmin" (Py.Val.int 4)) "Jdes" (Py.Val.int 50)) "Kdes" (Py.Val.int 10)

noncomputable def exCfg : Model.Cfg ℝ := { N := 1000, fs := 2, olap := 1 / 2, bmin := 3, Lmin := 4, Jdes := 50, Kdes := 10 }

example : HasCfg exArgs exCfg := by
  constructor <;> simp [exArgs, exCfg, get?_set, Py.Val.asInt, Py.Val.asReal]

example : Adm exCfg := by
  constructor <;> simp only [exCfg] <;> norm_num

/-- for `lpsd_plan` the caller's `bmin = 3`, `Lmin = 4` are in the dictionary and do not matter: the same `HasCfg5` holds for a
    configuration with any other `bmin`, `Lmin` -/
example : HasCfg5 exArgs { exCfg with bmin := 123, Lmin := 77 } := by
  constructor <;> simp [exArgs, exCfg, get?_set, Py.Val.asInt, Py.Val.asReal]

example : Py.Dict.get? exArgs "Kdes" ≠ none ∧ Py.Dict.get? exArgs "nope" = none := by
  simp [exArgs, get?_set]
  rfl

/-- a non-trivial instance of the per-bin shape hypothesis of `gen_ltf_post_eq`: one bin of three segments -/
noncomputable def exBin : Model.Bin ℝ where
  f := 1
  r := 1
  b := 1
  L := 4
  K := 3
  navg := 3
  D := Model.startsAccum (α := ℝ) 10 4 3
  O := Model.overlapMean (α := ℝ) 4 (Model.startsAccum (α := ℝ) 10 4 3)

example : ∀ b ∈ [exBin], b.navg = b.K ∧ b.D = Model.startsAccum (α := ℝ) 10 b.L b.K ∧ b.O = Model.overlapMean (α := ℝ) b.L b.D :=
  List.forall_mem_singleton.mpr ⟨rfl, rfl, rfl⟩

end SchedGlue

#print axioms SchedGlue.gen_require_args_eq
#print axioms SchedGlue.gen_ltf_post_eq
#print axioms SchedGlue.gen_vec_post_glue_eq
#print axioms SchedGlue.gen_new_post_glue_eq
#print axioms SchedGlue.gen_ltf_plan_eq_model
#print axioms SchedGlue.gen_vec_plan_eq_model
#print axioms SchedGlue.gen_new_plan_eq_model
#print axioms SchedGlue.gen_lpsd_forward
#print axioms SchedGlue.gen_lpsd_plan_eq_ltf
#print axioms SchedGlue.gen_lpsd_plan_eq_model
#print axioms SchedGlue.gen_plan_missing_key
#print axioms SchedGlue.gen_lpsd_missing_key
#print axioms SchedGlue.planDict_keys
#print axioms SchedGlue.gen_plan_wiring
#print axioms SchedGlue.planDict_overlap
#print axioms SchedGlue.gen_ltf_plan_props
#print axioms SchedGlue.gen_lpsd_plan_props
#print axioms SchedGlue.gen_new_plan_props
#print axioms SchedGlue.gen_vec_plan_props
#print axioms SchedGlue.gen_plan_overlap_key
