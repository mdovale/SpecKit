/-
  The end of the chain  kernels = reference (C01)  →  pipeline = reference on its own plan (C05): the translated per-bin loop
  `Gen._lpsd_core` and the translated kernel section of `compute_single_bin`, run with

    * `_build_Q`        := `BuildQ.libQ`                      the TRANSLATED `core._build_Q`
    * `_select_backend` := `EPLpsd.selTranslated cuda numba`  the TRANSLATED `core._select_backend`, any module flags, any hint
    * the 18 kernels    := `LpsdCoreGen.genFamilyAll u`       the TRANSLATED Numba kernels, CUDA wrappers and NumPy fallbacks

  return, bin by bin, the reference estimator on the bin's own (f, L, D) with the window built for L and the library's own basis for
  (L, order).  No abstract parameter stands for library code; what stays a parameter is data.

  The basis.  The library's basis has `min(L, order+1)` columns, not `order + 1` at every `L` (what the column hypothesis `hQ` of
  Props/LpsdCoreGen and Props/C05 asks at the lengths of the bins read).  The columns that do not exist read as 0 in the model, so the
  reference with it detrends by the projection on the columns that exist, which is what the kernels compute whatever the column count
  (`DetrIsProj`).  Hence ONE per-bin statement for every `L`, `dispatch_libQ_eq_ref` (both modes); the theorems after it are its instances
  through `gen_lpsd_core_stats` / `gen_single_bin_section_stats` (the checks list each).  What it says, order by order:

    order −1, 0 : no basis is built
    order 1     : `L ≥ 2`  ⇒ 2 columns ⇒ reference of order 1;  `L = 1` ⇒ 1 × 1 basis `[±1]`, the sample is its own trend, all statistics 0
    order 2     : `L ≥ 3`  ⇒ 3 columns ⇒ reference of order 2;  `L ≤ 2` ⇒ complete L × L basis, the segment is its own trend, all statistics 0

  The schedulers: every bin of an admissible LTF / LPSD plan has `L ≥ 2`, of an admissible plan of the `new` scheduler `L ≥ 3`.
-/
import SpecKitV.Props.LpsdCoreGen
import SpecKitV.Props.BuildQGen
import SpecKitV.Props.EntryPointsLpsd
import SpecKitV.Props.C03
open Finset

namespace PipelineClosed
open LpsdCoreGen BuildQ

/-- column count of the translated `_build_Q(L, order)` -/
theorem libQ_cols_min (order : ℤ) (h : order = 1 ∨ order = 2) (L : ℕ) (hL : 1 ≤ L) :
    (libQ L order).m = min L (order + 1).toNat := by
  obtain ⟨p, hp, rfl, hp1⟩ := order_nat order h
  rw [hp1]
  exact (libQ_isPolyBasis L hL p hp).m_eq

theorem libQ_cols (order : ℤ) (h : order = 1 ∨ order = 2) (L : ℕ) (hL : (order + 1).toNat ≤ L) :
    (libQ L order).m = (order + 1).toNat := by
  obtain ⟨p, hp, rfl, hp1⟩ := order_nat order h
  rw [hp1] at hL ⊢
  exact libQ_m L p hp hL

theorem libQ_two_cols (order : ℤ) (h : order = 1 ∨ order = 2) (L : ℕ) (hL : 2 ≤ L) : 2 ≤ (libQ L order).m := by
  obtain ⟨p, hp, rfl, _⟩ := order_nat order h
  rw [(libQ_isPolyBasis L (by omega) p hp).m_eq]
  exact le_min hL (by omega)

/-- `∀ L, m = order + 1` is false of the library's basis: `_build_Q(1, order)` has ONE column -/
theorem old_hypothesis_false (order : ℤ) (h : order = 1 ∨ order = 2) : ¬ ∀ L, (libQ L order).m = (order + 1).toNat := by
  intro hall
  have h1 := libQ_cols_min order h 1 le_rfl
  rw [hall 1] at h1
  obtain ⟨p, hp, _, hp1⟩ := order_nat order h
  rw [hp1] at h1
  omega

/-- the translated `_build_Q(L, p)` is the reduced-QR factor of an `L × (p+1)` matrix (whatever its columns are) -/
theorem libQ_is_qr (L p : ℕ) (hp : p = 1 ∨ p = 2) :
    ∃ V : Arr2 ℝ, libQ L (p : ℤ) = Np.qrReducedQ V ∧ V.n = L ∧ V.m = p + 1 := by
  obtain ⟨V, hV, hn, hm, _⟩ := build_Q_vander L p hp
  exact ⟨V, by rw [libQ, hV, Option.getD_some], hn, hm⟩

/-- the columns that do not exist (`k ≥ min(L, order+1)`) read as 0 in the model -/
theorem libQ_get_beyond (order : ℤ) (h : order = 1 ∨ order = 2) (L : ℕ) (n k : ℕ) (hk : min L (order + 1).toNat ≤ k) :
    (libQ L order).get n k = 0 := by
  obtain ⟨p, hp, rfl, hp1⟩ := order_nat order h
  exact BuildQ.libQ_get_beyond L p hp n k (hp1 ▸ hk)

/-- on a short segment (`L ≤ order`) the REFERENCE with the library's basis is the zero tuple: the segment is its own trend -/
theorem refStats_libQ_short (order : ℤ) (h : order = 1 ∨ order = 2) (L : ℕ) (hL : 1 ≤ L) (hLp : L < (order + 1).toNat)
    (x y : ℕ → ℝ) (starts : ℕ → ℕ) (K : ℕ) (w : ℕ → ℝ) (ω : ℝ) :
    Model.refStats order (libQ L order).get x y starts K L w ω = (0, 0, 0, 0, 0) := by
  obtain ⟨p, hp, rfl, hp1⟩ := order_nat order h
  exact refStats_zero_of_segDFT_zero _ _ _ _ _ _ _ _ _ (fun _ => segDFT_libQ_short hp hL (by omega))
    fun _ => segDFT_libQ_short hp hL (by omega)

theorem refStatsAuto_libQ_short (order : ℤ) (h : order = 1 ∨ order = 2) (L : ℕ) (hL : 1 ≤ L) (hLp : L < (order + 1).toNat)
    (x : ℕ → ℝ) (starts : ℕ → ℕ) (K : ℕ) (w : ℕ → ℝ) (ω : ℝ) :
    Model.refStatsAuto order (libQ L order).get x starts K L w ω = (0, 0, 0, 0, 0) := by
  obtain ⟨p, hp, rfl, hp1⟩ := order_nat order h
  exact refStatsAuto_zero_of_segDFT_zero _ _ _ _ _ _ _ _ fun _ => segDFT_libQ_short hp hL (by omega)

theorem libQ_detrIsProj_int (order : ℤ) (h : order = 1 ∨ order = 2) (L : ℕ) :
    DetrIsProj order (libQ L order).get (libQ L order) L := by
  obtain ⟨p, hp, rfl, _⟩ := order_nat order h
  exact libQ_detrIsProj L p hp

/-- one bin, EVERY segment length: dispatched translated kernel with the translated basis = reference of the bin's mode with that basis
    (on a short segment both sides are the zero tuple) -/
theorem dispatch_libQ_eq_ref (iscsd : Bool) {order : ℤ} (hord : order = -1 ∨ order = 0 ∨ order = 1 ∨ order = 2)
    {x1 x2 : Arr ℝ} {fs : ℝ} (b : Model.PBin ℝ) (hK : 0 < b.D.n) {w : Arr ℝ} :
    Model.dispatch iscsd order x1 x2 fs b w (if order = 1 ∨ order = 2 then some (libQ b.L order) else none)
      = bif iscsd then Model.refStats order (libQ b.L order).get x1.get x2.get b.D.get b.D.n b.L w.get (2 * Real.pi * b.f / fs)
        else Model.refStatsAuto order (libQ b.L order).get x1.get b.D.get b.D.n b.L w.get (2 * Real.pi * b.f / fs) :=
  dispatch_eq_ref iscsd hord b hK fun h => libQ_detrIsProj_int order h b.L

/-- short segment: the dispatched Numba kernel with the library's basis returns the zero tuple -/
theorem dispatch_libQ_short (iscsd : Bool) (order : ℤ) (h : order = 1 ∨ order = 2) (x1 x2 : Arr ℝ) (fs : ℝ) (b : Model.PBin ℝ)
    (hK : 0 < b.D.n) (w : Arr ℝ) (hL : 1 ≤ b.L) (hLp : b.L < (order + 1).toNat) :
    Model.dispatch iscsd order x1 x2 fs b w (some (libQ b.L order)) = (0, 0, 0, 0, 0) := by
  refine ((congrArg _ (if_pos h)).symm.trans (dispatch_libQ_eq_ref iscsd (Or.inr (Or.inr h)) b hK)).trans ?_
  rw [refStats_libQ_short order h b.L hL hLp, refStatsAuto_libQ_short order h b.L hL hLp, Bool.cond_self]

-- where the linter is switched off, `hL` (in `np_numba_agree_poly_libQ` also `h`) is not needed: `libQ_detrIsProj` holds at every length; the
-- checks list these statements as they stand (`vk/props/C05.py: THEOREMS`)
set_option linter.unusedVariables false in
theorem dispatch_libQ_eq_ref_cross (order : ℤ) (hord : order = -1 ∨ order = 0 ∨ order = 1 ∨ order = 2)
    (x1 x2 : Arr ℝ) (fs : ℝ) (b : Model.PBin ℝ) (hK : 0 < b.D.n) (w : Arr ℝ) (hL : order = 1 ∨ order = 2 → 1 ≤ b.L) :
    Model.dispatch true order x1 x2 fs b w (if order = 1 ∨ order = 2 then some (libQ b.L order) else none)
      = Model.refStats order (libQ b.L order).get x1.get x2.get b.D.get b.D.n b.L w.get (2 * Real.pi * b.f / fs) :=
  dispatch_libQ_eq_ref true hord b hK

set_option linter.unusedVariables false in
theorem dispatch_libQ_eq_ref_auto (order : ℤ) (hord : order = -1 ∨ order = 0 ∨ order = 1 ∨ order = 2)
    (x1 x2 : Arr ℝ) (fs : ℝ) (b : Model.PBin ℝ) (hK : 0 < b.D.n) (w : Arr ℝ) (hL : order = 1 ∨ order = 2 → 1 ≤ b.L) :
    Model.dispatch false order x1 x2 fs b w (if order = 1 ∨ order = 2 then some (libQ b.L order) else none)
      = Model.refStatsAuto order (libQ b.L order).get x1.get b.D.get b.D.n b.L w.get (2 * Real.pi * b.f / fs) :=
  dispatch_libQ_eq_ref false hord b hK

/-! ### the NumPy fallbacks with a ONE-column basis (`_build_Q(1, order)` is `1 × 1`), and with the library's basis -/

/-- a one-column basis extended by a zero column -/
noncomputable def oneCol (Qa : Arr2 ℝ) : ℕ → ℕ → ℝ := fun n k => if k = 0 then Qa.get n 0 else 0

theorem detr_oneCol (Qa : Arr2 ℝ) (x : ℕ → ℝ) (s L n : ℕ) :
    Model.detr ((1 : ℕ) : ℤ) (oneCol Qa) x s L n = x (s + n) - ∑ k ∈ range 1, Qa.get n k * ∑ m ∈ range L, Qa.get m k * x (s + m) := by
  rw [detr_poly_eq 1 le_rfl, sum_range_succ, sum_range_one, sum_range_one]
  simp only [oneCol, ↓reduceIte, one_ne_zero, zero_mul, add_zero]

theorem np_poly_csd_onecol (x1 x2 : Arr ℝ) (starts : Arr ℕ) (hK : 0 < starts.n) (L : ℕ) (w : Arr ℝ) (ω : ℝ)
    (Qa : Arr2 ℝ) (hQ : Qa.m = 1) (c : ℕ) (hc : 1 ≤ c) (u : ℕ → ℕ → ℝ) :
    Gen._stats_poly_csd_np x1 x2 starts L w ω Qa c u
      = Model.refStats ((1 : ℕ) : ℤ) (oneCol Qa) x1.get x2.get starts.get starts.n L w.get ω :=
  gen_np_poly_csd_eq_ref_of hK (fun x s n _ => by rw [detr_oneCol, hQ]) hc

theorem np_poly_auto_onecol (x : Arr ℝ) (starts : Arr ℕ) (hK : 0 < starts.n) (L : ℕ) (w : Arr ℝ) (ω : ℝ)
    (Qa : Arr2 ℝ) (hQ : Qa.m = 1) (c : ℕ) (hc : 1 ≤ c) (u : ℕ → ℕ → ℝ) :
    Gen._stats_poly_auto_np x starts L w ω Qa c u
      = Model.refStatsAuto ((1 : ℕ) : ℤ) (oneCol Qa) x.get starts.get starts.n L w.get ω :=
  gen_np_poly_auto_eq_ref_of hK (fun x s n _ => by rw [detr_oneCol, hQ]) hc

/-- `L = 1`, NumPy fallbacks with the library's `1 × 1` basis: every statistic is 0, as for the Numba kernels -/
theorem np_poly_csd_libQ_L1 (p : ℕ) (hp : p = 1 ∨ p = 2) (x1 x2 : Arr ℝ) (starts : Arr ℕ) (hK : 0 < starts.n) (w : Arr ℝ) (ω : ℝ)
    (c : ℕ) (hc : 1 ≤ c) (u : ℕ → ℕ → ℝ) :
    Gen._stats_poly_csd_np x1 x2 starts 1 w ω (libQ 1 p) c u = (0, 0, 0, 0, 0) := by
  rw [np_eq_numba_poly_csd hc, (stats_poly_csd_libQ_L1 p hp x1 x2 starts hK w ω).1]

theorem np_poly_auto_libQ_L1 (p : ℕ) (hp : p = 1 ∨ p = 2) (x : Arr ℝ) (starts : Arr ℕ) (hK : 0 < starts.n) (w : Arr ℝ) (ω : ℝ)
    (c : ℕ) (hc : 1 ≤ c) (u : ℕ → ℕ → ℝ) :
    Gen._stats_poly_auto_np x starts 1 w ω (libQ 1 p) c u = (0, 0, 0, 0, 0) := by
  rw [np_eq_numba_poly_auto hc, (stats_poly_auto_libQ_L1 p hp x starts hK w ω).1]

set_option linter.unusedVariables false in
/-- NumPy fallback = Numba kernel when called with the library's basis for `(L, order)`, EVERY `L ≥ 1`, every segment count including 0 -/
theorem np_numba_agree_poly_libQ (order : ℤ) (h : order = 1 ∨ order = 2) (L : ℕ) (hL : 1 ≤ L) (x1 x2 : Arr ℝ) (starts : Arr ℕ) (w : Arr ℝ)
    (ω : ℝ) (c : ℕ) (hc : 1 ≤ c) (u : ℕ → ℕ → ℝ) :
    Gen._stats_poly_auto_np x1 starts L w ω (libQ L order) c u = Gen._stats_poly_auto x1 starts L w ω (libQ L order) ∧
    Gen._stats_poly_csd_np x1 x2 starts L w ω (libQ L order) c u = Gen._stats_poly_csd x1 x2 starts L w ω (libQ L order) :=
  ⟨np_eq_numba_poly_auto hc, np_eq_numba_poly_csd hc⟩

set_option linter.unusedVariables false in
theorem dispatchWith_genFamilyAll_libQ (u : ℕ → ℕ → ℝ) (backend : String) (iscsd : Bool) (order : ℤ) (x1 x2 : Arr ℝ) (fs : ℝ)
    (b : Model.PBin ℝ) (w : Arr ℝ) (hL : order = 1 ∨ order = 2 → 1 ≤ b.L) :
    Model.dispatchWith ((genFamilyAll u).pick backend) iscsd order x1 x2 fs b w (if order = 1 ∨ order = 2 then some (libQ b.L order) else none)
      = Model.dispatch iscsd order x1 x2 fs b w (if order = 1 ∨ order = 2 then some (libQ b.L order) else none) :=
  dispatchWith_genFamilyAll_eq

/-! ### the per-bin loop and the single-bin section for ANY backend decision function -/

set_option linter.unusedVariables false in
theorem lpsd_core_libQ_eq_ref_cross (u : ℕ → ℕ → ℝ) (sel : ℕ → String → String) (wf : NpLC.WinFunc ℝ) (alpha : ℝ) (order : ℤ)
    (hord : order = -1 ∨ order = 0 ∨ order = 1 ∨ order = 2) (cb : String) (x1 x2 : Arr ℝ) (fs : ℝ) (nx : ℤ)
    (pL : Arr ℕ) (pD : Arr (Arr ℕ)) (pf : Arr ℝ) (idx : List ℕ)
    (hK : ∀ i ∈ idx, 0 < (pD.get i).n) (hL : order = 1 ∨ order = 2 → ∀ i ∈ idx, 1 ≤ pL.get i) :
    ((Gen._lpsd_core (genFamilyAll u) libQ sel wf alpha order cb x1 x2 true fs nx pL pD pf idx).2).map rowStats
      = idx.map (fun i => Model.refStats order (libQ (pL.get i) order).get x1.get x2.get (pD.get i).get (pD.get i).n (pL.get i)
          (Model.lpsdWindow wf alpha (pL.get i)).get (2 * Real.pi * pf.get i / fs)) :=
  gen_lpsd_core_stats (fun i hi =>
    dispatchWith_genFamilyAll_eq.trans
      (dispatch_libQ_eq_ref true hord (Model.pbinAt pf pL pD i) (hK i hi)))

set_option linter.unusedVariables false in
theorem lpsd_core_libQ_eq_ref_auto (u : ℕ → ℕ → ℝ) (sel : ℕ → String → String) (wf : NpLC.WinFunc ℝ) (alpha : ℝ) (order : ℤ)
    (hord : order = -1 ∨ order = 0 ∨ order = 1 ∨ order = 2) (cb : String) (x1 x2 : Arr ℝ) (fs : ℝ) (nx : ℤ)
    (pL : Arr ℕ) (pD : Arr (Arr ℕ)) (pf : Arr ℝ) (idx : List ℕ)
    (hK : ∀ i ∈ idx, 0 < (pD.get i).n) (hL : order = 1 ∨ order = 2 → ∀ i ∈ idx, 1 ≤ pL.get i) :
    ((Gen._lpsd_core (genFamilyAll u) libQ sel wf alpha order cb x1 x2 false fs nx pL pD pf idx).2).map rowStats
      = idx.map (fun i => Model.refStatsAuto order (libQ (pL.get i) order).get x1.get (pD.get i).get (pD.get i).n (pL.get i)
          (Model.lpsdWindow wf alpha (pL.get i)).get (2 * Real.pi * pf.get i / fs)) :=
  gen_lpsd_core_stats (fun i hi =>
    dispatchWith_genFamilyAll_eq.trans
      (dispatch_libQ_eq_ref false hord (Model.pbinAt pf pL pD i) (hK i hi)))

/-- a bin whose segments are not longer than the detrend order: every statistic the loop stores for it is 0 -/
theorem lpsd_core_libQ_short (u : ℕ → ℕ → ℝ) (sel : ℕ → String → String) (wf : NpLC.WinFunc ℝ) (alpha : ℝ) (order : ℤ)
    (h12 : order = 1 ∨ order = 2) (cb : String) (x1 x2 : Arr ℝ) (iscsd : Bool) (fs : ℝ) (nx : ℤ)
    (pL : Arr ℕ) (pD : Arr (Arr ℕ)) (pf : Arr ℝ) (idx : List ℕ) (j : ℕ) (hj : j < idx.length)
    (hK : 0 < (pD.get idx[j]).n) (hL : 1 ≤ pL.get idx[j]) (hLp : pL.get idx[j] < (order + 1).toNat) :
    (((Gen._lpsd_core (genFamilyAll u) libQ sel wf alpha order cb x1 x2 iscsd fs nx pL pD pf idx).2).map rowStats)[j]?
      = some (0, 0, 0, 0, 0) := by
  rw [gen_lpsd_core_rows, List.map_map, List.getElem?_map, List.getElem?_eq_getElem hj]
  simp only [Option.map_some, Function.comp, rowAt, rowStats_lpsdRow]
  congr 1
  refine dispatchWith_genFamilyAll_eq.trans ?_
  rw [if_pos h12]
  exact dispatch_libQ_short iscsd order h12 x1 x2 fs (Model.pbinAt pf pL pD idx[j]) hK _ hL hLp

set_option linter.unusedVariables false in
/-- the kernel section of `compute_single_bin` on the 18 translated kernels with the translated basis: the Numba instance of the dispatch -/
theorem single_bin_libQ (u : ℕ → ℕ → ℝ) (sel : ℕ → String → String) (wf : NpLC.WinFunc ℝ) (alpha : ℝ) (order : ℤ)
    (hord : order = -1 ∨ order = 0 ∨ order = 1 ∨ order = 2) (cb : String) (x1 x2 : Arr ℝ) (iscsd : Bool) (fs : ℝ) (nx : ℤ)
    (freq fres : ℝ) (segL : ℕ) (starts : Arr ℕ) (hL : order = 1 ∨ order = 2 → 1 ≤ segL) :
    Gen.single_bin_kernel_section (genFamilyAll u) libQ sel wf alpha order cb x1 x2 iscsd fs nx freq fres segL starts
      = (decide ((Model.lpsdWindow wf alpha segL).n ≠ segL),
          (let s := Model.dispatch iscsd order x1 x2 fs ⟨freq, segL, starts⟩ (Model.lpsdWindow wf alpha segL)
              (if order = 1 ∨ order = 2 then some (libQ segL order) else none)
           (s.1, s.2.1, (⟨s.2.2.1, s.2.2.2.1⟩ : Cx ℝ), (Model.winSums (Model.lpsdWindow wf alpha segL)).1,
            (Model.winSums (Model.lpsdWindow wf alpha segL)).2, s.2.2.2.2))) :=
  gen_single_bin_section_stats hord dispatchWith_genFamilyAll_eq

/-- The translated `_lpsd_core`, run with the translated `_build_Q`, the translated `_select_backend` (any module
    flags `cuda numba`, any hint `cb`) and the 18 translated kernels (any `np.empty` contents `u`), for every pair of records, every window
    callable, every plan (index list `idx` into the arrays `pL pD pf`), every order in {−1, 0, 1, 2}, returns for every bin exactly the reference
    estimator on that bin's own `(f, L, D)`, with the window built for `L` and the library's basis for `(L, order)`.
    Hypotheses that remain: `hord` (the code raises for any other order), `hK` (every bin has a segment: plan() rejects an empty `D`, the
    reference divides by `K`); `hL` (orders 1, 2 only: `L ≥ 1`, which plan() enforces) is not used.
    Lower bound on `L` per order for the reference to be the GENUINE polynomial detrend of that order (basis with `order + 1` columns):
    none for −1, 0; `L ≥ 2` for order 1; `L ≥ 3` for order 2.  Below it the equation still holds, and both sides are the zero tuple
    (`pipeline_closed_short`, `refStats_libQ_short`). -/
theorem pipeline_closed_cross (cuda numba : Bool) (u : ℕ → ℕ → ℝ) (wf : NpLC.WinFunc ℝ) (alpha : ℝ) (order : ℤ)
    (hord : order = -1 ∨ order = 0 ∨ order = 1 ∨ order = 2) (cb : String) (x1 x2 : Arr ℝ) (fs : ℝ) (nx : ℤ)
    (pL : Arr ℕ) (pD : Arr (Arr ℕ)) (pf : Arr ℝ) (idx : List ℕ)
    (hK : ∀ i ∈ idx, 0 < (pD.get i).n) (hL : order = 1 ∨ order = 2 → ∀ i ∈ idx, 1 ≤ pL.get i) :
    ((Gen._lpsd_core (genFamilyAll u) libQ (EPLpsd.selTranslated cuda numba) wf alpha order cb x1 x2 true fs nx pL pD pf idx).2).map rowStats
      = idx.map (fun i => Model.refStats order (libQ (pL.get i) order).get x1.get x2.get (pD.get i).get (pD.get i).n (pL.get i)
          (Model.lpsdWindow wf alpha (pL.get i)).get (2 * Real.pi * pf.get i / fs)) :=
  lpsd_core_libQ_eq_ref_cross u _ wf alpha order hord cb x1 x2 fs nx pL pD pf idx hK hL

/-- the same in auto mode (`iscsd = False`; the second record is not read) -/
theorem pipeline_closed_auto (cuda numba : Bool) (u : ℕ → ℕ → ℝ) (wf : NpLC.WinFunc ℝ) (alpha : ℝ) (order : ℤ)
    (hord : order = -1 ∨ order = 0 ∨ order = 1 ∨ order = 2) (cb : String) (x1 x2 : Arr ℝ) (fs : ℝ) (nx : ℤ)
    (pL : Arr ℕ) (pD : Arr (Arr ℕ)) (pf : Arr ℝ) (idx : List ℕ)
    (hK : ∀ i ∈ idx, 0 < (pD.get i).n) (hL : order = 1 ∨ order = 2 → ∀ i ∈ idx, 1 ≤ pL.get i) :
    ((Gen._lpsd_core (genFamilyAll u) libQ (EPLpsd.selTranslated cuda numba) wf alpha order cb x1 x2 false fs nx pL pD pf idx).2).map rowStats
      = idx.map (fun i => Model.refStatsAuto order (libQ (pL.get i) order).get x1.get (pD.get i).get (pD.get i).n (pL.get i)
          (Model.lpsdWindow wf alpha (pL.get i)).get (2 * Real.pi * pf.get i / fs)) :=
  lpsd_core_libQ_eq_ref_auto u _ wf alpha order hord cb x1 x2 fs nx pL pD pf idx hK hL

/-- **short segments, stated outright.**  A bin with `1 ≤ L ≤ order` (that is: order 1 with `L = 1`; order 2 with `L = 1` or `L = 2`): every
    statistic stored for it — MXX, MYY, Re XY, Im XY, M2 — is 0, in both modes, on every backend -/
theorem pipeline_closed_short (cuda numba : Bool) (u : ℕ → ℕ → ℝ) (wf : NpLC.WinFunc ℝ) (alpha : ℝ) (order : ℤ)
    (h12 : order = 1 ∨ order = 2) (cb : String) (x1 x2 : Arr ℝ) (iscsd : Bool) (fs : ℝ) (nx : ℤ)
    (pL : Arr ℕ) (pD : Arr (Arr ℕ)) (pf : Arr ℝ) (idx : List ℕ) (j : ℕ) (hj : j < idx.length)
    (hK : 0 < (pD.get idx[j]).n) (hL : 1 ≤ pL.get idx[j]) (hLp : pL.get idx[j] < (order + 1).toNat) :
    (((Gen._lpsd_core (genFamilyAll u) libQ (EPLpsd.selTranslated cuda numba) wf alpha order cb x1 x2 iscsd fs nx pL pD pf idx).2).map
        rowStats)[j]? = some (0, 0, 0, 0, 0) :=
  lpsd_core_libQ_short u _ wf alpha order h12 cb x1 x2 iscsd fs nx pL pD pf idx j hj hK hL hLp

/-- the window sums stored with every bin and the plan index of every row (no hypothesis) -/
theorem pipeline_closed_sums (cuda numba : Bool) (u : ℕ → ℕ → ℝ) (wf : NpLC.WinFunc ℝ) (alpha : ℝ) (order : ℤ) (cb : String)
    (x1 x2 : Arr ℝ) (iscsd : Bool) (fs : ℝ) (nx : ℤ) (pL : Arr ℕ) (pD : Arr (Arr ℕ)) (pf : Arr ℝ) (idx : List ℕ) :
    ((Gen._lpsd_core (genFamilyAll u) libQ (EPLpsd.selTranslated cuda numba) wf alpha order cb x1 x2 iscsd fs nx pL pD pf idx).2).map rowSums
      = idx.map (fun i => Model.winSums (Model.lpsdWindow wf alpha (pL.get i))) ∧
    ((Gen._lpsd_core (genFamilyAll u) libQ (EPLpsd.selTranslated cuda numba) wf alpha order cb x1 x2 iscsd fs nx pL pD pf idx).2).map
      (fun r => r.1) = idx :=
  gen_lpsd_core_sums _ _ _ wf alpha order cb x1 x2 iscsd fs nx pL pD pf idx

set_option linter.unusedVariables false in
/-- **single bin, cross.**  The translated kernel section of `compute_single_bin` (its own window closure, `omega`, `detrend_mode`, basis, the
    second copy of the 18-way dispatch) with the translated `_build_Q`, `_select_backend` and kernels: XX, YY, XY, M2 are the reference estimator
    on the requested `(freq, segL, starts)`, `S12 = (Σw)²`, `S2 = Σw²`; it raises exactly when the window callable returns another length.
    `segL ≥ 1` for the polynomial orders (the request arithmetic of `compute_single_bin` guarantees it), at least one segment. -/
theorem pipeline_closed_single_bin_cross (cuda numba : Bool) (u : ℕ → ℕ → ℝ) (wf : NpLC.WinFunc ℝ) (alpha : ℝ) (order : ℤ)
    (hord : order = -1 ∨ order = 0 ∨ order = 1 ∨ order = 2) (cb : String) (x1 x2 : Arr ℝ) (fs : ℝ) (nx : ℤ)
    (freq fres : ℝ) (segL : ℕ) (starts : Arr ℕ) (hK : 0 < starts.n) (hL : order = 1 ∨ order = 2 → 1 ≤ segL) :
    Gen.single_bin_kernel_section (genFamilyAll u) libQ (EPLpsd.selTranslated cuda numba) wf alpha order cb x1 x2 true fs nx freq fres segL starts
      = (decide ((Model.lpsdWindow wf alpha segL).n ≠ segL),
          (let s := Model.refStats order (libQ segL order).get x1.get x2.get starts.get starts.n segL (Model.lpsdWindow wf alpha segL).get
              (2 * Real.pi * freq / fs)
           (s.1, s.2.1, (⟨s.2.2.1, s.2.2.2.1⟩ : Cx ℝ), (Model.winSums (Model.lpsdWindow wf alpha segL)).1,
            (Model.winSums (Model.lpsdWindow wf alpha segL)).2, s.2.2.2.2))) :=
  gen_single_bin_section_stats hord
    (dispatchWith_genFamilyAll_eq.trans
      (dispatch_libQ_eq_ref true hord ⟨freq, segL, starts⟩ hK))

set_option linter.unusedVariables false in
theorem pipeline_closed_single_bin_auto (cuda numba : Bool) (u : ℕ → ℕ → ℝ) (wf : NpLC.WinFunc ℝ) (alpha : ℝ) (order : ℤ)
    (hord : order = -1 ∨ order = 0 ∨ order = 1 ∨ order = 2) (cb : String) (x1 x2 : Arr ℝ) (fs : ℝ) (nx : ℤ)
    (freq fres : ℝ) (segL : ℕ) (starts : Arr ℕ) (hK : 0 < starts.n) (hL : order = 1 ∨ order = 2 → 1 ≤ segL) :
    Gen.single_bin_kernel_section (genFamilyAll u) libQ (EPLpsd.selTranslated cuda numba) wf alpha order cb x1 x2 false fs nx freq fres segL starts
      = (decide ((Model.lpsdWindow wf alpha segL).n ≠ segL),
          (let s := Model.refStatsAuto order (libQ segL order).get x1.get starts.get starts.n segL (Model.lpsdWindow wf alpha segL).get
              (2 * Real.pi * freq / fs)
           (s.1, s.2.1, (⟨s.2.2.1, s.2.2.2.1⟩ : Cx ℝ), (Model.winSums (Model.lpsdWindow wf alpha segL)).1,
            (Model.winSums (Model.lpsdWindow wf alpha segL)).2, s.2.2.2.2))) :=
  gen_single_bin_section_stats hord
    (dispatchWith_genFamilyAll_eq.trans
      (dispatch_libQ_eq_ref false hord ⟨freq, segL, starts⟩ hK))

/-- **single bin, short segment stated outright** (`1 ≤ segL ≤ order`): XX = YY = 0, XY = 0, M2 = 0; S12 and S2 are the window sums -/
theorem pipeline_closed_single_bin_short (cuda numba : Bool) (u : ℕ → ℕ → ℝ) (wf : NpLC.WinFunc ℝ) (alpha : ℝ) (order : ℤ)
    (h12 : order = 1 ∨ order = 2) (cb : String) (x1 x2 : Arr ℝ) (iscsd : Bool) (fs : ℝ) (nx : ℤ)
    (freq fres : ℝ) (segL : ℕ) (starts : Arr ℕ) (hK : 0 < starts.n) (hL : 1 ≤ segL) (hLp : segL < (order + 1).toNat) :
    Gen.single_bin_kernel_section (genFamilyAll u) libQ (EPLpsd.selTranslated cuda numba) wf alpha order cb x1 x2 iscsd fs nx freq fres segL starts
      = (decide ((Model.lpsdWindow wf alpha segL).n ≠ segL),
          ((0 : ℝ), (0 : ℝ), (⟨0, 0⟩ : Cx ℝ), (Model.winSums (Model.lpsdWindow wf alpha segL)).1,
            (Model.winSums (Model.lpsdWindow wf alpha segL)).2, (0 : ℝ))) :=
  gen_single_bin_section_stats (Or.inr (Or.inr h12))
    (dispatchWith_genFamilyAll_eq.trans
      ((congrArg _ (if_pos h12)).trans (dispatch_libQ_short iscsd order h12 x1 x2 fs ⟨freq, segL, starts⟩ hK _ hL hLp)))

/-! ### what the schedulers guarantee about `L` (from the grid theorems of Props/C03: `f < fs/2`, `b = f·L/fs`, `b ≳ bmin ≥ 1`) -/

/-- on the grid (`f < fs/2`, `b = f·L/fs`) a bin with a positive bin number has more than `2b` samples per segment -/
theorem two_bin_lt_L (fs f bb : ℝ) (L : ℕ) (hfs : 0 < fs) (hf : f < fs / 2) (hb : bb = f * (L : ℝ) / fs) (hpos : 0 < bb) :
    2 * bb < (L : ℝ) := by
  have hL : (0 : ℝ) < (L : ℝ) := by
    rcases Nat.eq_zero_or_pos L with h0 | h0
    · rw [h0, Nat.cast_zero, mul_zero, zero_div] at hb
      linarith
    · exact_mod_cast h0
  have : f * (L : ℝ) / fs < (L : ℝ) / 2 := by
    rw [div_lt_div_iff₀ hfs two_pos]
    nlinarith
  linarith

theorem nat_le_of_pred_lt_cast {k L : ℕ} (h : (k : ℝ) - 1 < (L : ℝ)) : k ≤ L := by
  have : ((k : ℤ) - 1 : ℤ) < (L : ℤ) := by exact_mod_cast h
  omega

/-- the LTF walk keeps `b ≥ bmin − f/(2 fs)` with `bmin ≥ 1`: more than 3/4, hence `L > 3/2` -/
theorem L_ge_two_of_slack (fs f bb m : ℝ) (L : ℕ) (hfs : 0 < fs) (hf : f < fs / 2) (hb : bb = f * (L : ℝ) / fs) (hm : 1 ≤ m)
    (hs : m - f / (2 * fs) ≤ bb) : 2 ≤ L := by
  have hq : f / (2 * fs) < 1 / 4 := by
    rw [div_lt_div_iff₀ (by linarith) (by norm_num)]
    linarith
  have := two_bin_lt_L fs f bb L hfs hf hb (by linarith)
  exact nat_le_of_pred_lt_cast (by push_cast; linarith)

/-- every bin of an admissible LTF plan has segments of at least 2 samples: order 1 is always in the genuine regime; order 2 is in it for
    `L ≥ 3`, and at `L = 2` (not excluded by the grid theorems: the scheduler rounds `L`) `pipeline_closed_short` applies -/
theorem ltfPlan_L_ge_two (c : Model.Cfg ℝ) (h : Adm c) (extra : ℕ) : ∀ b ∈ Model.ltfPlan c (c.N + extra), 2 ≤ b.L := by
  intro b hb
  obtain ⟨hg, hslack⟩ := ltfPlan_grid c h extra
  obtain ⟨_, hf, _, hbb, _⟩ := hg.1 b hb
  exact L_ge_two_of_slack c.fs b.f b.b c.bmin b.L h.hfs hf hbb h.hbmin1 (hslack b hb)

theorem lpsdPlan_L_ge_two (c : Model.Cfg ℝ) (h : Adm c) (extra : ℕ) : ∀ b ∈ Model.lpsdPlan c (c.N + extra), 2 ≤ b.L := by
  intro b hb
  obtain ⟨hg, hslack⟩ := lpsdPlan_grid c h extra
  obtain ⟨_, hf, _, hbb, _⟩ := hg.1 b hb
  exact L_ge_two_of_slack c.fs b.f b.b 1 b.L h.hfs hf hbb le_rfl (hslack b hb)

/-- every bin of an admissible plan of the `new` scheduler has `L ≥ 3`: both polynomial orders are in the genuine regime -/
theorem newPlan_L_ge_three (c : Model.Cfg ℝ) (h : Adm c) (extra : ℕ) : ∀ b ∈ Model.newPlan c (c.N + extra), 3 ≤ b.L := by
  intro b hb
  obtain ⟨hg, hbmin⟩ := newPlan_grid c h extra
  obtain ⟨_, hf, _, hbb, _⟩ := hg.1 b hb
  have hs := hbmin b hb
  have h1 := h.hbmin1
  have := two_bin_lt_L c.fs b.f b.b b.L h.hfs hf hbb (by linarith)
  exact nat_le_of_pred_lt_cast (by push_cast; linarith)

/-- the plan arrays `_lpsd_core` reads come from such a plan: the length hypotheses of `pipeline_closed_*` hold -/
theorem hL_of_plan (bins : List (Model.Bin ℝ)) (m : ℕ) (hb : ∀ b ∈ bins, m ≤ b.L) (pL : Arr ℕ) (idx : List ℕ)
    (hidx : ∀ i ∈ idx, ∃ b ∈ bins, pL.get i = b.L) : ∀ i ∈ idx, m ≤ pL.get i := by
  intro i hi
  obtain ⟨b, hbm, he⟩ := hidx i hi
  rw [he]
  exact hb b hbm

/-- `pipeline_closed_cross` / `_auto`: N = 10, a plan with two bins, `L = 3` (two starts) and `L = 2` (three starts), every supported order — for
    order 2 the second bin is a SHORT segment —, both module flags arbitrary, hint "auto", a window callable that is not Kaiser -/
example (cuda numba : Bool) (u : ℕ → ℕ → ℝ) (order : ℤ) (hord : order = -1 ∨ order = 0 ∨ order = 1 ∨ order = 2) (x1 x2 : Arr ℝ) :
    ∃ ref : List (ℝ × ℝ × ℝ × ℝ × ℝ),
    ((Gen._lpsd_core (genFamilyAll u) libQ (EPLpsd.selTranslated cuda numba)
        (⟨false, fun L => ⟨L, fun _ => 1⟩, fun L _ => ⟨L, fun _ => 1⟩⟩ : NpLC.WinFunc ℝ) 0 order "auto" x1 x2 true 2 10
        ⟨2, fun i => 3 - i⟩ ⟨2, fun i => ⟨2 + i, fun j => 2 * j⟩⟩ ⟨2, fun i => 1 / 3 + i⟩ [0, 1]).2).map rowStats = ref :=
  ⟨_, pipeline_closed_cross cuda numba u _ 0 order hord "auto" x1 x2 2 10 _ _ _ [0, 1] (by decide) (fun _ => by decide)⟩

example (cuda numba : Bool) (u : ℕ → ℕ → ℝ) (order : ℤ) (hord : order = -1 ∨ order = 0 ∨ order = 1 ∨ order = 2) (x1 x2 : Arr ℝ) :
    ∃ ref : List (ℝ × ℝ × ℝ × ℝ × ℝ),
    ((Gen._lpsd_core (genFamilyAll u) libQ (EPLpsd.selTranslated cuda numba)
        (⟨false, fun L => ⟨L, fun _ => 1⟩, fun L _ => ⟨L, fun _ => 1⟩⟩ : NpLC.WinFunc ℝ) 0 order "auto" x1 x2 false 2 10
        ⟨2, fun i => 3 - i⟩ ⟨2, fun i => ⟨2 + i, fun j => 2 * j⟩⟩ ⟨2, fun i => 1 / 3 + i⟩ [0, 1]).2).map rowStats = ref :=
  ⟨_, pipeline_closed_auto cuda numba u _ 0 order hord "auto" x1 x2 2 10 _ _ _ [0, 1] (by decide) (fun _ => by decide)⟩

/-- `pipeline_closed_short`: the same plan, order 2, its second bin (`L = 2 < 3`, three segments): the five statistics are 0 -/
example (cuda numba : Bool) (u : ℕ → ℕ → ℝ) (x1 x2 : Arr ℝ) (iscsd : Bool) :
    (((Gen._lpsd_core (genFamilyAll u) libQ (EPLpsd.selTranslated cuda numba)
        (⟨false, fun L => ⟨L, fun _ => 1⟩, fun L _ => ⟨L, fun _ => 1⟩⟩ : NpLC.WinFunc ℝ) 0 2 "auto" x1 x2 iscsd 2 10
        ⟨2, fun i => 3 - i⟩ ⟨2, fun i => ⟨2 + i, fun j => 2 * j⟩⟩ ⟨2, fun i => 1 / 3 + i⟩ [0, 1]).2).map rowStats)[1]? = some (0, 0, 0, 0, 0) :=
  pipeline_closed_short cuda numba u _ 0 2 (Or.inr rfl) "auto" x1 x2 iscsd 2 10 _ _ _ [0, 1] 1 (by decide) (by decide) (by decide) (by decide)

/-- the single-bin theorems: Kaiser window, order 1, `segL = 3`, two segments, hint "numpy"; and the short case order 2, `segL = 1` -/
example (cuda numba : Bool) (u : ℕ → ℕ → ℝ) (x1 x2 : Arr ℝ) :
    ∃ v, Gen.single_bin_kernel_section (genFamilyAll u) libQ (EPLpsd.selTranslated cuda numba)
        (⟨true, fun L => ⟨L, fun _ => 1⟩, NpLC.kaiser⟩ : NpLC.WinFunc ℝ) (3 : ℝ) 1 "numpy" x1 x2 true (2 : ℝ) 7 (1 / 3 : ℝ) (2 / 3 : ℝ) 3
        ⟨2, fun j => 2 * j⟩ = v :=
  ⟨_, pipeline_closed_single_bin_cross cuda numba u _ 3 1 (Or.inr (Or.inr (Or.inl rfl))) "numpy" x1 x2 2 7 (1 / 3) (2 / 3) 3 ⟨2, fun j => 2 * j⟩
    (by decide) (fun _ => by decide)⟩

example (cuda numba : Bool) (u : ℕ → ℕ → ℝ) (x1 x2 : Arr ℝ) (iscsd : Bool) :
    (Gen.single_bin_kernel_section (genFamilyAll u) libQ (EPLpsd.selTranslated cuda numba)
        (⟨false, fun L => ⟨L, fun _ => 1⟩, fun L _ => ⟨L, fun _ => 1⟩⟩ : NpLC.WinFunc ℝ) (0 : ℝ) 2 "numpy" x1 x2 iscsd (2 : ℝ) 7 (1 / 3 : ℝ) (2 : ℝ) 1
        ⟨2, fun j => 2 * j⟩).2.1 = 0 := by
  rw [pipeline_closed_single_bin_short cuda numba u _ 0 2 (Or.inr rfl) "numpy" x1 x2 iscsd 2 7 (1 / 3) 2 1 ⟨2, fun j => 2 * j⟩
    (by decide) le_rfl (by decide)]

/-- the scheduler bounds are about non-empty plans: the admissible configuration of Props/C02's example has a bin, and it has `L ≥ 2` -/
example : ∃ b, b ∈ Model.ltfPlan (α := ℝ) { N := 1000, fs := 2, olap := 1/2, bmin := 1, Lmin := 1, Jdes := 100, Kdes := 10 } (1000 + 8)
    ∧ 2 ≤ b.L := by
  have hA : Adm { N := 1000, fs := 2, olap := 1/2, bmin := 1, Lmin := 1, Jdes := 100, Kdes := 10 } := by
    constructor <;> norm_num
  obtain ⟨hne, _⟩ := ltfPlan_safe _ hA 8
  obtain ⟨b, hb⟩ := List.exists_mem_of_ne_nil _ hne
  exact ⟨b, hb, ltfPlan_L_ge_two _ hA 8 b hb⟩

end PipelineClosed

#print axioms PipelineClosed.libQ_cols_min
#print axioms PipelineClosed.libQ_cols
#print axioms PipelineClosed.libQ_two_cols
#print axioms PipelineClosed.old_hypothesis_false
#print axioms PipelineClosed.libQ_is_qr
#print axioms PipelineClosed.libQ_get_beyond
#print axioms PipelineClosed.refStats_libQ_short
#print axioms PipelineClosed.refStatsAuto_libQ_short
#print axioms PipelineClosed.dispatch_libQ_short
#print axioms PipelineClosed.dispatch_libQ_eq_ref_cross
#print axioms PipelineClosed.dispatch_libQ_eq_ref_auto
#print axioms PipelineClosed.np_poly_csd_onecol
#print axioms PipelineClosed.np_poly_auto_onecol
#print axioms PipelineClosed.np_poly_csd_libQ_L1
#print axioms PipelineClosed.np_poly_auto_libQ_L1
#print axioms PipelineClosed.np_numba_agree_poly_libQ
#print axioms PipelineClosed.dispatchWith_genFamilyAll_libQ
#print axioms PipelineClosed.lpsd_core_libQ_eq_ref_cross
#print axioms PipelineClosed.lpsd_core_libQ_eq_ref_auto
#print axioms PipelineClosed.lpsd_core_libQ_short
#print axioms PipelineClosed.single_bin_libQ
#print axioms PipelineClosed.pipeline_closed_cross
#print axioms PipelineClosed.pipeline_closed_auto
#print axioms PipelineClosed.pipeline_closed_short
#print axioms PipelineClosed.pipeline_closed_sums
#print axioms PipelineClosed.pipeline_closed_single_bin_cross
#print axioms PipelineClosed.pipeline_closed_single_bin_auto
#print axioms PipelineClosed.pipeline_closed_single_bin_short
#print axioms PipelineClosed.ltfPlan_L_ge_two
#print axioms PipelineClosed.lpsdPlan_L_ge_two
#print axioms PipelineClosed.newPlan_L_ge_three
#print axioms PipelineClosed.hL_of_plan
