/-
  Props/Utils — `whileFuel_emit`: the rule for a translated `while` loop that appends to output lists; `round_half_up` and
  `kaiser_alpha` as translated from speckit/utils.py ARE the model functions of the scheduler and window theorems.
-/
import SpecKitV.RealInst
import SpecKitV.Gen.Utils
import SpecKitV.Model.Sched
import SpecKitV.Model.Analyzer
import SpecKitV.Lemmas.Starts
import SpecKitV.Lemmas.Walk

/-- A translated `while` loop that appends to output lists computes a `genWalk`: `enc s acc` is the loop state with control
    part `s` after the rows `acc`; `obs` / `out` read the outputs off a state / off the rows.  When the walk stops the loop's
    condition is false at once, or after one more iteration that emits nothing: the translator's `break` (a flag the condition tests). -/
theorem whileFuel_emit {τ σ β ρ : Type} (enc : σ → List β → τ) (obs : τ → ρ) (out : List β → ρ)
    {cont : σ → Bool} {row : σ → β} {next : σ → σ} {cond : τ → Bool} {body : τ → τ}
    (hobs : ∀ s acc, obs (enc s acc) = out acc)
    (hgo : ∀ s acc, cont s = true → cond (enc s acc) = true ∧ body (enc s acc) = enc (next s) (acc ++ [row s]))
    (hend : ∀ s acc, cont s = false →
      cond (enc s acc) = false ∨ (cond (body (enc s acc)) = false ∧ obs (body (enc s acc)) = out acc))
    (n : ℕ) (s : σ) (acc : List β) :
    obs (whileFuel n cond body (enc s acc)).1 = out (acc ++ genWalk cont row next n s) := by
  induction n generalizing s acc with
  | zero => rw [genWalk, List.append_nil]; exact hobs s acc
  | succ n ih =>
    rw [whileFuel_succ, genWalk.succ]
    cases hc : cont s with
    | true =>
      obtain ⟨hcond, hb⟩ := hgo s acc hc
      rw [if_pos hcond, hb, ih, if_pos rfl, List.append_assoc]
      rfl
    | false =>
      rw [if_neg Bool.false_ne_true, List.append_nil]
      cases hcond : cond (enc s acc) with
      | false => exact hobs s acc
      | true =>
        obtain ⟨hx, ho⟩ := (hend s acc hc).resolve_left (by rw [hcond]; exact Bool.noConfusion)
        rw [if_pos rfl, whileFuel_stop n cond body _ hx, ho]

theorem gen_round_half_up_eq_model (v : ℝ) : Gen.round_half_up v = Model.roundHalfUp v := by
  unfold Gen.round_half_up Model.roundHalfUp
  simp only [RealLike.ge, RealLike.le]

theorem gen_round_half_up_eq_floor (v : ℝ) : Gen.round_half_up v = ⌊v + 1 / 2⌋ := by
  rw [gen_round_half_up_eq_model, roundHalfUp_eq]

theorem gen_kaiser_alpha_eq_model (p : ℝ) : Gen.kaiser_alpha p = Model.kaiserAlpha p := by
  unfold Gen.kaiser_alpha Model.kaiserAlpha
  rfl

#print axioms gen_round_half_up_eq_model
#print axioms gen_round_half_up_eq_floor
#print axioms gen_kaiser_alpha_eq_model
