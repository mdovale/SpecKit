/-
  Props/FftNoiseGen — the machine-translated FFT synthesiser, band-limited noise and 1/f^alpha filter design of speckit/noise.py
  (Gen/FftNoise.lean, regenerated from the source on every run by vk/regions/fft_noise.py) are the hand models of Model/Noise.lean
  (`fftnoiseSpectrum`, `bandMask`, `numSections` / `sectionCorners` / `filterCoeffs`) on every input the real code accepts (the
  `gen_*_rejects_iff` characterise its validation; on an empty corner array, `numSections ≤ 0`, the constructor raises).  Hence the
  theorems of Lemmas/FftNoise.lean and Lemmas/Bilinear.lean hold of the code as translated: the `gen_*` corollaries below.

  Each NumPy contract of Np/FftNoise.lean is the array it evaluates to (`map_eq`, `zipWith_eq`, `sliceSet_fwd`, …).  A translated
  function is normalised with these after its lets are substituted, so that a proof follows what the source computes and not how it
  is spelt (names, temporaries, statements split or merged, independent statements reordered, commuting operands swapped); an
  intermediate array that a proof wants by name is taken from its place in the result (`gen_alpha_init_eq_model`).
-/
import SpecKitV.RealInst
import SpecKitV.Np.FftNoise
import SpecKitV.Gen.FftNoise
import SpecKitV.Model.Noise
import SpecKitV.Lemmas.FftNoise
import SpecKitV.Lemmas.Bilinear
import SpecKitV.Props.NoiseGen

open Finset
-- some simp sets hold lemmas that serve other spellings of the source than the present one (`1 + Np`, `np.sin(φ) * 1j`, operands swapped)
set_option linter.unusedSimpArgs false

namespace FftNoiseGen

/-- `a[lo:lo+len]` inside an axis of length `n` -/
theorem pySlice_fwd (n lo len : ℕ) (h : lo + len ≤ n) :
    NpFN.pySlice n (some (lo : ℤ)) (some ((len : ℤ) + lo)) 1 = ⟨lo, 1, len⟩ := by
  -- a bound inside `[0, n]` is left alone (`v = n` is clipped to itself)
  have adj : ∀ v : ℕ, v ≤ n →
      (if (v : ℤ) < 0 then if (v : ℤ) + n < 0 then 0 else (v : ℤ) + n else if (v : ℤ) ≥ n then (n : ℤ) else v) = v := by
    intro v hv
    rw [if_neg (Int.natCast_nonneg v).not_gt]
    split_ifs with h
    · exact le_antisymm h (Int.ofNat_le.2 hv)
    · rfl
  rw [← Nat.cast_add]
  unfold NpFN.pySlice
  simp only [show ¬ (1 : ℤ) < 0 by decide, if_false, adj lo (Nat.le_of_add_right_le h), adj (len + lo) (Nat.add_comm lo len ▸ h),
    Int.ediv_one]
  congr 1
  omega

/-- `a[-s:-s-len:-1]`, `1 ≤ s`: `len` elements from index `n - s` downwards -/
theorem pySlice_rev (n s len : ℕ) (hs : 1 ≤ s) (h : s + len ≤ n + 1) (hn : s ≤ n) :
    NpFN.pySlice n (some (-(s : ℤ))) (some (-(s : ℤ) - len)) (-1) = ⟨(n : ℤ) - s, -1, len⟩ := by
  -- a negative bound counts from the end (`v = -n - 1` is clipped to `-1`, itself)
  have adj : ∀ v : ℤ, v < 0 → -1 ≤ v + n →
      (if v < 0 then if v + n < 0 then -1 else v + n else if v ≥ n then (n : ℤ) - 1 else v) = v + n := by
    intro v h0 hn
    rw [if_pos h0]
    split_ifs with h
    · omega
    · rfl
  unfold NpFN.pySlice
  simp only [show (-1 : ℤ) < 0 by decide, if_true, adj (-(s : ℤ)) (by omega) (by omega), adj (-(s : ℤ) - len) (by omega) (by omega),
    Int.neg_neg, Int.ediv_one]
  congr 1
  · exact neg_add_eq_sub _ _
  · omega

theorem sliceSet_n {β : Type} (a : Arr β) (s : NpFN.Slice) (v : Arr β) :
    (NpFN.sliceSet a s v).n = if v.n = s.len then a.n else 0 := by
  unfold NpFN.sliceSet
  rw [Arr.memo_eq]

theorem sliceSet_fwd {β : Type} (a : Arr β) (s0 len : ℕ) (v : Arr β) :
    NpFN.sliceSet a ⟨(s0 : ℤ), 1, len⟩ v
      = ⟨if v.n = len then a.n else 0, fun k => if s0 ≤ k ∧ k < s0 + len then v.get (k - s0) else a.get k⟩ := by
  unfold NpFN.sliceSet
  rw [Arr.memo_eq]
  congr 1
  funext k
  simp only [Int.ediv_one, Int.emod_one, true_and, ne_eq, one_ne_zero, not_false_eq_true]
  exact if_ctx_congr (by omega) (fun h => congrArg v.get (by omega)) (fun _ => rfl)

/-- a reversed store that starts `e - 1` in ℤ, as `pySlice_rev` gives it for `a[-1:…:-1]` on an axis of length `e`: no truncated
    subtraction in the condition -/
theorem sliceSet_rev {β : Type} (a : Arr β) (e len : ℕ) (v : Arr β) :
    NpFN.sliceSet a ⟨(e : ℤ) - 1, -1, len⟩ v
      = ⟨if v.n = len then a.n else 0, fun k => if e ≤ k + len ∧ k < e then v.get (e - k - 1) else a.get k⟩ := by
  unfold NpFN.sliceSet
  rw [Arr.memo_eq]
  congr 1
  funext k
  have e1 : ∀ d : ℤ, d / (-1) = -d := fun d => by rw [Int.ediv_neg, Int.ediv_one]
  have e2 : ∀ d : ℤ, d % (-1) = 0 := fun d => by rw [Int.emod_neg, Int.emod_one]
  simp only [e1, e2, true_and, ne_eq]
  exact if_ctx_congr (by omega) (fun h => congrArg v.get (by omega)) (fun _ => rfl)

theorem sliceGet_get_fwd {β : Type} (a : Arr β) (s0 len j : ℕ) :
    (NpFN.sliceGet a ⟨(s0 : ℤ), 1, len⟩).get j = a.get (s0 + j) :=
  congrArg a.get (by rw [mul_one, ← Nat.cast_add, Int.toNat_natCast])

@[simp] theorem map_eq {β γ : Type} (g : β → γ) (a : Arr β) : NpFN.map g a = ⟨a.n, fun i => g (a.get i)⟩ := Arr.memo_eq _
theorem zipWith_eq {β γ δ : Type} (g : β → γ → δ) (a : Arr β) (b : Arr γ) :
    NpFN.zipWith g a b = ⟨if a.n = b.n then a.n else 0, fun i => g (a.get i) (b.get i)⟩ := Arr.memo_eq _
@[simp] theorem rng_n {β : Type} (u : ℕ → β) (p n : ℕ) : (NpFN.rngRandom u p n).n = n := rfl
@[simp] theorem rng_get {β : Type} (u : ℕ → β) (p n i : ℕ) : (NpFN.rngRandom u p n).get i = u (p + i) := rfl
@[simp] theorem sliceGet_n {β : Type} (a : Arr β) (s : NpFN.Slice) : (NpFN.sliceGet a s).n = s.len := rfl
@[simp] theorem sliceGet_get {β : Type} (a : Arr β) (s : NpFN.Slice) (j : ℕ) :
    (NpFN.sliceGet a s).get j = a.get (Int.toNat (s.start + (j : ℤ) * s.step)) := rfl
@[simp] theorem set_n {β : Type} (a : Arr β) (i : ℕ) (v : β) : (Arr.set a i v).n = a.n := rfl
@[simp] theorem set_get {β : Type} (a : Arr β) (i : ℕ) (v : β) (k : ℕ) :
    (Arr.set a i v).get k = if k = i then v else a.get k := rfl
theorem maskSet_eq {β : Type} (a : Arr β) (m : Arr Bool) (c : β) :
    NpFN.maskSet a m c = ⟨if m.n = a.n then a.n else 0, fun k => if m.get k then c else a.get k⟩ := Arr.memo_eq _
@[simp] theorem full_n {β : Type} (n : ℕ) (v : β) : (NpFN.full n v).n = n := rfl
@[simp] theorem full_get {β : Type} (n : ℕ) (v : β) (k : ℕ) : (NpFN.full n v).get k = v := rfl
@[simp] theorem arange_n (n : ℕ) : (NpFN.arange n).n = n := rfl
@[simp] theorem arange_get (n k : ℕ) : (NpFN.arange n).get k = (k : ℤ) := rfl
theorem fftfreq_eq (n : ℕ) (d : ℝ) : NpFN.fftfreq n d = ⟨n, fun k =>
    ((if k < (n - 1) / 2 + 1 then (k : ℤ) else -((n / 2 : ℕ) : ℤ) + ((k : ℤ) - (((n - 1) / 2 + 1 : ℕ) : ℤ)) : ℤ) : ℝ) * (1 / ((n : ℝ) * d))⟩ := by
  unfold NpFN.fftfreq
  simp only [Arr.memo_eq, RL.ofInt_eq, RL.ofNat_eq, Nat.cast_one]
@[simp] theorem columns2_n {β : Type} (a b : Arr β) : (NpFN.columns2 a b).n = a.n := rfl
@[simp] theorem columns2_m {β : Type} (a b : Arr β) : (NpFN.columns2 a b).m = 2 := rfl
@[simp] theorem columns2_get {β : Type} (a b : Arr β) (i j : ℕ) : (NpFN.columns2 a b).get i j = if j = 0 then a.get i else b.get i := rfl

/-- NumPy's `fftfreq` index rule is the usual two-sided one -/
theorem fftfreq_index (n k : ℕ) (hk : k < n) :
    (if k < (n - 1) / 2 + 1 then (k : ℤ) else -((n / 2 : ℕ) : ℤ) + ((k : ℤ) - (((n - 1) / 2 + 1 : ℕ) : ℤ)))
      = if 2 * k < n then (k : ℤ) else (k : ℤ) - (n : ℤ) := by
  -- `(n - 1) / 2 + 1` is `⌈n / 2⌉`
  rw [if_congr (show k < (n - 1) / 2 + 1 ↔ 2 * k < n by omega) rfl rfl]
  congr 1
  omega

theorem cx_add_re (a b : Cx ℝ) : (a + b).re = a.re + b.re := rfl
theorem cx_add_im (a b : Cx ℝ) : (a + b).im = a.im + b.im := rfl
theorem cx_sub_re (a b : Cx ℝ) : (a - b).re = a.re - b.re := rfl
theorem cx_sub_im (a b : Cx ℝ) : (a - b).im = a.im - b.im := rfl
theorem cx_mul_re (a b : Cx ℝ) : (a * b).re = a.re * b.re - a.im * b.im := rfl
theorem cx_mul_im (a b : Cx ℝ) : (a * b).im = a.re * b.im + a.im * b.re := rfl
theorem cx_ofReal_re (a : ℝ) : (Cx.ofReal a).re = a := rfl
theorem cx_conj_re (a : Cx ℝ) : (Cx.conj a).re = a.re := rfl
theorem cx_conj_im (a : Cx ℝ) : (Cx.conj a).im = -a.im := rfl

/- complex literals are computed componentwise: `np.cos(φ) + 1j * np.sin(φ)` is `⟨cos φ, sin φ⟩` however its operands are ordered -/
theorem cx_mk_add (a b c d : ℝ) : (⟨a, b⟩ + ⟨c, d⟩ : Cx ℝ) = ⟨a + c, b + d⟩ := rfl
theorem cx_mk_mul (a b c d : ℝ) : (⟨a, b⟩ * ⟨c, d⟩ : Cx ℝ) = ⟨a * c - b * d, a * d + b * c⟩ := rfl

noncomputable def rotOf (u : ℕ → ℝ) (j : ℕ) : Cx ℝ := ⟨Real.cos (2 * Real.pi * u j), Real.sin (2 * Real.pi * u j)⟩

/-- one `if …: raise` of a translated validation -/
theorem ite_true_eq_false (c : Prop) [Decidable c] (b : Bool) :
    (if c then true else b) = false ↔ ¬ c ∧ b = false := by
  split_ifs with h
  · exact ⟨False.elim, fun h' => h'.1 h⟩
  · exact ⟨fun h' => ⟨h, h'⟩, fun h' => h'.2⟩

theorem toC_cis (a : ℝ) : Cx.toC ⟨Real.cos a, Real.sin a⟩ = Complex.exp ((a : ℂ) * Complex.I) := by
  rw [Complex.exp_mul_I]
  apply Complex.ext <;> simp [← Complex.ofReal_cos, ← Complex.ofReal_sin]

/-- the contract `NpFN.ifft` at ℝ is the inverse DFT in Mathlib terms -/
theorem npifft_toC (F : Arr (Cx ℝ)) (m : ℕ) :
    Cx.toC ((NpFN.ifft F).get m)
      = (∑ k ∈ range F.n, Cx.toC (F.get k) * Complex.exp (2 * Real.pi * Complex.I * (k : ℂ) * (m : ℂ) / (F.n : ℂ))) / (F.n : ℂ)
    ∧ (NpFN.ifft F).n = F.n := by
  unfold NpFN.ifft
  rw [Arr.memo_eq]
  refine ⟨?_, rfl⟩
  simp only [Cx.toC_divReal, RL.ofNat_eq]
  congr 1
  refine (forRange_cx_toC F.n _).trans (Finset.sum_congr rfl fun k _ => ?_)
  rw [Cx.toC_mul]
  congr 1
  simp only [RL.cos_eq, RL.sin_eq, RL.pi_eq, toC_cis]
  congr 1
  push_cast
  ring

/-- `Np = (N - 1) // 2` and `N % 2 == 0` in linear form: `Np` is the `m` with `2 m + 1 ≤ N ≤ 2 m + 2`, and `N` is even iff it is `2 m + 2` -/
theorem half_index (N : ℕ) (hN : 0 < N) :
    ∃ m : ℕ, 2 * m + 1 ≤ N ∧ N ≤ 2 * m + 2 ∧ Int.fdiv ((N : ℤ) - 1) 2 = m ∧ (Int.fmod (N : ℤ) 2 = 0 ↔ N = 2 * m + 2) := by
  obtain ⟨p, rfl⟩ := Nat.exists_eq_succ_of_ne_zero hN.ne'
  refine ⟨p / 2, ?_⟩
  rw [Int.fdiv_two, Int.fmod_two]
  omega

theorem nyquist_iff (N m k : ℕ) : (N = 2 * m + 2 ∧ k = N / 2) ↔ (N = 2 * m + 2 ∧ k = m + 1) :=
  and_congr_right fun h => by rw [h, Nat.mul_add_div two_pos, Nat.div_self two_pos]

/-- a rotated bin `1 ≤ j ≤ m` lies in `F[1 : 1 + m]` at offset `j - 1` and is neither the DC nor the Nyquist bin -/
theorem rotated_bin (m j : ℕ) (hj0 : 0 < j) (hj : j ≤ m) :
    0 < m ∧ j ≠ 0 ∧ j ≠ m + 1 ∧ (1 ≤ j ∧ j < 1 + m) ∧ 1 + (j - 1) = j := by
  omega

end FftNoiseGen
open FftNoiseGen

theorem rotOf_normSq (u : ℕ → ℝ) (j : ℕ) : Cx.normSq (rotOf u j) = 1 := by
  simp only [Cx.normSq, rotOf, ← sq]
  exact Real.cos_sq_add_sin_sq _

theorem gen_fftnoise_spectrum_eq_model (f : Arr (Cx ℝ)) (u : ℕ → ℝ) (hN : 2 ≤ f.n) :
    (Gen.fftnoise_spectrum f u).n = f.n ∧
    ∀ k, k < f.n → (Gen.fftnoise_spectrum f u).get k = Model.fftnoiseSpectrum f.get (rotOf u) f.n k := by
  obtain ⟨m, hlo, hhi, hNp, hev⟩ := half_index f.n (Nat.zero_lt_of_lt hN)
  have hhalf : Int.fdiv (f.n : ℤ) 2 = (f.n / 2 : ℕ) := Int.fdiv_two _
  have hm : 1 + m ≤ f.n := by omega
  have hs1 : NpFN.pySlice f.n (some 1) (some (m + 1)) 1 = ⟨(1 : ℕ), 1, m⟩ := pySlice_fwd f.n 1 m hm
  have hs2 : NpFN.pySlice f.n (some (-1)) (some (-1 - m)) (-1) = ⟨(f.n : ℤ) - 1, -1, m⟩ :=
    pySlice_rev f.n 1 m le_rfl (Nat.le_succ_of_le hm) (Nat.le_of_succ_le hN)
  unfold Gen.fftnoise_spectrum
  -- One pass over the body with its lets substituted: each contract becomes the array it evaluates to, `F[i]` an `if` over `i`.  The
  -- unit rotation is computed to `⟨cos φ, sin φ⟩`, and `φ` is brought to one operand order in the source's product and in `rotOf`.
  simp only [hNp, hev, eq_comm.trans hev, hhalf, nyquist_iff, hs1, Int.add_comm m 1 ▸ hs1, hs2, zipWith_eq, map_eq, rng_n, rng_get,
    sliceSet_fwd, sliceSet_rev, sliceGet_n, sliceGet_get_fwd, set_n, set_get, Np.pyIndex_nonneg _ 0 le_rfl,
    Np.pyIndex_nonneg _ _ (Int.natCast_nonneg _), Int.toNat_zero,
    Int.toNat_natCast, apply_ite Prod.snd, apply_ite Arr.n, apply_ite Arr.get, ite_apply, ← ite_and, gt_iff_lt, Int.natCast_pos,
    decide_eq_true_eq, if_true, ite_self, true_and, fftnoiseSpectrum_half _ _ _ m _ hlo hhi,
    Cx.ofReal, cx_mk_add, cx_mk_mul, rotOf, RL.lit_zero, RL.lit_one, RL.lit_two, RL.pi_eq, RL.cos_eq, RL.sin_eq, RL.ofNat_eq,
    Nat.cast_zero, mul_zero, mul_one, sub_zero, add_zero, zero_add,
    mul_comm (G := ℝ), mul_left_comm (G := ℝ), mul_assoc (G := ℝ)]
  intro k hk
  -- Left: the stores read backwards, `if Nyquist then Re … else if k = 0 then Re … else if f.n ≤ k + m then conj … else if 1 ≤ k < 1 + m
  -- then f k * rot else f k` (an earlier store's value read through the later conditions); right: the `if` of `fftnoiseSpectrum_half`.
  -- The mirror side first (its partner `f.n - k` is a rotated bin), then DC, positive side, Nyquist (`omega` is dearer in a large context)
  clear * - hlo hhi hk
  by_cases h2 : f.n ≤ k + m
  · obtain ⟨a0, b0, b1, a3, e⟩ := rotated_bin m (f.n - k) (Nat.sub_pos_of_lt hk) (Nat.sub_le_iff_le_add'.2 h2)
    obtain ⟨hk0, hny, h1⟩ : k ≠ 0 ∧ ¬ (f.n = 2 * m + 2 ∧ k = m + 1) ∧ ¬ k ≤ m := by omega
    simp only [e, a0, hny, hk0, h2, hk, a3, h1, b0, b1, and_self, and_false, if_true, if_false]
  rcases Nat.eq_zero_or_pos k with rfl | hk0
  · obtain ⟨a1, a2, a3⟩ : ¬ (f.n = 2 * m + 2 ∧ 0 = m + 1) ∧ ¬ (f.n ≤ m ∧ 0 < f.n) ∧ ¬ (1 ≤ 0 ∧ 0 < 1 + m) := by omega
    simp only [Nat.zero_add, a1, a2, a3, if_true, if_false, ite_self]
  by_cases h1 : k ≤ m
  · obtain ⟨a0, hk0', hny, a3, e⟩ := rotated_bin m k hk0 h1
    simp only [e, a0, hny, hk0', h2, a3, h1, false_and, and_false, and_self, if_true, if_false]
  · obtain ⟨hk0', hny, a3⟩ : k ≠ 0 ∧ (f.n = 2 * m + 2 ∧ k = m + 1) ∧ ¬ (1 ≤ k ∧ k < 1 + m) := by omega
    have e := ((nyquist_iff f.n m k).2 hny).2.symm
    simp only [e, eq_true hny.1, eq_true hny.2, hk0', h2, a3, false_and, and_self, if_true, if_false, ite_self]

/-- the spectrum `band_limited_noise` hands to `fftnoise` is the indicator of `Model.bandMask` -/
theorem gen_band_spectrum_eq_model (lo hi fs : ℝ) (N : ℕ) (u : ℕ → ℝ) :
    (Gen.band_limited_noise_spectrum lo hi (N : ℤ) fs u).n = N ∧
    ∀ k, k < N → (Gen.band_limited_noise_spectrum lo hi (N : ℤ) fs u).get k
      = if Model.bandMask N fs lo hi k then Cx.ofReal 1 else Cx.ofReal 0 := by
  unfold Gen.band_limited_noise_spectrum
  refine ⟨?_, fun k hk => ?_⟩
  · simp only [maskSet_eq, zipWith_eq, map_eq, fftfreq_eq, full_n, Int.toNat_natCast, if_true]
  · simp only [maskSet_eq, zipWith_eq, map_eq, fftfreq_eq, full_get, Int.toNat_natCast, fftfreq_index N k hk,
      Model.bandMask, fftfreqAbs_real, RL.ge_eq, RL.le_eq, RL.abs_eq, RL.lit_one, RL.ofNat_eq, Nat.cast_zero,
      Bool.and_eq_true, decide_eq_true_eq, and_comm]

theorem gen_band_rejects_iff (lo hi fs : ℝ) (N : ℤ) (u : ℕ → ℝ) :
    Gen.band_limited_noise_rejects lo hi N fs u = false
      ↔ (2 ≤ N ∧ 0 < fs ∧ 0 ≤ lo ∧ lo ≤ hi ∧ hi ≤ fs / 2 + 1 / 10 ^ 12) := by
  have k12 : (RealLike.ofSci 1 true 12 : ℝ) = 1 / 10 ^ 12 := by rw [RL.ofSci_eq]; norm_num
  unfold Gen.band_limited_noise_rejects
  simp only [ite_true_eq_false, RL.le_eq, RL.lt_eq, RL.gt_eq, RL.ofInt_eq, decide_eq_true_eq, RL.lit_two, k12, Int.cast_zero, not_le,
    not_lt, and_true, add_comm]
  exact and_congr_left' Int.lt_iff_add_one_le

theorem gen_fftnoise_rejects_iff (f : Arr (Cx ℝ)) (u : ℕ → ℝ) : Gen.fftnoise_rejects f u = false ↔ 2 ≤ f.n := by
  unfold Gen.fftnoise_rejects
  simp only [ite_true_eq_false, decide_eq_true_eq, ne_eq, not_true_eq_false, not_false_eq_true, true_and, and_true, not_lt]
  exact Nat.ofNat_le_cast

theorem gen_alpha_rejects_iff (fs fmin fmax alpha : ℝ) :
    Gen.alpha_noise_init_rejects fs fmin fmax alpha = false ↔ (1 / 100 ≤ alpha ∧ alpha ≤ 2 ∧ 2 * fmax ≤ fs) := by
  have k100 : (RealLike.ofSci 1 true 2 : ℝ) = 1 / 100 := by rw [RL.ofSci_eq]; norm_num
  unfold Gen.alpha_noise_init_rejects
  simp only [ite_true_eq_false, RL.le_eq, RL.lt_eq, RL.lit_two, k100, Bool.not_eq_true', Bool.and_eq_false_iff, decide_eq_true_eq,
    decide_eq_false_iff_not, not_or, not_not, not_lt, and_true, and_assoc, mul_comm]

/- `Gen.white_noise_init`, `Gen.alpha_noise_init` (region FftNoise) are the constructors' design arithmetic alone: build on them for the
   spectrum (C18).  The objects with their methods are `Gen.white_noise.__init__`, `Gen.alpha_noise.__init__` (region NoiseGens,
   Props/NoiseGensGen; C17), which take `nspec`, `fminv`, `fmaxv` as parameters.  No theorem feeds the one into the other. -/
theorem gen_white_init_eq (fs psd : ℝ) : Gen.white_noise_init fs psd = (fs, Real.sqrt (psd * fs)) := by
  unfold Gen.white_noise_init
  simp only [RL.sqrt_eq, mul_comm]

namespace FftNoiseGen
/-- what `Gen.alpha_noise_init` returns: (_fs, _alpha, _num_spectra, _fmin, _fmax, _scaling, _a_coeffs, _b_coeffs, filter_f_min_vals, filter_f_max_vals) -/
abbrev AlphaOut := ℝ × ℝ × ℤ × ℝ × ℝ × ℝ × Arr2 ℝ × Arr2 ℝ × Arr ℝ × Arr ℝ
def AlphaOut.fs (g : AlphaOut) : ℝ := g.1
def AlphaOut.alpha (g : AlphaOut) : ℝ := g.2.1
def AlphaOut.num (g : AlphaOut) : ℤ := g.2.2.1
def AlphaOut.fmin (g : AlphaOut) : ℝ := g.2.2.2.1
def AlphaOut.fmax (g : AlphaOut) : ℝ := g.2.2.2.2.1
def AlphaOut.scaling (g : AlphaOut) : ℝ := g.2.2.2.2.2.1
def AlphaOut.A (g : AlphaOut) : Arr2 ℝ := g.2.2.2.2.2.2.1
def AlphaOut.B (g : AlphaOut) : Arr2 ℝ := g.2.2.2.2.2.2.2.1
def AlphaOut.lo (g : AlphaOut) : Arr ℝ := g.2.2.2.2.2.2.2.2.1
def AlphaOut.hi (g : AlphaOut) : Arr ℝ := g.2.2.2.2.2.2.2.2.2

theorem sectionCorners_pos (fmin fmax alpha : ℝ) (num i : ℕ) :
    0 < (Model.sectionCorners fmin fmax alpha num i).1 ∧ 0 < (Model.sectionCorners fmin fmax alpha num i).2 := by
  simp only [sectionCorners_real]
  constructor <;> exact div_pos (Real.rpow_pos_of_pos (by norm_num) _) (by positivity)
end FftNoiseGen

/-- the translated design of `alpha_noise.__init__` is the hand model: section count, corner frequencies, effective corners,
    output scaling, coefficient matrices.  `hnum`: for `numSections ≤ 0` the real constructor raises (IndexError at
    `filter_f_min_vals[0]` on the empty corner array). -/
theorem gen_alpha_init_eq_model (fs fmin fmax alpha : ℝ) (hnum : 0 < Model.numSections fmin fmax) :
    let g := Gen.alpha_noise_init fs fmin fmax alpha
    let num := (Model.numSections fmin fmax).toNat
    let c := Model.sectionCorners fmin fmax alpha num
    g.1 = fs ∧ g.2.1 = alpha ∧ g.2.2.1 = Model.numSections fmin fmax
    ∧ g.2.2.2.1 = (c 0).1 ∧ g.2.2.2.2.1 = (c (num - 1)).2
    ∧ g.2.2.2.2.2.1 = 1 / (c (num - 1)).2 ^ (alpha / 2)
    ∧ (g.2.2.2.2.2.2.1.n = num ∧ g.2.2.2.2.2.2.1.m = 2 ∧ ∀ i, i < num →
        g.2.2.2.2.2.2.1.get i 0 = (Model.filterCoeffs fs (c i).1 (c i).2).1 ∧
        g.2.2.2.2.2.2.1.get i 1 = (Model.filterCoeffs fs (c i).1 (c i).2).2.1)
    ∧ (g.2.2.2.2.2.2.2.1.n = num ∧ g.2.2.2.2.2.2.2.1.m = 2 ∧ ∀ i, i < num →
        g.2.2.2.2.2.2.2.1.get i 0 = 1 ∧
        g.2.2.2.2.2.2.2.1.get i 1 = -(Model.filterCoeffs fs (c i).1 (c i).2).2.2)
    ∧ (g.2.2.2.2.2.2.2.2.1.n = num ∧ g.2.2.2.2.2.2.2.2.2.n = num ∧ ∀ i, i < num →
        (g.2.2.2.2.2.2.2.2.1.get i, g.2.2.2.2.2.2.2.2.2.get i) = c i) := by
  intro g num c
  -- named by their place in the result; the rest of the body is substituted
  obtain ⟨nspec, hn⟩ : ∃ n, n = AlphaOut.num g := ⟨_, rfl⟩
  obtain ⟨lo, hlo⟩ : ∃ a, a = AlphaOut.lo g := ⟨_, rfl⟩
  obtain ⟨hi, hhi⟩ : ∃ a, a = AlphaOut.hi g := ⟨_, rfl⟩
  dsimp only [g, Gen.alpha_noise_init, AlphaOut.num, AlphaOut.lo, AlphaOut.hi] at hn hlo hhi ⊢
  simp only [← hn] at hlo hhi ⊢
  simp only [← hlo, ← hhi]
  have k10 : (RealLike.ofSci 100 true 1 : ℝ) = 10 := by rw [RL.ofSci_eq]; norm_num
  -- `self._num_spectra = int(np.ceil(4.5 * (log_w_max - log_w_min)))`
  have hns : nspec = Model.numSections fmin fmax := by
    simp only [hn, Model.numSections, RL.trunc_intCast, RL.ofInt_eq, RL.two_eq, RL.lit_two, mul_comm RealLike.pi]
  have hcast : RealLike.ofInt nspec = (RealLike.ofNat num : ℝ) := by
    rw [hns, RL.ofInt_eq, RL.ofNat_eq, ← Int.cast_natCast, Int.toNat_of_nonneg hnum.le]
  -- `filter_f_min_vals = np.power(10.0, log_p_i) / (2.0 * np.pi)`, `filter_f_max_vals = … log_p_i + dp * self.alpha / 2.0 …`
  -- (`π` and the factor `0.5` are written to the right, whichever side the source has them on; sorting all the products of the corner
  -- expressions with `mul_comm`, `mul_left_comm`, `mul_assoc` is some forty times dearer here)
  have hcor : ∀ i, (lo.get i, hi.get i) = c i := by
    intro i
    simp only [hlo, hhi, hcast, c, Model.sectionCorners, map_eq, arange_get, RL.lit_one, RL.lit_two, k10,
      RL.ofInt_eq, RL.ofNat_eq, RL.two_eq, RL.one_eq, Int.cast_natCast, Nat.cast_ofNat,
      mul_comm RealLike.pi, mul_comm (RealLike.ofSci 5 true 1)]
  have hlen : lo.n = num ∧ hi.n = num := by
    simp only [hlo, hhi, hns, num, map_eq, arange_n, and_self]
  have hlo' : ∀ i, lo.get i = (c i).1 := fun i => congrArg Prod.fst (hcor i)
  have hhi' : ∀ i, hi.get i = (c i).2 := fun i => congrArg Prod.snd (hcor i)
  -- `self._fmax = filter_f_max_vals[-1]`
  have hmax : hi.get (Np.pyIndex hi.n (-1)) = (c (num - 1)).2 := by
    rw [hlen.2, Np.pyIndex_neg_one, hhi']
  refine ⟨trivial, trivial, hns, ?_, hmax, ?_, ?_, ?_, hlen.1, hlen.2, fun i _ => hcor i⟩
  · -- `self._fmin = filter_f_min_vals[0]`
    rw [Np.pyIndex_nonneg _ 0 le_rfl, Int.toNat_zero, hlo']
  · -- `self._scaling = 1.0 / np.power(self.fmax, self.alpha / 2.0)`
    simp only [hmax, RL.lit_one, RL.lit_two, RL.pow_eq]
  · -- `self._a_coeffs = np.vstack([a0, a1]).T`
    simp [zipWith_eq, hlen, gen_filter_coeffs_eq_model, hlo', hhi']
  · -- `self._b_coeffs = np.vstack([np.ones_like(b1), -b1]).T`
    simp [zipWith_eq, hlen, gen_filter_coeffs_eq_model, hlo', hhi']

section fft
variable (f : Arr (Cx ℝ)) (u : ℕ → ℝ) (hN : 2 ≤ f.n)
include hN

variable {f u} in
theorem gen_fftnoise_spectrum_get (k : ℕ) (hk : k < f.n) :
    (Gen.fftnoise_spectrum f u).get k = Model.fftnoiseSpectrum f.get (rotOf u) f.n k :=
  (gen_fftnoise_spectrum_eq_model f u hN).2 k hk

/-- Hermitian symmetry of the translated spectrum (C18-d): `F[N−k] = conj F[k]` -/
theorem gen_fftnoise_hermitian (k : ℕ) (hk0 : 0 < k) (hk : k < f.n) :
    Cx.toC ((Gen.fftnoise_spectrum f u).get (f.n - k)) = (starRingEnd ℂ) (Cx.toC ((Gen.fftnoise_spectrum f u).get k)) := by
  rw [gen_fftnoise_spectrum_get hN k hk, gen_fftnoise_spectrum_get hN (f.n - k) (by omega)]
  exact fftnoise_hermitian f.get (rotOf u) f.n k hN hk0 hk

theorem gen_fftnoise_dc_real : ((Gen.fftnoise_spectrum f u).get 0).im = 0 := by
  rw [gen_fftnoise_spectrum_get hN 0 (by omega)]; exact fftnoise_dc_real _ _ _

theorem gen_fftnoise_nyquist_real (hev : f.n % 2 = 0) : ((Gen.fftnoise_spectrum f u).get (f.n / 2)).im = 0 := by
  rw [gen_fftnoise_spectrum_get hN (f.n / 2) (by omega)]; exact fftnoise_nyquist_real _ _ _ hN hev

/-- prescribed magnitudes on the positive side … -/
theorem gen_fftnoise_magnitude_pos (k : ℕ) (hk0 : 0 < k) (hk : k ≤ (f.n - 1) / 2) :
    Cx.normSq ((Gen.fftnoise_spectrum f u).get k) = Cx.normSq (f.get k) := by
  rw [gen_fftnoise_spectrum_get hN k (by omega)]
  exact fftnoise_magnitude_pos f.get (rotOf u) f.n k hk0 hk (rotOf_normSq u)

/-- … and REPLACED by the positive side's on the mirror side -/
theorem gen_fftnoise_magnitude_neg (k : ℕ) (hk0 : 0 < k) (hk : k ≤ (f.n - 1) / 2) :
    Cx.normSq ((Gen.fftnoise_spectrum f u).get (f.n - k)) = Cx.normSq (f.get k) := by
  rw [gen_fftnoise_spectrum_get hN (f.n - k) (by omega)]
  exact fftnoise_magnitude_neg f.get (rotOf u) f.n k hN hk0 hk (rotOf_normSq u)

theorem gen_fftnoise_dc_magnitude : Cx.normSq ((Gen.fftnoise_spectrum f u).get 0) = (f.get 0).re ^ 2 := by
  rw [gen_fftnoise_spectrum_get hN 0 (by omega)]; exact fftnoise_dc_magnitude _ _ _

theorem gen_fftnoise_nyquist_magnitude (hev : f.n % 2 = 0) :
    Cx.normSq ((Gen.fftnoise_spectrum f u).get (f.n / 2)) = (f.get (f.n / 2)).re ^ 2 := by
  rw [gen_fftnoise_spectrum_get hN (f.n / 2) (by omega)]; exact fftnoise_nyquist_magnitude _ _ _ hN hev

theorem gen_fftnoise_zero_bins (k : ℕ) (hk : k < f.n) (hz : f.get k = ⟨0, 0⟩) (hzm : f.get (f.n - k) = ⟨0, 0⟩) :
    (Gen.fftnoise_spectrum f u).get k = ⟨0, 0⟩ := by
  rw [gen_fftnoise_spectrum_get hN k hk]; exact fftnoise_zero_bins _ _ _ k hN hk hz hzm

/-- the inverse DFT of the translated spectrum is real (C18-d, from `hermitian_idft_real`) -/
theorem gen_fftnoise_series_real (n : ℕ) :
    (∑ k ∈ range f.n, Cx.toC ((Gen.fftnoise_spectrum f u).get k) *
      Complex.exp (2 * Real.pi * Complex.I * (k : ℂ) * (n : ℂ) / (f.n : ℂ))).im = 0 := by
  rw [Finset.sum_congr rfl (fun k hk => by rw [gen_fftnoise_spectrum_get hN k (Finset.mem_range.mp hk)])]
  exact fftnoise_series_real f.get (rotOf u) f.n hN n

omit hN in
theorem gen_fftnoise_eq : Gen.fftnoise f u = NpFN.map (fun z => z.re) (NpFN.ifft (Gen.fftnoise_spectrum f u)) := rfl

/-- `.real` discards nothing: the returned sample IS the inverse DFT of the spectrum (C18-d) -/
theorem gen_fftnoise_series (m : ℕ) :
    (Gen.fftnoise f u).n = f.n ∧
    (((Gen.fftnoise f u).get m : ℝ) : ℂ)
      = (∑ k ∈ range f.n, Cx.toC ((Gen.fftnoise_spectrum f u).get k) *
          Complex.exp (2 * Real.pi * Complex.I * (k : ℂ) * (m : ℂ) / (f.n : ℂ))) / (f.n : ℂ) := by
  have hlen := (gen_fftnoise_spectrum_eq_model f u hN).1
  obtain ⟨h1, h2⟩ := npifft_toC (Gen.fftnoise_spectrum f u) m
  rw [hlen] at h1 h2
  refine ⟨by rw [gen_fftnoise_eq, map_eq, h2], ?_⟩
  rw [gen_fftnoise_eq, map_eq, ← h1]
  have him : (Cx.toC ((NpFN.ifft (Gen.fftnoise_spectrum f u)).get m)).im = 0 := by
    rw [h1, Complex.div_natCast_im, gen_fftnoise_series_real f u hN m, zero_div]
  apply Complex.ext
  · simp
  · simp only [Complex.ofReal_im]; exact him.symm

end fft

section band
variable (lo hi fs : ℝ) (N : ℕ) (u : ℕ → ℝ)

/-- the translated mask is symmetric under `k ↦ N − k` (C18-e) -/
theorem gen_band_symm (hfs : 0 < fs) (k : ℕ) (hk0 : 0 < k) (hk : k < N) :
    (Gen.band_limited_noise_spectrum lo hi (N : ℤ) fs u).get (N - k) = (Gen.band_limited_noise_spectrum lo hi (N : ℤ) fs u).get k := by
  rw [(gen_band_spectrum_eq_model lo hi fs N u).2 k hk, (gen_band_spectrum_eq_model lo hi fs N u).2 (N - k) (by omega),
    bandMask_symm N fs lo hi hfs k hk0 hk]

/-- the translated mask selects exactly the bins whose |frequency| `min(k, N−k)·fs/N` lies in `[min_freq, max_freq]` (both ends inclusive) -/
theorem gen_band_iff (hfs : 0 < fs) (k : ℕ) (hk : k < N) :
    (Gen.band_limited_noise_spectrum lo hi (N : ℤ) fs u).get k
      = if lo ≤ (min k (N - k) : ℕ) * fs / N ∧ (min k (N - k) : ℕ) * fs / N ≤ hi then Cx.ofReal 1 else Cx.ofReal 0 := by
  rw [(gen_band_spectrum_eq_model lo hi fs N u).2 k hk]
  exact if_congr (bandMask_iff N (by omega) fs lo hi hfs k hk) rfl rfl

theorem gen_band_limited_noise_eq :
    Gen.band_limited_noise lo hi (N : ℤ) fs u
      = Gen.fftnoise (Gen.band_limited_noise_spectrum lo hi (N : ℤ) fs u) (fun i => u (0 + i)) := rfl

/-- bins outside the band are exactly zero in the spectrum that is inverse-transformed (C18-e) -/
theorem gen_band_limited_zero_outside (hN : 2 ≤ N) (hfs : 0 < fs) (k : ℕ) (hk : k < N)
    (hout : Model.bandMask N fs lo hi k = false) (w : ℕ → ℝ) :
    (Gen.fftnoise_spectrum (Gen.band_limited_noise_spectrum lo hi (N : ℤ) fs u) w).get k = ⟨0, 0⟩ := by
  obtain ⟨hlen, hB⟩ := gen_band_spectrum_eq_model lo hi fs N u
  generalize Gen.band_limited_noise_spectrum lo hi (N : ℤ) fs u = B at hlen hB ⊢
  subst hlen
  have hz : ∀ j, j < B.n → Model.bandMask B.n fs lo hi j = false → B.get j = ⟨0, 0⟩ := by
    intro j hj hm
    rw [hB j hj, hm]
    simp [Cx.ofReal]
  rcases Nat.eq_zero_or_pos k with rfl | hk0
  · -- DC: `F[0] = real(F[0])` of a zero entry (its "mirror partner" N − 0 is not a bin)
    rw [gen_fftnoise_spectrum_get hN 0 hk, fftnoiseSpectrum_dc, hz 0 hk hout, Cx.ofReal_re_mk_zero]
  · exact gen_fftnoise_zero_bins B w hN k hk (hz k hk hout)
      (hz (B.n - k) (by omega) ((bandMask_symm B.n fs lo hi hfs k hk0 hk).trans hout))

/-- bins inside the band on the positive side keep unit magnitude, so do their mirror images -/
theorem gen_band_limited_unit_inside (hN : 2 ≤ N) (k : ℕ) (hk0 : 0 < k) (hk : k ≤ (N - 1) / 2)
    (hin : Model.bandMask N fs lo hi k = true) (w : ℕ → ℝ) :
    Cx.normSq ((Gen.fftnoise_spectrum (Gen.band_limited_noise_spectrum lo hi (N : ℤ) fs u) w).get k) = 1 ∧
    Cx.normSq ((Gen.fftnoise_spectrum (Gen.band_limited_noise_spectrum lo hi (N : ℤ) fs u) w).get (N - k)) = 1 := by
  obtain ⟨hlen, hB⟩ := gen_band_spectrum_eq_model lo hi fs N u
  generalize Gen.band_limited_noise_spectrum lo hi (N : ℤ) fs u = B at hlen hB ⊢
  subst hlen
  rw [gen_fftnoise_magnitude_pos B w hN k hk0 hk, gen_fftnoise_magnitude_neg B w hN k hk0 hk, hB k (by omega), hin, if_pos rfl,
    Cx.normSq_ofReal, one_pow]
  exact ⟨rfl, rfl⟩
end band

section alpha
variable (fs fmin fmax alpha : ℝ) (hnum : 0 < Model.numSections fmin fmax)
include hnum

theorem gen_alpha_corners (i : ℕ) (hi : i < (Model.numSections fmin fmax).toNat) :
    let g : AlphaOut := Gen.alpha_noise_init fs fmin fmax alpha
    (g.lo.get i, g.hi.get i) = Model.sectionCorners fmin fmax alpha (Model.numSections fmin fmax).toNat i :=
  (gen_alpha_init_eq_model fs fmin fmax alpha hnum).2.2.2.2.2.2.2.2.2.2 i hi

theorem gen_alpha_lo_hi (i : ℕ) (hi : i < (Model.numSections fmin fmax).toNat) :
    let g : AlphaOut := Gen.alpha_noise_init fs fmin fmax alpha
    g.lo.get i = (Model.sectionCorners fmin fmax alpha (Model.numSections fmin fmax).toNat i).1 ∧
    g.hi.get i = (Model.sectionCorners fmin fmax alpha (Model.numSections fmin fmax).toNat i).2 :=
  Prod.ext_iff.1 (gen_alpha_corners fs fmin fmax alpha hnum i hi)

/-- corner placement: inside a section the corners have the ratio `10^(dp·alpha/2)` -/
theorem gen_alpha_corners_ratio (hf : 0 < fmin) (i : ℕ) (hi : i < (Model.numSections fmin fmax).toNat) :
    let g : AlphaOut := Gen.alpha_noise_init fs fmin fmax alpha
    let dp := (Real.logb 10 (2 * Real.pi * fmax) - Real.logb 10 (2 * Real.pi * fmin)) / ((Model.numSections fmin fmax).toNat : ℝ)
    g.hi.get i = g.lo.get i * (10 : ℝ) ^ (dp * alpha / 2) := by
  intro g dp
  obtain ⟨h1, h2⟩ := gen_alpha_lo_hi fs fmin fmax alpha hnum i hi
  rw [h1, h2]
  exact sectionCorners_ratio fmin fmax alpha _ i hf (by omega)

/-- corner placement: consecutive sections are log-equispaced with pitch `dp` -/
theorem gen_alpha_corners_step (hf : 0 < fmin) (i : ℕ) (hi : i + 1 < (Model.numSections fmin fmax).toNat) :
    let g : AlphaOut := Gen.alpha_noise_init fs fmin fmax alpha
    let dp := (Real.logb 10 (2 * Real.pi * fmax) - Real.logb 10 (2 * Real.pi * fmin)) / ((Model.numSections fmin fmax).toNat : ℝ)
    g.lo.get (i + 1) = g.lo.get i * (10 : ℝ) ^ dp := by
  intro g dp
  rw [(gen_alpha_lo_hi fs fmin fmax alpha hnum i (by omega)).1, (gen_alpha_lo_hi fs fmin fmax alpha hnum (i + 1) hi).1]
  exact sectionCorners_step fmin fmax alpha _ i hf (by omega)

theorem gen_alpha_rows (i : ℕ) (hi : i < (Model.numSections fmin fmax).toNat) :
    let g : AlphaOut := Gen.alpha_noise_init fs fmin fmax alpha
    g.A.get i 0 = (Model.filterCoeffs fs (g.lo.get i) (g.hi.get i)).1 ∧
    g.A.get i 1 = (Model.filterCoeffs fs (g.lo.get i) (g.hi.get i)).2.1 ∧
    g.B.get i 0 = 1 ∧ g.B.get i 1 = -(Model.filterCoeffs fs (g.lo.get i) (g.hi.get i)).2.2 ∧
    0 < g.lo.get i ∧ 0 < g.hi.get i := by
  intro g
  obtain ⟨_, _, _, _, _, _, ⟨_, _, hA⟩, ⟨_, _, hB⟩, _⟩ := gen_alpha_init_eq_model fs fmin fmax alpha hnum
  obtain ⟨e1, e2⟩ := gen_alpha_lo_hi fs fmin fmax alpha hnum i hi
  obtain ⟨hp1, hp2⟩ := sectionCorners_pos fmin fmax alpha (Model.numSections fmin fmax).toNat i
  rw [e1, e2]
  exact ⟨(hA i hi).1, (hA i hi).2, (hB i hi).1, (hB i hi).2, hp1, hp2⟩

/-- per-section response of the TRANSLATED stored coefficients (rows of `_a_coeffs`, `_b_coeffs`): the bilinear-warped shelf
    between the translated corner frequencies -/
theorem gen_alpha_section_response (hfs : 0 < fs) (i : ℕ) (hi : i < (Model.numSections fmin fmax).toNat)
    (ω : ℝ) (h0 : 0 < ω) (hπ : ω < Real.pi) :
    let g : AlphaOut := Gen.alpha_noise_init fs fmin fmax alpha
    Complex.normSq (((g.A.get i 0 : ℝ) : ℂ) + ((g.A.get i 1 : ℝ) : ℂ) * Complex.exp (-(ω * Complex.I)))
        / Complex.normSq (((g.B.get i 0 : ℝ) : ℂ) + ((g.B.get i 1 : ℝ) : ℂ) * Complex.exp (-(ω * Complex.I)))
      = ((2 * fs * Real.tan (ω / 2)) ^ 2 + (2 * Real.pi * g.hi.get i) ^ 2)
          / ((2 * fs * Real.tan (ω / 2)) ^ 2 + (2 * Real.pi * g.lo.get i) ^ 2) := by
  intro g
  obtain ⟨e0, e1, e2, e3, hp1, hp2⟩ := gen_alpha_rows fs fmin fmax alpha hnum i hi
  rw [e0, e1, e2, e3, ← bilinear_section fs _ _ ω hfs hp1.le hp2.le h0 hπ]
  congr 2
  push_cast
  ring

theorem gen_alpha_section_dc_nyquist (hfs : 0 < fs) (i : ℕ) (hi : i < (Model.numSections fmin fmax).toNat) :
    let g : AlphaOut := Gen.alpha_noise_init fs fmin fmax alpha
    ((g.A.get i 0 + g.A.get i 1) / (g.B.get i 0 + g.B.get i 1)) ^ 2 = (g.hi.get i / g.lo.get i) ^ 2 ∧
    ((g.A.get i 0 - g.A.get i 1) / (g.B.get i 0 - g.B.get i 1)) ^ 2 = 1 := by
  intro g
  obtain ⟨e0, e1, e2, e3, hp1, hp2⟩ := gen_alpha_rows fs fmin fmax alpha hnum i hi
  rw [e0, e1, e2, e3, ← sub_eq_add_neg, sub_neg_eq_add]
  exact ⟨bilinear_dc fs _ _ hfs hp1 hp2.le, bilinear_nyquist fs _ _ hfs hp1.le hp2.le⟩

/-- effective corners and output scaling as coded: `_fmin = filter_f_min_vals[0]`, `_fmax = filter_f_max_vals[-1]`,
    `_scaling = 1 / fmax ^ (alpha/2)`; `_fs`, `_alpha`, `_num_spectra` as passed / as the model's section count -/
theorem gen_alpha_effective :
    let g : AlphaOut := Gen.alpha_noise_init fs fmin fmax alpha
    g.fs = fs ∧ g.alpha = alpha ∧ g.num = Model.numSections fmin fmax ∧ g.lo.n = g.num.toNat ∧ g.hi.n = g.num.toNat ∧
    g.fmin = g.lo.get 0 ∧ g.fmax = g.hi.get (g.num.toNat - 1) ∧ g.scaling = 1 / g.fmax ^ (alpha / 2) := by
  intro g
  obtain ⟨h1, h2, h3, h4, h5, h6, _, _, hn1, hn2, _⟩ := gen_alpha_init_eq_model fs fmin fmax alpha hnum
  have e3 : g.num = _ := h3
  have e5 : g.fmax = _ := h5
  have hpos : 0 < (Model.numSections fmin fmax).toNat := Int.pos_iff_toNat_pos.1 hnum
  have c0 := (gen_alpha_lo_hi fs fmin fmax alpha hnum 0 hpos).1
  have c1 := (gen_alpha_lo_hi fs fmin fmax alpha hnum _ (Nat.sub_lt hpos one_pos)).2
  rw [e3]
  exact ⟨h1, h2, rfl, hn1, hn2, h4.trans c0.symm, h5.trans c1.symm, h6.trans (by rw [e5])⟩
end alpha

/-- `white_noise`: the scale is `sqrt(psd·fs)`, hence variance `psd·fs` (C18-c) -/
theorem gen_white_variance (fs psd : ℝ) (hp : 0 ≤ psd * fs) :
    (Gen.white_noise_init fs psd).1 = fs ∧ (Gen.white_noise_init fs psd).2 ^ 2 = psd * fs := by
  rw [gen_white_init_eq]
  exact ⟨rfl, Real.sq_sqrt hp⟩

/-! ### the hypotheses are satisfiable -/
example : 0 < Model.numSections (1 : ℝ) 100 := by
  simp only [Model.numSections, RL.ofSci_eq, RL.log10_eq, RL.pi_eq, RL.ceil_eq, RL.two_eq]
  exact Int.ceil_pos.mpr (mul_pos (by norm_num) (sub_pos.2
    (Real.logb_lt_logb (by norm_num) (by positivity) (by linarith [Real.pi_pos]))))
example : 2 ≤ (⟨5, fun k => ⟨(k : ℝ), 1⟩⟩ : Arr (Cx ℝ)).n := by norm_num  -- `hN`
example : Gen.band_limited_noise_rejects (α := ℝ) 10 50 4096 1000 (fun _ => 0) = false :=
  (gen_band_rejects_iff 10 50 1000 4096 _).mpr (by norm_num)
example : Gen.alpha_noise_init_rejects (α := ℝ) 1000 (1 / 100) 100 1 = false :=
  (gen_alpha_rejects_iff 1000 (1 / 100) 100 1).mpr (by norm_num)
example : (0 : ℝ) ≤ (37 / 100) * 1235 := by norm_num  -- `hp` of `gen_white_variance`

#print axioms gen_fftnoise_spectrum_eq_model
#print axioms gen_fftnoise_rejects_iff
#print axioms gen_fftnoise_hermitian
#print axioms gen_fftnoise_dc_real
#print axioms gen_fftnoise_nyquist_real
#print axioms gen_fftnoise_magnitude_pos
#print axioms gen_fftnoise_magnitude_neg
#print axioms gen_fftnoise_dc_magnitude
#print axioms gen_fftnoise_nyquist_magnitude
#print axioms gen_fftnoise_zero_bins
#print axioms gen_fftnoise_series_real
#print axioms gen_fftnoise_eq
#print axioms gen_fftnoise_series
#print axioms FftNoiseGen.npifft_toC
#print axioms gen_band_spectrum_eq_model
#print axioms gen_band_rejects_iff
#print axioms gen_band_symm
#print axioms gen_band_iff
#print axioms gen_band_limited_noise_eq
#print axioms gen_band_limited_zero_outside
#print axioms gen_band_limited_unit_inside
#print axioms gen_alpha_init_eq_model
#print axioms gen_alpha_rejects_iff
#print axioms gen_alpha_corners
#print axioms gen_alpha_corners_ratio
#print axioms gen_alpha_corners_step
#print axioms gen_alpha_section_response
#print axioms gen_alpha_effective
#print axioms gen_alpha_section_dc_nyquist
#print axioms gen_white_init_eq
#print axioms gen_white_variance
