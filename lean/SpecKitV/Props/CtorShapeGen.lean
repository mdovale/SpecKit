/-
  The TRANSLATED constructor `Gen.ctor` / `Gen.ctor_call` (Gen/CtorShape.lean, regenerated from speckit/analysis.py
  `SpectrumAnalyzer.__init__` on every run) is EQUAL, for all inputs, to the hand-written specification `Model.ctorSpec`; the C13 layout and
  sanitising theorems are then read off the specification.  Exceptions are values (`Except CS.PyExc _`), so "raises X" and "raises nothing"
  are part of the equality and there is no hypothesis on the inputs; the number type `α` only has to obey `Model.FiniteLaws`,
  proved below for ℝ and for the strict partial reals `PReal`.
  Arrays are compared through `Model.viewOf` (shape + elements in C order): an index function means something only inside its shape.
-/
import SpecKitV.Gen.CtorShape
import SpecKitV.Model.CtorShape
import SpecKitV.PReal
import SpecKitV.Lemmas.AnalyzerGlue

open CS Model

namespace CtorShapeGen
variable {α : Type}

theorem toList_one (n : ℕ) (g : List ℕ → α) : NdArr.toList ⟨[n], g⟩ = (List.range n).map (fun i => g [i]) := by
  simp [NdArr.toList, indices, ← List.map_eq_flatMap, Function.comp_def]

theorem toList_two (n : ℕ) (g : List ℕ → α) :
    NdArr.toList ⟨[2, n], g⟩ = (List.range n).map (fun i => g [0, i]) ++ (List.range n).map (fun i => g [1, i]) := by
  simp [NdArr.toList, indices, List.range_succ, ← List.map_eq_flatMap, Function.comp_def]

@[simp] theorem shapeAt_zero (r : ℕ) (rest : List ℕ) (g : List ℕ → α) : NdArr.shapeAt ⟨r :: rest, g⟩ 0 = .ok (r : ℤ) := rfl
@[simp] theorem shapeAt_one (r c : ℕ) (rest : List ℕ) (g : List ℕ → α) : NdArr.shapeAt ⟨r :: c :: rest, g⟩ 1 = .ok (c : ℤ) := rfl
@[simp] theorem item_two_zero (rest : List ℕ) (g : List ℕ → α) : NdArr.item ⟨2 :: rest, g⟩ 0 = .ok ⟨rest, fun idx => g (0 :: idx)⟩ := rfl
@[simp] theorem item_two_one (rest : List ℕ) (g : List ℕ → α) : NdArr.item ⟨2 :: rest, g⟩ 1 = .ok ⟨rest, fun idx => g (1 :: idx)⟩ := rfl

theorem channelOf_two_rows (c : ℕ) (a : ℕ → ℕ → α) (ch i : ℕ) : channelOf 2 c a ch i = a ch i := by
  simp [channelOf]

theorem channelOf_two_cols {r : ℕ} (hr : r ≠ 2) (a : ℕ → ℕ → α) (ch i : ℕ) : channelOf r 2 a ch i = a i ch := by
  simp [channelOf, hr]

variable [RealLike α]

theorem nil_mem_indices : [] ∈ indices [] := List.mem_singleton.2 rfl

theorem cons_mem_indices {i n : ℕ} {idx rest : List ℕ} (hi : i < n) (h : idx ∈ indices rest) : i :: idx ∈ indices (n :: rest) := by
  simp only [indices, List.mem_flatMap, List.mem_range, List.mem_map]
  exact ⟨i, hi, idx, h, rfl⟩

@[simp] theorem bind_ok {β γ : Type} (v : β) (f : β → Except PyExc γ) : CS.bind (.ok v) f = f v := rfl
@[simp] theorem bind_error {β γ : Type} (e : PyExc) (f : β → Except PyExc γ) : CS.bind (.error e) f = .error e := rfl

theorem bind_assoc {β γ δ : Type} (a : Except PyExc β) (f : β → Except PyExc γ) (g : γ → Except PyExc δ) :
    CS.bind (CS.bind a f) g = CS.bind a (fun v => CS.bind (f v) g) := by
  cases a <;> rfl

theorem map_bind {β γ δ : Type} (h : γ → δ) (a : Except PyExc β) (f : β → Except PyExc γ) :
    Except.map h (CS.bind a f) = CS.bind a (fun v => Except.map h (f v)) := by
  cases a <;> rfl

/-- the equality is proved stage by stage; each `stage_*` peels one stage off both sides -/
theorem stage_bind {β γ δ : Type} (h : γ → δ) {a : Except PyExc β} {f : β → Except PyExc γ} {g : β → Except PyExc δ}
    (hfg : ∀ v, Except.map h (f v) = g v) : Except.map h (CS.bind a f) = CS.bind a g := by
  cases a with
  | error e => rfl
  | ok v => exact hfg v

theorem stage_guard {γ δ : Type} (h : γ → δ) {A : Except PyExc Bool} {chk : Except PyExc Unit} {K : Except PyExc γ} {K' : Except PyExc δ}
    (hhead : (CS.bind A fun t => if t = true then .error .ValueError else .ok ()) = chk)
    (htail : Except.map h K = K') :
    Except.map h (CS.bind A (fun t => if t = true then .error .ValueError else K)) = CS.bind chk (fun _ => K') := by
  subst hhead
  cases A with
  | error e => rfl
  | ok t =>
    cases t with
    | true => rfl
    | false => exact htail

theorem stage_if {γ δ : Type} (h : γ → δ) {c : Bool} {K : Except PyExc γ} {K' : Except PyExc δ} (htail : Except.map h K = K') :
    Except.map h (if c = true then .error .ValueError else K) = (if c = true then .error .ValueError else K') := by
  cases c with
  | true => rfl
  | false => exact htail

theorem nanToNum_eq_sanitise (L : FiniteLaws α) (v : α) :
    nanToNum v (RealLike.ofSci 0 true 1) (RealLike.ofSci 0 true 1) (RealLike.ofSci 0 true 1) = sanitise nonFinite v := by
  unfold nanToNum sanitise nonFinite
  rw [L.zero_lit]
  cases hf : isfinite v with
  | true => simp [L.finite_beq v hf]
  | false => cases hb : RealLike.beq v v <;> simp

theorem sanitise_nonFinite_eq (v : α) : sanitise nonFinite v = if isfinite v = true then v else RealLike.zero := by
  unfold sanitise nonFinite
  cases isfinite v <;> simp

theorem sanitise_of_finite (v : α) (h : isfinite v = true) : sanitise nonFinite v = v := by
  rw [sanitise_nonFinite_eq, if_pos h]

/-- both branches of the sanitising step hand on an array that agrees, inside its shape, with the sanitised input: where every sample is
    finite nothing is changed, otherwise `np.nan_to_num(…, 0.0, 0.0, 0.0)` is `sanitise` -/
theorem stage_sanitise (L : FiniteLaws α) {γ δ : Type} (h : γ → δ) (k : NdArr α → Except PyExc γ) {d : NdArr α} {K' : Except PyExc δ}
    (hk : ∀ g', (∀ idx ∈ indices d.shape, g' idx = sanitise nonFinite (d.get idx)) → Except.map h (k ⟨d.shape, g'⟩) = K') :
    Except.map h (if (!NdArr.all isfinite d) = true
        then k (NdArr.map (fun v => nanToNum v (RealLike.ofSci 0 true 1) (RealLike.ofSci 0 true 1) (RealLike.ofSci 0 true 1)) d) else k d) = K' := by
  cases hall : NdArr.all isfinite d with
  | false => exact hk _ fun idx _ => nanToNum_eq_sanitise L _
  | true => exact hk d.get fun idx hi => (sanitise_of_finite _ (List.all_eq_true.mp hall idx hi)).symm

theorem cast_eq_two (r : ℕ) : (r : ℤ) = 2 ↔ r = 2 := by omega

@[simp] theorem andE_ok (t : Bool) (b : Unit → Except PyExc Bool) : andE (.ok t) b = if t then b () else .ok false := by cases t <;> rfl
@[simp] theorem orE_ok (t : Bool) (b : Unit → Except PyExc Bool) : orE (.ok t) b = if t then .ok true else b () := by cases t <;> rfl

theorem dictSet_new {V : Type} (k : String) (v : V) : ∀ d : PyDict V, dictHas d k = false → dictSet d k v = d ++ [(k, v)]
  | [], _ => rfl
  | (k', v') :: rest, h => by
    simp only [dictHas, List.any_cons, Bool.or_eq_false_iff] at h
    simp only [dictSet, h.1, Bool.false_eq_true, if_false, List.cons_append, dictSet_new k v rest h.2]

theorem ctorShape_rows (n : ℕ) (g : List ℕ → α) : ctorShape ⟨[2, n], g⟩ = some ⟨true, n,
    (List.range n).map fun i => sanitise nonFinite (g [0, i]), some ((List.range n).map fun i => sanitise nonFinite (g [1, i])), [2, n]⟩ := by
  simp only [ctorShape, true_or, if_true, channelOf_two_rows]

theorem ctorShape_cols {n : ℕ} (hn : n ≠ 2) (g : List ℕ → α) : ctorShape ⟨[n, 2], g⟩ = some ⟨true, n,
    (List.range n).map fun i => sanitise nonFinite (g [i, 0]), some ((List.range n).map fun i => sanitise nonFinite (g [i, 1])), [2, n]⟩ := by
  simp only [ctorShape, or_true, if_true, hn, if_false, channelOf_two_cols hn]

/-- what the specification does with an accepted shape: the key `"N"`, the two config steps, the record.  A copy of the last lines of
    `Model.ctorSpec`: the `show` in `gen_ctor_eq_model` holds only while the two are identical -/
def specTail (w s : Step α) (fs : α) (verbose : Bool) (cfg : PyDict (PyVal α)) (sh : ShapeView α) : Except PyExc (CtorView α) :=
  CS.bind (w (cfg ++ [("N", PyVal.int sh.nx)])) fun c1 =>
  CS.bind (s c1) fun c2 =>
  .ok { fs := fs, verbose := verbose, config := c2, iscsd := sh.iscsd, nx := sh.nx, x1 := sh.x1, x2 := sh.x2,
        dataShape := sh.dataShape, data := sh.x1 ++ sh.x2.getD [], planCacheNone := true }

theorem ctorSpec_congr {E : Env α} {w s : Step α} {x x' : NdArr α} {a : CtorArgs α} (h : ctorShape x = ctorShape x') :
    ctorSpec E w s x a = ctorSpec E w s x' a := by
  unfold ctorSpec
  rw [h]

theorem head_fs (fs : PyVal α) :
    (CS.bind (CS.orE (CS.bind (npIsfinite fs) (fun t => Except.ok (!t))) (fun _ => pyCmp Cmp.le fs (PyVal.int 0)))
      fun t => if t = true then Except.error PyExc.ValueError else Except.ok ()) = fsCheck fs := by
  cases fs with
  | real x =>
    cases hf : isfinite x <;> cases hl : RealLike.le x (RealLike.ofInt 0) <;>
      simp [npIsfinite, pyCmp, PyVal.num?, fsCheck, CS.orE, Cmp.onReal, numToReal, nonFinite, hf, hl]
  | int z =>
    by_cases hz : z ≤ 0 <;> simp [npIsfinite, pyCmp, PyVal.num?, fsCheck, CS.orE, Cmp.onInt, hz]
  | bool b =>
    cases b <;> simp [npIsfinite, pyCmp, PyVal.num?, fsCheck, CS.orE, Cmp.onInt]
  | none | str s | fn s | obj s => rfl

theorem gen_ctor_eq_model (L : FiniteLaws α) (E : Env α) (w s : Step α) (x : NdArr α)
    (fs olap bmin Lmin Jdes Kdes num_patch_pts order psll win scheduler band force_target_nf backend verbose : PyVal α) :
    Except.map viewOf (Gen.ctor E w s x fs olap bmin Lmin Jdes Kdes num_patch_pts order psll win scheduler band force_target_nf backend verbose)
      = ctorSpec E w s x ⟨fs, olap, bmin, Lmin, Jdes, Kdes, num_patch_pts, order, psll, win, scheduler, band, force_target_nf, backend, verbose⟩ := by
  unfold Gen.ctor ctorSpec
  refine stage_guard viewOf (head_fs fs) ?_
  refine stage_if viewOf ?_
  refine stage_bind viewOf (fun fsv => ?_)
  conv_rhs => simp only [ctorConfig, bind_assoc, bind_ok]
  refine stage_bind viewOf (fun bminv => ?_)
  refine stage_bind viewOf (fun Lminv => ?_)
  refine stage_bind viewOf (fun Jdesv => ?_)
  refine stage_bind viewOf (fun Kdesv => ?_)
  refine stage_bind viewOf (fun nppv => ?_)
  refine stage_bind viewOf (fun orderv => ?_)
  obtain ⟨shape, g⟩ := x
  show _ = match ctorShape ⟨shape, g⟩ with | none => Except.error PyExc.ValueError | some sh => specTail w s fsv (pyBool verbose) _ sh
  -- The config literal is picked out by its type; the temporaries, however many the source names and in whatever order, are unfolded
  -- (`zetaDelta`).
  extract_lets
  rename PyDict (PyVal α) => cfg
  -- used as `↓dictSet_new`: the store of `"N"` has to be rewritten before `zetaDelta` puts the literal in the place of `cfg`
  have hN : dictHas cfg "N" = false := by simp [cfg, dictHas]
  -- Four continuations take the data array and have ONE type: only their order tells them apart.  From the last: `k5` (1-D, lines 234
  -- on), `k4` (an alias of `k2`, for the `else` of lines 208-213), `k2`; the first (lines 221-222, called by `k2` alone) stays anonymous.
  rename NdArr α → Except PyExc (CtorOut α) => k5
  revert k5
  rename NdArr α → Except PyExc (CtorOut α) => k4
  revert k4
  rename NdArr α → Except PyExc (CtorOut α) => k2
  intro k4 k5
  -- Both modes end with analysis.py:246-254 (`k1` of `Gen.ctor`, unnamed here): `self.nx = int(len(self.x1))`, `self.config["N"] = self.nx`,
  -- the two `_process_*_config()` calls, `self._plan_cache = None`.  It sees the arrays only through their element lists: `specTail`.  The order
  -- of its parameters follows the order of the assignments in the source, so it is unfolded where it is called, not described by a lemma.
  -- `k2` is lines 214-222, run on a 2 x N array `data_2n`: `ascontiguousarray`, the sanitising `if`, then `self.x1 = self.data[0]`,
  -- `self.x2 = self.data[1]`.  Row 0 and row 1, sanitised, are the channels.
  have hk2 : ∀ n g', Except.map viewOf (k2 ⟨[2, n], g'⟩) = specTail w s fsv (pyBool verbose) cfg
      ⟨true, n, (List.range n).map fun i => sanitise nonFinite (g' [0, i]), some ((List.range n).map fun i => sanitise nonFinite (g' [1, i])), [2, n]⟩ := by
    intro n g'
    simp only [k2]
    apply stage_sanitise L viewOf
    intro h' hh'
    have hrow : ∀ ch < 2, (List.range n).map (fun i => h' [ch, i]) = (List.range n).map fun i => sanitise nonFinite (g' [ch, i]) :=
      fun ch hch => List.map_congr_left fun i hi => hh' _ (cons_mem_indices hch (cons_mem_indices (List.mem_range.mp hi) nil_mem_indices))
    simp +zetaDelta only [↓dictSet_new _ _ cfg hN, ascontiguousarray_f64, item_two_zero, item_two_one, bind_ok, NdArr.len, specTail, map_bind]
    simp only [Except.map, viewOf, PyVal.isNone, toList_one, toList_two, Option.map_some, Option.getD_some, hrow 0 (by decide), hrow 1 (by decide)]
  clear_value k2
  -- `simp` evaluates the shape tests (lines 205-213) by `shapeAt_*`, `andE_ok`, `orE_ok`; what is left is `k2` on the chosen array
  rcases shape with _ | ⟨r, _ | ⟨c, _ | ⟨_, _⟩⟩⟩
  · rfl
  · -- 1-D, lines 225-234
    show Except.map viewOf (if (!NdArr.all isfinite _) = true then k5 _ else k5 _) = _
    apply stage_sanitise L viewOf
    intro h' hh'
    have hrow : (List.range r).map (fun i => h' [i]) = (List.range r).map fun i => sanitise nonFinite (g [i]) :=
      List.map_congr_left fun i hi => hh' _ (cons_mem_indices (List.mem_range.mp hi) nil_mem_indices)
    simp +zetaDelta only [↓dictSet_new _ _ cfg hN, bind_ok, NdArr.len, specTail, map_bind, asarray, ascontiguousarray_f64, ctorShape]
    simp only [Except.map, viewOf, PyVal.isNone, toList_one, hrow, Option.map_none, Option.getD_none, List.append_nil]
  · by_cases hr : r = 2
    · -- 2 x N, N = 2 included: lines 208-213 choose `data_2n = x`
      subst hr
      rw [ctorShape_rows]
      by_cases hc : c = 2
      · subst hc
        simp +zetaDelta [asarray, NdArr.ndim]
        exact hk2 2 g
      · simp +zetaDelta [asarray, NdArr.ndim, hc, cast_eq_two]
        exact hk2 c g
    · by_cases hc : c = 2
      · -- N x 2, N ≠ 2: `data_2n = x.T`
        subst hc
        rw [ctorShape_cols hr]
        simp +zetaDelta [asarray, NdArr.ndim, hr, cast_eq_two]
        exact hk2 r _
      · -- neither side has length 2: `raise ValueError` (line 240)
        simp +zetaDelta [asarray, NdArr.ndim, hr, hc, cast_eq_two, ctorShape]
        rfl
  · rfl

theorem finiteLaws_real : FiniteLaws ℝ where
  finite_beq v _ := by simp
  zero_lit := by simp
  zero_finite := by simp [isfinite]

theorem finiteLaws_preal : FiniteLaws PReal where
  finite_beq v h := by
    cases v with
    | none => simp [isfinite, RealLike.beq, PReal.cmp] at h
    | some r => simp
  zero_lit := by simp
  zero_finite := by simp [isfinite]

/-- the keyword-only parameters and their defaults, as READ from the signature, are the documented ones — stated outright -/
theorem gen_ctor_defaults :
    Gen.ctor_kwdefaults (α := α) =
      [("olap", PyVal.str "default"), ("bmin", PyVal.real (RealLike.ofSci 10 true 1)), ("Lmin", PyVal.int 1), ("Jdes", PyVal.int 500),
       ("Kdes", PyVal.int 100), ("num_patch_pts", PyVal.int 50), ("order", PyVal.int 0), ("psll", PyVal.int 200),
       ("win", PyVal.fn "np_kaiser"), ("scheduler", PyVal.str "vectorized_ltf"), ("band", PyVal.none),
       ("force_target_nf", PyVal.bool false), ("backend", PyVal.str "auto"), ("verbose", PyVal.bool false)] := rfl

theorem gen_ctor_defaults_eq_model : Gen.ctor_kwdefaults (α := α) = Model.ctorDefaults := rfl

theorem gen_ctor_positional : Gen.ctor_positional = ["data", "fs"] := rfl

theorem gen_ctor_default_bmin_real : dictGet? (Gen.ctor_kwdefaults (α := ℝ)) "bmin" = some (PyVal.real 1) := by
  simp [Gen.ctor_kwdefaults, dictGet?]

/-- the call protocol: unknown keyword → TypeError; otherwise the specification on the caller's keywords completed by the defaults -/
theorem gen_ctor_call_eq_model (L : FiniteLaws α) (E : Env α) (w s : Step α) (x : NdArr α) (fs : PyVal α) (kw : PyDict (PyVal α)) :
    Except.map viewOf (Gen.ctor_call E w s x fs kw) =
      if kw.any (fun p => !(dictHas (Model.ctorDefaults (α := α)) p.1)) = true then Except.error PyExc.TypeError
      else ctorSpec E w s x (ctorArgsOf fs kw) := by
  unfold Gen.ctor_call
  rw [gen_ctor_defaults_eq_model]
  split
  · rfl
  · exact gen_ctor_eq_model L ..

theorem bind_eq_ok {β γ : Type} (a : Except PyExc β) (f : β → Except PyExc γ) (v : γ) :
    CS.bind a f = Except.ok v ↔ ∃ u, a = Except.ok u ∧ f u = Except.ok v := by
  cases a with
  | error e => exact ⟨nofun, nofun⟩
  | ok u => exact ⟨fun h => ⟨u, rfl, h⟩, fun ⟨_, hu, h⟩ => Except.ok.inj hu ▸ h⟩

theorem map_error_inv {β γ : Type} (h : β → γ) {a : Except PyExc β} {e : PyExc} (hv : Except.map h a = Except.error e) : a = Except.error e := by
  cases a with
  | error e' => simpa [Except.map] using hv
  | ok o => simp [Except.map] at hv

theorem map_ok_inv {β γ : Type} (h : β → γ) {a : Except PyExc β} {v : γ} (hv : Except.map h a = Except.ok v) : ∃ o, a = Except.ok o ∧ h o = v := by
  cases a with
  | error e => simp [Except.map] at hv
  | ok o => exact ⟨o, rfl, by simpa [Except.map] using hv⟩

/-- everything a successful run of the specification tells: validation passed, each coercion succeeded, the shape was accepted,
    the two config steps succeeded on the table below -/
theorem spec_ok (E : Env α) (w s : Step α) (x : NdArr α) (a : CtorArgs α) (v : CtorView α) (h : ctorSpec E w s x a = Except.ok v) :
    fsCheck a.fs = Except.ok () ∧ orderOk a.order = true ∧ pyFloat E a.fs = Except.ok v.fs ∧ v.verbose = pyBool a.verbose ∧
    ∃ (bmin : α) (Lmin Jdes Kdes order : ℤ) (npp : PyVal α) (sh : ShapeView α) (c1 : PyDict (PyVal α)),
      pyFloat E a.bmin = Except.ok bmin ∧ pyInt E a.Lmin = Except.ok Lmin ∧ pyInt E a.Jdes = Except.ok Jdes ∧
      pyInt E a.Kdes = Except.ok Kdes ∧
      (if a.num_patch_pts.isNone = true then npp = PyVal.none else ∃ z, pyInt E a.num_patch_pts = Except.ok z ∧ npp = PyVal.int z) ∧
      pyInt E a.order = Except.ok order ∧
      ctorShape x = some sh ∧
      w [("olap", a.olap), ("bmin", PyVal.real bmin), ("Lmin", PyVal.int Lmin), ("Jdes", PyVal.int Jdes), ("Kdes", PyVal.int Kdes),
         ("num_patch_pts", npp), ("order", PyVal.int order), ("psll", a.psll), ("win", a.win), ("scheduler", a.scheduler),
         ("band", a.band), ("force_target_nf", PyVal.bool (pyBool a.force_target_nf)), ("backend", PyVal.str (pyStr E a.backend)),
         ("N", PyVal.int v.nx)] = Except.ok c1 ∧
      s c1 = Except.ok v.config ∧
      v.iscsd = sh.iscsd ∧ v.nx = sh.nx ∧ v.x1 = sh.x1 ∧ v.x2 = sh.x2 ∧ v.dataShape = sh.dataShape ∧ v.data = sh.x1 ++ sh.x2.getD [] ∧
      v.planCacheNone = true := by
  unfold ctorSpec at h
  obtain ⟨⟨⟩, hfs, h⟩ := (bind_eq_ok ..).mp h
  cases hord : orderOk a.order with
  | false => simp [hord] at h
  | true =>
    simp only [hord, Bool.not_true, Bool.false_eq_true, if_false] at h
    obtain ⟨fsv, hfsv, h⟩ := (bind_eq_ok ..).mp h
    obtain ⟨cfg, hcfg, h⟩ := (bind_eq_ok ..).mp h
    unfold ctorConfig at hcfg
    simp only [bind_eq_ok] at hcfg
    obtain ⟨bmin, hb, Lmin, hL, Jdes, hJ, Kdes, hK, npp, hn, order, ho, hcfg⟩ := hcfg
    cases hcfg
    cases hsh : ctorShape x with
    | none => simp [hsh] at h
    | some sh =>
      simp only [hsh, bind_eq_ok] at h
      obtain ⟨c1, hw, c2, hs, hv⟩ := h
      cases hv
      refine ⟨hfs, rfl, hfsv, rfl, bmin, Lmin, Jdes, Kdes, order, npp, sh, c1, hb, hL, hJ, hK, ?_, ho, rfl, hw, hs, rfl, rfl, rfl, rfl, rfl, rfl, rfl⟩
      by_cases hnone : a.num_patch_pts.isNone = true
      · rw [if_pos hnone] at hn ⊢
        exact (Except.ok.inj hn).symm
      · rw [if_neg hnone] at hn ⊢
        obtain ⟨z, hz, hzz⟩ := (bind_eq_ok ..).mp hn
        exact ⟨z, hz, (Except.ok.inj hzz).symm⟩

theorem gen_ctor_ok (L : FiniteLaws α) {E : Env α} {w s : Step α} {x : NdArr α}
    {fs olap bmin Lmin Jdes Kdes num_patch_pts order psll win scheduler band force_target_nf backend verbose : PyVal α} {out : CtorOut α}
    (h : Gen.ctor E w s x fs olap bmin Lmin Jdes Kdes num_patch_pts order psll win scheduler band force_target_nf backend verbose = Except.ok out) :
    ctorSpec E w s x ⟨fs, olap, bmin, Lmin, Jdes, Kdes, num_patch_pts, order, psll, win, scheduler, band, force_target_nf, backend, verbose⟩
      = Except.ok (viewOf out) := by
  rw [← gen_ctor_eq_model L, h]
  rfl

/-- whenever the TRANSLATED constructor succeeds, every coercion succeeded and `self.config` is what the two
    `_process_*_config` steps make of exactly this table: `olap, psll, win, scheduler, band` verbatim; `bmin` through `float`;
    `Lmin, Jdes, Kdes, order` through `int`; `num_patch_pts` `None` or through `int`; `force_target_nf` through `bool`; `backend`
    through `str`; then `"N" = nx`.  Also `self.fs = float(fs)` and `self.verbose = bool(verbose)`. -/
theorem gen_ctor_config_table (L : FiniteLaws α) (E : Env α) (w s : Step α) (x : NdArr α)
    (fs olap bmin Lmin Jdes Kdes num_patch_pts order psll win scheduler band force_target_nf backend verbose : PyVal α) (out : CtorOut α)
    (h : Gen.ctor E w s x fs olap bmin Lmin Jdes Kdes num_patch_pts order psll win scheduler band force_target_nf backend verbose = Except.ok out) :
    pyFloat E fs = Except.ok out.fs ∧ out.verbose = pyBool verbose ∧ out.plan_cache.isNone = true ∧
    ∃ (bminv : α) (Lminv Jdesv Kdesv orderv : ℤ) (nppv : PyVal α) (c1 : PyDict (PyVal α)),
      pyFloat E bmin = Except.ok bminv ∧ pyInt E Lmin = Except.ok Lminv ∧ pyInt E Jdes = Except.ok Jdesv ∧ pyInt E Kdes = Except.ok Kdesv ∧
      (if num_patch_pts.isNone = true then nppv = PyVal.none else ∃ z, pyInt E num_patch_pts = Except.ok z ∧ nppv = PyVal.int z) ∧
      pyInt E order = Except.ok orderv ∧
      w [("olap", olap), ("bmin", PyVal.real bminv), ("Lmin", PyVal.int Lminv), ("Jdes", PyVal.int Jdesv), ("Kdes", PyVal.int Kdesv),
         ("num_patch_pts", nppv), ("order", PyVal.int orderv), ("psll", psll), ("win", win), ("scheduler", scheduler),
         ("band", band), ("force_target_nf", PyVal.bool (pyBool force_target_nf)), ("backend", PyVal.str (pyStr E backend)),
         ("N", PyVal.int out.nx)] = Except.ok c1 ∧
      s c1 = Except.ok out.config := by
  obtain ⟨-, -, hfs, hverb, bminv, Lminv, Jdesv, Kdesv, orderv, nppv, sh, c1, hb, hL, hJ, hK, hn, ho, -, hw, hs, -, -, -, -, -, -, hpc⟩ :=
    spec_ok E w s x _ _ (gen_ctor_ok L h)
  exact ⟨hfs, hverb, hpc, bminv, Lminv, Jdesv, Kdesv, orderv, nppv, c1, hb, hL, hJ, hK, hn, ho, hw, hs⟩

theorem gen_ctor_shape (L : FiniteLaws α) (E : Env α) (w s : Step α) (x : NdArr α)
    (fs olap bmin Lmin Jdes Kdes num_patch_pts order psll win scheduler band force_target_nf backend verbose : PyVal α) (out : CtorOut α)
    (h : Gen.ctor E w s x fs olap bmin Lmin Jdes Kdes num_patch_pts order psll win scheduler band force_target_nf backend verbose = Except.ok out) :
    ∃ sh, ctorShape x = some sh ∧ out.iscsd = sh.iscsd ∧ out.nx = sh.nx ∧ out.x1.toList = sh.x1 ∧ out.x2.map NdArr.toList = sh.x2 ∧
      out.data.shape = sh.dataShape ∧ out.data.toList = sh.x1 ++ sh.x2.getD [] := by
  obtain ⟨-, -, -, -, _, _, _, _, _, _, sh, _, -, -, -, -, -, -, hsh, -, -, h1, h2, h3, h4, h5, h6, -⟩ :=
    spec_ok E w s x _ _ (gen_ctor_ok L h)
  exact ⟨sh, hsh, h1, h2, h3, h4, h5, h6⟩

/-- a 1-D array of any length N ≥ 0 (N = 0 included): auto mode, `x1` = the sanitised record, `nx = N`, no `x2` -/
theorem gen_ctor_1d (L : FiniteLaws α) (E : Env α) (w s : Step α) (n : ℕ) (g : List ℕ → α)
    (fs olap bmin Lmin Jdes Kdes num_patch_pts order psll win scheduler band force_target_nf backend verbose : PyVal α) (out : CtorOut α)
    (h : Gen.ctor E w s ⟨[n], g⟩ fs olap bmin Lmin Jdes Kdes num_patch_pts order psll win scheduler band force_target_nf backend verbose = Except.ok out) :
    out.iscsd = false ∧ out.nx = n ∧ out.x1.toList = (List.range n).map (fun i => sanitise nonFinite (g [i])) ∧ out.x2.map NdArr.toList = none ∧
      out.data.toList = out.x1.toList := by
  obtain ⟨sh, hsh, h1, h2, h3, h4, -, h6⟩ := gen_ctor_shape L (h := h) ..
  cases hsh
  exact ⟨h1, h2, h3, h4, h6.trans ((List.append_nil _).trans h3.symm)⟩

/-- a 2 x N array, ANY N ≥ 0 (so also 2 x 2: rows are the channels; 2 x 1; 2 x 0): cross mode, `x1` = sanitised row 0, `x2` = sanitised row 1 -/
theorem gen_ctor_rows (L : FiniteLaws α) (E : Env α) (w s : Step α) (n : ℕ) (g : List ℕ → α)
    (fs olap bmin Lmin Jdes Kdes num_patch_pts order psll win scheduler band force_target_nf backend verbose : PyVal α) (out : CtorOut α)
    (h : Gen.ctor E w s ⟨[2, n], g⟩ fs olap bmin Lmin Jdes Kdes num_patch_pts order psll win scheduler band force_target_nf backend verbose = Except.ok out) :
    out.iscsd = true ∧ out.nx = n ∧ out.x1.toList = (List.range n).map (fun i => sanitise nonFinite (g [0, i])) ∧
      out.x2.map NdArr.toList = some ((List.range n).map (fun i => sanitise nonFinite (g [1, i]))) ∧ out.data.shape = [2, n] := by
  obtain ⟨sh, hsh, h1, h2, h3, h4, h5, -⟩ := gen_ctor_shape L (h := h) ..
  rw [ctorShape_rows] at hsh
  cases hsh
  exact ⟨h1, h2, h3, h4, h5⟩

/-- the 2 x 2 convention stated outright: rows are the channels -/
theorem gen_ctor_2x2_rows (L : FiniteLaws α) (E : Env α) (w s : Step α) (g : List ℕ → α)
    (fs olap bmin Lmin Jdes Kdes num_patch_pts order psll win scheduler band force_target_nf backend verbose : PyVal α) (out : CtorOut α)
    (h : Gen.ctor E w s ⟨[2, 2], g⟩ fs olap bmin Lmin Jdes Kdes num_patch_pts order psll win scheduler band force_target_nf backend verbose = Except.ok out) :
    out.x1.toList = [sanitise nonFinite (g [0, 0]), sanitise nonFinite (g [0, 1])] ∧
    out.x2.map NdArr.toList = some [sanitise nonFinite (g [1, 0]), sanitise nonFinite (g [1, 1])] := by
  obtain ⟨-, -, h3, h4, -⟩ := gen_ctor_rows L (h := h) ..
  simp [h3, h4, List.range_succ]

/-- an N x 2 array with N ≠ 2 (N = 0, 1 included): cross mode, `x1` = sanitised column 0, `x2` = sanitised column 1 -/
theorem gen_ctor_cols (L : FiniteLaws α) (E : Env α) (w s : Step α) (n : ℕ) (hn : n ≠ 2) (g : List ℕ → α)
    (fs olap bmin Lmin Jdes Kdes num_patch_pts order psll win scheduler band force_target_nf backend verbose : PyVal α) (out : CtorOut α)
    (h : Gen.ctor E w s ⟨[n, 2], g⟩ fs olap bmin Lmin Jdes Kdes num_patch_pts order psll win scheduler band force_target_nf backend verbose = Except.ok out) :
    out.iscsd = true ∧ out.nx = n ∧ out.x1.toList = (List.range n).map (fun i => sanitise nonFinite (g [i, 0])) ∧
      out.x2.map NdArr.toList = some ((List.range n).map (fun i => sanitise nonFinite (g [i, 1]))) ∧ out.data.shape = [2, n] := by
  obtain ⟨sh, hsh, h1, h2, h3, h4, h5, -⟩ := gen_ctor_shape L (h := h) ..
  rw [ctorShape_cols hn] at hsh
  cases hsh
  exact ⟨h1, h2, h3, h4, h5⟩

/-- the shape decision does not distinguish an array from its transpose, unless it is 2 x 2 (transfer of `Model.channelOf_transpose`) -/
theorem spec_shape_transpose (r c : ℕ) (g : List ℕ → α) (h22 : ¬ (r = 2 ∧ c = 2)) :
    ctorShape (NdArr.T ⟨[r, c], g⟩) = ctorShape ⟨[r, c], g⟩ := by
  by_cases hs : r = 2 ∨ c = 2
  · have hch := channelOf_transpose r c h22 hs fun i j => g [i, j]
    have hr : r = 2 ↔ ¬ c = 2 := ⟨fun h hc => h22 ⟨h, hc⟩, hs.resolve_right⟩
    simp only [NdArr.T, ctorShape, List.reverse_cons, List.reverse_nil, List.nil_append, List.cons_append, hs, hs.symm, if_true, hch]
    simp only [hr, ite_not]
  · simp only [NdArr.T, ctorShape, List.reverse_cons, List.reverse_nil, List.nil_append, List.cons_append, hs, mt Or.symm hs, if_false]

/-- for every 2-D array that is not 2 x 2 the translated constructor leaves the same
    `(iscsd, nx, x1, x2, data, config, …)` for the array and for its transpose — 2 x N with rows (c1, c2) and N x 2 with columns (c1, c2)
    are one record.  (All other arguments equal; exceptions included: both raise the same class or neither raises.) -/
theorem gen_ctor_layout_independent (L : FiniteLaws α) (E : Env α) (w s : Step α) (r c : ℕ) (g : List ℕ → α) (h22 : ¬ (r = 2 ∧ c = 2))
    (fs olap bmin Lmin Jdes Kdes num_patch_pts order psll win scheduler band force_target_nf backend verbose : PyVal α) :
    Except.map viewOf (Gen.ctor E w s (NdArr.T ⟨[r, c], g⟩) fs olap bmin Lmin Jdes Kdes num_patch_pts order psll win scheduler band force_target_nf backend verbose)
      = Except.map viewOf (Gen.ctor E w s ⟨[r, c], g⟩ fs olap bmin Lmin Jdes Kdes num_patch_pts order psll win scheduler band force_target_nf backend verbose) := by
  rw [gen_ctor_eq_model L, gen_ctor_eq_model L]
  exact ctorSpec_congr (spec_shape_transpose r c g h22)

/-- the same in the words of the property: N ≠ 2, channels `c1`, `c2` — the 2 x N array whose rows are (c1, c2) and the N x 2 array whose
    columns are (c1, c2) give the same stored channels (each the sanitised c1 / c2), the same `nx = N`, both in cross mode -/
theorem gen_ctor_rows_cols_same (L : FiniteLaws α) (E : Env α) (w s : Step α) (n : ℕ) (hn : n ≠ 2) (c1 c2 : ℕ → α) (gr gc : List ℕ → α)
    (hr0 : ∀ i, gr [0, i] = c1 i) (hr1 : ∀ i, gr [1, i] = c2 i) (hc0 : ∀ i, gc [i, 0] = c1 i) (hc1 : ∀ i, gc [i, 1] = c2 i)
    (fs olap bmin Lmin Jdes Kdes num_patch_pts order psll win scheduler band force_target_nf backend verbose : PyVal α) (o1 o2 : CtorOut α)
    (h1 : Gen.ctor E w s ⟨[2, n], gr⟩ fs olap bmin Lmin Jdes Kdes num_patch_pts order psll win scheduler band force_target_nf backend verbose = Except.ok o1)
    (h2 : Gen.ctor E w s ⟨[n, 2], gc⟩ fs olap bmin Lmin Jdes Kdes num_patch_pts order psll win scheduler band force_target_nf backend verbose = Except.ok o2) :
    o1.iscsd = true ∧ o2.iscsd = true ∧ o1.nx = n ∧ o2.nx = n ∧
    o1.x1.toList = (List.range n).map (fun i => sanitise nonFinite (c1 i)) ∧ o2.x1.toList = o1.x1.toList ∧
    o1.x2.map NdArr.toList = some ((List.range n).map (fun i => sanitise nonFinite (c2 i))) ∧ o2.x2.map NdArr.toList = o1.x2.map NdArr.toList := by
  obtain ⟨a1, a2, a3, a4, -⟩ := gen_ctor_rows L (h := h1) ..
  obtain ⟨b1, b2, b3, b4, -⟩ := gen_ctor_cols L (hn := hn) (h := h2) ..
  simp only [hr0, hr1] at a3 a4
  simp only [hc0, hc1] at b3 b4
  exact ⟨a1, b1, a2, b2, a3, by rw [a3, b3], a4, by rw [a4, b4]⟩

theorem ctorShape_ind {motive : NdArr α → Prop} (x : NdArr α)
    (one : ∀ n g, motive ⟨[n], g⟩) (rows : ∀ n g, motive ⟨[2, n], g⟩) (cols : ∀ n g, n ≠ 2 → motive ⟨[n, 2], g⟩)
    (rejected : ctorShape x = none → ¬ ((∃ n, x.shape = [n]) ∨ ∃ r c, x.shape = [r, c] ∧ (r = 2 ∨ c = 2)) → motive x) : motive x := by
  obtain ⟨shape, g⟩ := x
  match shape with
  | [] => exact rejected rfl (by simp)
  | [n] => exact one n g
  | [r, c] =>
    by_cases hr : r = 2
    · exact hr ▸ rows c g
    by_cases hc : c = 2
    · exact hc ▸ cols r g hr
    · exact rejected (by simp [ctorShape, hr, hc]) (by simp [hr, hc])
  | _ :: _ :: _ :: _ => exact rejected rfl (by simp)

/-- the shapes the constructor accepts: exactly 1-D (any length) and 2-D with a side of length 2 -/
theorem spec_shape_none_iff (x : NdArr α) :
    ctorShape x = none ↔ ¬ ((∃ n, x.shape = [n]) ∨ (∃ r c, x.shape = [r, c] ∧ (r = 2 ∨ c = 2))) := by
  induction x using ctorShape_ind with
  | one n g => simp [ctorShape]
  | rows n g => simp [ctorShape_rows]
  | cols n g hn => simp [ctorShape_cols hn]
  | rejected h hn => exact iff_of_true h hn

/-- anything else raises: 0-d, 3-d and higher, 2-D without a side of length 2 (1 x N and N x 1 with N ≠ 2, 3 x N, …) never construct … -/
theorem gen_ctor_invalid_shape_raises (L : FiniteLaws α) (E : Env α) (w s : Step α) (x : NdArr α)
    (hshape : ¬ ((∃ n, x.shape = [n]) ∨ (∃ r c, x.shape = [r, c] ∧ (r = 2 ∨ c = 2))))
    (fs olap bmin Lmin Jdes Kdes num_patch_pts order psll win scheduler band force_target_nf backend verbose : PyVal α) (out : CtorOut α) :
    Gen.ctor E w s x fs olap bmin Lmin Jdes Kdes num_patch_pts order psll win scheduler band force_target_nf backend verbose ≠ Except.ok out := by
  intro h
  obtain ⟨sh, hsh, -⟩ := gen_ctor_shape L (h := h) ..
  rw [(spec_shape_none_iff x).mpr hshape] at hsh
  cases hsh

/-- … and when the other arguments are acceptable the exception is the final `raise ValueError` -/
theorem gen_ctor_invalid_shape_valueerror (L : FiniteLaws α) (E : Env α) (w s : Step α) (x : NdArr α)
    (hshape : ¬ ((∃ n, x.shape = [n]) ∨ (∃ r c, x.shape = [r, c] ∧ (r = 2 ∨ c = 2))))
    (fs olap bmin Lmin Jdes Kdes num_patch_pts order psll win scheduler band force_target_nf backend verbose : PyVal α)
    (hfs : fsCheck fs = Except.ok ()) (hord : orderOk order = true) (fsv : α) (hfsv : pyFloat E fs = Except.ok fsv) (cfg : PyDict (PyVal α))
    (hcfg : ctorConfig E ⟨fs, olap, bmin, Lmin, Jdes, Kdes, num_patch_pts, order, psll, win, scheduler, band, force_target_nf, backend, verbose⟩ = Except.ok cfg) :
    Gen.ctor E w s x fs olap bmin Lmin Jdes Kdes num_patch_pts order psll win scheduler band force_target_nf backend verbose = Except.error PyExc.ValueError := by
  have heq := gen_ctor_eq_model L E w s x fs olap bmin Lmin Jdes Kdes num_patch_pts order psll win scheduler band force_target_nf backend verbose
  simp only [ctorSpec, hfs, hord, hfsv, hcfg, bind_ok, (spec_shape_none_iff x).mpr hshape, Bool.not_true, Bool.false_eq_true, if_false] at heq
  exact map_error_inv viewOf heq

/-- conversely nothing the property calls valid raises: 1-D of any length, 2 x N and N x 2 for every N ≥ 0 — provided the scalar
    arguments are acceptable and the two config steps succeed -/
theorem gen_ctor_valid_no_raise (L : FiniteLaws α) (E : Env α) (w s : Step α) (x : NdArr α)
    (hshape : (∃ n, x.shape = [n]) ∨ (∃ n, x.shape = [2, n]) ∨ (∃ n, x.shape = [n, 2]))
    (fs olap bmin Lmin Jdes Kdes num_patch_pts order psll win scheduler band force_target_nf backend verbose : PyVal α)
    (hfs : fsCheck fs = Except.ok ()) (hord : orderOk order = true) (fsv : α) (hfsv : pyFloat E fs = Except.ok fsv) (cfg : PyDict (PyVal α))
    (hcfg : ctorConfig E ⟨fs, olap, bmin, Lmin, Jdes, Kdes, num_patch_pts, order, psll, win, scheduler, band, force_target_nf, backend, verbose⟩ = Except.ok cfg)
    (hw : ∀ c, ∃ c', w c = Except.ok c') (hs : ∀ c, ∃ c', s c = Except.ok c') :
    ∃ out, Gen.ctor E w s x fs olap bmin Lmin Jdes Kdes num_patch_pts order psll win scheduler band force_target_nf backend verbose = Except.ok out := by
  have heq := gen_ctor_eq_model L E w s x fs olap bmin Lmin Jdes Kdes num_patch_pts order psll win scheduler band force_target_nf backend verbose
  obtain ⟨sh, hsh⟩ : ∃ sh, ctorShape x = some sh := Option.ne_none_iff_exists'.mp fun hn => (spec_shape_none_iff x).mp hn (by
    rcases hshape with h | ⟨n, h⟩ | ⟨n, h⟩
    exacts [Or.inl h, Or.inr ⟨2, n, h, Or.inl rfl⟩, Or.inr ⟨n, 2, h, Or.inr rfl⟩])
  obtain ⟨c1, hc1⟩ := hw (cfg ++ [("N", PyVal.int sh.nx)])
  obtain ⟨c2, hc2⟩ := hs c1
  simp only [ctorSpec, hfs, hord, hfsv, hcfg, bind_ok, hsh, hc1, hc2, Bool.not_true, Bool.false_eq_true, if_false] at heq
  obtain ⟨o, ho, -⟩ := map_ok_inv viewOf heq
  exact ⟨o, ho⟩

theorem fsCheck_two : fsCheck (PyVal.real (2 : ℝ)) = Except.ok () := by
  have h20 : ¬ ((2 : ℝ) ≤ 0) := by norm_num
  simp [fsCheck, PyVal.num?, nonFinite, isfinite, h20]

/-- the hypothesis of `gen_ctor_config_table` is satisfiable: a length-3 record, fs = 2, one keyword given, identity config steps -/
example (E : Env ℝ) (g : List ℕ → ℝ) :
    ∃ out, Gen.ctor_call E Except.ok Except.ok ⟨[3], g⟩ (PyVal.real 2) [("Kdes", PyVal.int 7)] = Except.ok out := by
  unfold Gen.ctor_call
  rw [if_neg (by decide)]
  exact gen_ctor_valid_no_raise finiteLaws_real (hshape := Or.inl ⟨3, rfl⟩) (hfs := fsCheck_two) (hord := rfl) (hfsv := rfl) (hcfg := rfl)
    (hw := fun c => ⟨c, rfl⟩) (hs := fun c => ⟨c, rfl⟩) ..

/-- the hypotheses of `gen_ctor_valid_no_raise` are satisfiable (a 1 x 2 array — N = 1 — with the default scalar arguments, fs = 2) -/
example (E : Env ℝ) (g : List ℕ → ℝ) :
    fsCheck (PyVal.real (2 : ℝ)) = Except.ok () ∧ orderOk (PyVal.int 0 : PyVal ℝ) = true ∧ pyFloat E (PyVal.real (2 : ℝ)) = Except.ok 2 ∧
    (∃ cfg, ctorConfig E (ctorArgsOf (PyVal.real 2) []) = Except.ok cfg) ∧ ((∃ n, (⟨[1, 2], g⟩ : NdArr ℝ).shape = [n, 2])) :=
  ⟨fsCheck_two, rfl, rfl, ⟨_, rfl⟩, ⟨1, rfl⟩⟩

/-- what the TRANSLATED element map does, for ANY number type obeying the three laws (IEEE doubles included): NaN, +Inf and -Inf
    all become 0, finite samples are kept.  (With NumPy's default `posinf` / `neginf` this is unprovable: ±Inf would become ±1.8e308.) -/
theorem gen_sanitise_elem (L : FiniteLaws α) (v : α) :
    nanToNum v (RealLike.ofSci 0 true 1) (RealLike.ofSci 0 true 1) (RealLike.ofSci 0 true 1) = if isfinite v = true then v else RealLike.zero := by
  rw [nanToNum_eq_sanitise L, sanitise_nonFinite_eq]

theorem nonFinite_zero (L : FiniteLaws α) : nonFinite (RealLike.zero : α) = false := by
  simp [nonFinite, L.zero_finite]

theorem spec_shape_zero_fill (L : FiniteLaws α) (x : NdArr α) : ctorShape (NdArr.map (sanitise nonFinite) x) = ctorShape x := by
  have hid := sanitise_idem nonFinite (nonFinite_zero L)
  induction x using ctorShape_ind with
  | one n g => simp [ctorShape, NdArr.map, hid]
  | rows n g => simp [NdArr.map, ctorShape_rows, hid]
  | cols n g hn => simp [NdArr.map, ctorShape_cols hn, hid]
  | rejected h hn => rw [h]; exact (spec_shape_none_iff _).mpr hn

/-- the translated constructor run on the zero-filled input (every non-finite sample replaced by 0
    beforehand) leaves exactly what it leaves for the original input — stored record, channels, nx, mode, config, exceptions
    (transfer of `Model.sanitise_idem`) -/
theorem gen_ctor_sanitise_eq_zero_fill (L : FiniteLaws α) (E : Env α) (w s : Step α) (x : NdArr α)
    (fs olap bmin Lmin Jdes Kdes num_patch_pts order psll win scheduler band force_target_nf backend verbose : PyVal α) :
    Except.map viewOf (Gen.ctor E w s (NdArr.map (sanitise nonFinite) x) fs olap bmin Lmin Jdes Kdes num_patch_pts order psll win scheduler band force_target_nf backend verbose)
      = Except.map viewOf (Gen.ctor E w s x fs olap bmin Lmin Jdes Kdes num_patch_pts order psll win scheduler band force_target_nf backend verbose) := by
  rw [gen_ctor_eq_model L, gen_ctor_eq_model L]
  exact ctorSpec_congr (spec_shape_zero_fill L x)

theorem spec_shape_elems (x : NdArr α) (sh : ShapeView α) (hsh : ctorShape x = some sh) :
    (∀ y ∈ sh.x1, ∃ idx, y = sanitise nonFinite (x.get idx)) ∧
    (∀ l, sh.x2 = some l → ∀ y ∈ l, ∃ idx, y = sanitise nonFinite (x.get idx)) := by
  induction x using ctorShape_ind with
  | one n g =>
    cases hsh
    exact ⟨List.forall_mem_map.mpr fun i _ => ⟨_, rfl⟩, fun l hl => nomatch hl⟩
  | rows n g =>
    rw [ctorShape_rows] at hsh
    cases hsh
    exact ⟨List.forall_mem_map.mpr fun i _ => ⟨_, rfl⟩, fun l hl => Option.some.inj hl ▸ List.forall_mem_map.mpr fun i _ => ⟨_, rfl⟩⟩
  | cols n g hn =>
    rw [ctorShape_cols hn] at hsh
    cases hsh
    exact ⟨List.forall_mem_map.mpr fun i _ => ⟨_, rfl⟩, fun l hl => Option.some.inj hl ▸ List.forall_mem_map.mpr fun i _ => ⟨_, rfl⟩⟩
  | rejected h hn => rw [h] at hsh; cases hsh

/-- the stored record IS the zero-filled input (all shapes at once): every element of `x1`, `x2`, `data` is `sanitise` of an input sample,
    and the stored data are the channels one after the other -/
theorem gen_ctor_stored_record (L : FiniteLaws α) (E : Env α) (w s : Step α) (x : NdArr α)
    (fs olap bmin Lmin Jdes Kdes num_patch_pts order psll win scheduler band force_target_nf backend verbose : PyVal α) (out : CtorOut α)
    (h : Gen.ctor E w s x fs olap bmin Lmin Jdes Kdes num_patch_pts order psll win scheduler band force_target_nf backend verbose = Except.ok out) :
    (∀ y ∈ out.x1.toList, ∃ idx, y = sanitise nonFinite (x.get idx)) ∧
    (∀ l, out.x2.map NdArr.toList = some l → ∀ y ∈ l, ∃ idx, y = sanitise nonFinite (x.get idx)) ∧
    out.data.toList = out.x1.toList ++ (out.x2.map NdArr.toList).getD [] := by
  obtain ⟨sh, hsh, -, -, h3, h4, -, h6⟩ := gen_ctor_shape L (h := h) ..
  obtain ⟨e1, e2⟩ := spec_shape_elems x sh hsh
  rw [h3, h4, h6]
  exact ⟨e1, e2, rfl⟩

theorem sanitise_preal (v : PReal) : sanitise nonFinite v = some (v.getD 0) := by
  cases v with
  | none => simp [sanitise, nonFinite, isfinite, RealLike.beq, PReal.cmp]
  | some r => simp [sanitise, nonFinite, isfinite]

theorem sanitise_real (v : ℝ) : sanitise nonFinite v = v :=
  sanitise_of_finite v (by simp [isfinite])

/-- over the strict partial reals every sample the translated constructor stores is FINITE (`some _`): a `none` (NaN / ±Inf) of the input
    has become `some 0`, a finite sample is itself -/
theorem gen_ctor_stored_finite (E : Env PReal) (w s : Step PReal) (x : NdArr PReal)
    (fs olap bmin Lmin Jdes Kdes num_patch_pts order psll win scheduler band force_target_nf backend verbose : PyVal PReal) (out : CtorOut PReal)
    (h : Gen.ctor E w s x fs olap bmin Lmin Jdes Kdes num_patch_pts order psll win scheduler band force_target_nf backend verbose = Except.ok out) :
    (∀ y ∈ out.data.toList, y.isSome = true) ∧ (∀ y ∈ out.x1.toList, ∃ idx, y = some ((x.get idx).getD 0)) := by
  obtain ⟨h1, h2, h3⟩ := gen_ctor_stored_record finiteLaws_preal (h := h) ..
  have hfin : ∀ y, (∃ idx, y = sanitise nonFinite (x.get idx)) → y.isSome = true := by
    rintro y ⟨idx, rfl⟩
    rw [sanitise_preal]
    rfl
  refine ⟨fun y hy => ?_, fun y hy => (h1 y hy).imp fun idx hi => hi.trans (sanitise_preal _)⟩
  rw [h3, List.mem_append] at hy
  rcases hy with hy | hy
  · exact hfin y (h1 y hy)
  · cases hx2 : out.x2.map NdArr.toList with
    | none => simp [hx2] at hy
    | some l => exact hfin y (h2 l hx2 y (by simpa [hx2] using hy))

/-- over ℝ (every sample finite) a 1-D record is stored unchanged -/
theorem gen_ctor_1d_real (E : Env ℝ) (w s : Step ℝ) (n : ℕ) (g : List ℕ → ℝ)
    (fs olap bmin Lmin Jdes Kdes num_patch_pts order psll win scheduler band force_target_nf backend verbose : PyVal ℝ) (out : CtorOut ℝ)
    (h : Gen.ctor E w s ⟨[n], g⟩ fs olap bmin Lmin Jdes Kdes num_patch_pts order psll win scheduler band force_target_nf backend verbose = Except.ok out) :
    out.iscsd = false ∧ out.nx = n ∧ out.x1.toList = (List.range n).map (fun i => g [i]) := by
  obtain ⟨h1, h2, h3, -⟩ := gen_ctor_1d finiteLaws_real (h := h) ..
  simp only [sanitise_real] at h3
  exact ⟨h1, h2, h3⟩

end CtorShapeGen

#print axioms CtorShapeGen.gen_ctor_eq_model
#print axioms CtorShapeGen.gen_ctor_call_eq_model
#print axioms CtorShapeGen.gen_ctor_defaults
#print axioms CtorShapeGen.gen_ctor_defaults_eq_model
#print axioms CtorShapeGen.gen_ctor_positional
#print axioms CtorShapeGen.gen_ctor_default_bmin_real
#print axioms CtorShapeGen.gen_ctor_config_table
#print axioms CtorShapeGen.gen_ctor_shape
#print axioms CtorShapeGen.gen_ctor_1d
#print axioms CtorShapeGen.gen_ctor_rows
#print axioms CtorShapeGen.gen_ctor_2x2_rows
#print axioms CtorShapeGen.gen_ctor_cols
#print axioms CtorShapeGen.gen_ctor_layout_independent
#print axioms CtorShapeGen.gen_ctor_rows_cols_same
#print axioms CtorShapeGen.gen_ctor_invalid_shape_raises
#print axioms CtorShapeGen.gen_ctor_invalid_shape_valueerror
#print axioms CtorShapeGen.gen_ctor_valid_no_raise
#print axioms CtorShapeGen.gen_sanitise_elem
#print axioms CtorShapeGen.gen_ctor_sanitise_eq_zero_fill
#print axioms CtorShapeGen.gen_ctor_stored_record
#print axioms CtorShapeGen.gen_ctor_stored_finite
#print axioms CtorShapeGen.gen_ctor_1d_real
#print axioms CtorShapeGen.finiteLaws_real
#print axioms CtorShapeGen.finiteLaws_preal
#print axioms CtorShapeGen.spec_shape_transpose
#print axioms CtorShapeGen.spec_shape_zero_fill
#print axioms CtorShapeGen.spec_shape_none_iff
#print axioms CtorShapeGen.spec_ok
#print axioms CtorShapeGen.head_fs
