/-
  C10 and C11 for the generated per-bin attributes `Gen.Auto.*`, `Gen.Cross.*` at `α := ℝ`.
-/
-- the order of the imports matters: with `RealInst` first the `/` of the statements below elaborates to ℝ's own division, not to the
-- (definitionally equal) one of `instRealLikeReal`
import SpecKitV.RealInst
import SpecKitV.Lemmas.CxC
import SpecKitV.Lemmas.Arcsin
import SpecKitV.Gen.Attrs
import SpecKitV.Props.AttrsA
open Gen

set_option linter.unusedSimpArgs false   -- the commutativity lemmas rewrite nothing in the source as it is

namespace AttrsB

theorem sqrt_sq_div_div {a g n : ℝ} (ha : 0 ≤ a) :
    Real.sqrt (a * a / g / n) = a / Real.sqrt (g * n) := by
  rw [div_div, Real.sqrt_div (mul_self_nonneg a), Real.sqrt_mul_self ha]

theorem sqrt_coh_dev {g n : ℝ} (hg : 0 ≤ g) (hg1 : g ≤ 1) (hn : 0 ≤ n) :
    Real.sqrt |2 * g / n * ((1 - g) * (1 - g))| = Real.sqrt (2 * g) * (1 - g) / Real.sqrt n := by
  have h2 : 0 ≤ 2 * g := mul_nonneg zero_le_two hg
  have h3 := mul_self_nonneg (1 - g)
  rw [abs_of_nonneg (mul_nonneg (div_nonneg h2 hn) h3), div_mul_eq_mul_div,
    Real.sqrt_div (mul_nonneg h2 h3), Real.sqrt_mul h2,
    Real.sqrt_mul_self (sub_nonneg.2 hg1)]

theorem div_sqrt_mul_mul_sqrt {a x n : ℝ} (hx : 0 ≤ x) (hn : 0 < n) :
    a / Real.sqrt (x * n) * Real.sqrt n = a / Real.sqrt x := by
  rw [Real.sqrt_mul hx, ← div_div, div_mul_cancel₀ _ (Real.sqrt_pos.2 hn).ne']

end AttrsB

/-! ## C10 — analytic (Bendat–Piersol) error bars -/

theorem Gxx_dev_formula (d : BinData ℝ) :
    Cross.Gxx_dev d = Cross.Gxx d / Real.sqrt d.navg ∧
    Auto.Gxx_dev d = Auto.Gxx d / Real.sqrt d.navg :=
  ⟨rfl, rfl⟩

-- the auto table's `Gyy` is its `Gxx`
theorem Gyy_dev_formula (d : BinData ℝ) :
    Cross.Gyy_dev d = Cross.Gyy d / Real.sqrt d.navg ∧
    Auto.Gyy_dev d = Auto.Gxx d / Real.sqrt d.navg :=
  ⟨rfl, rfl⟩

section
set_option linter.unusedVariables false

-- `hg`, `hn` are not used here (nor `hn` by `coh_error_formula`).  This proof and that of `Hxy_dev_is_est_times_error` hold by
-- unfolding the generated body: a change of its spelling shows up as a type mismatch
theorem Gxy_dev_formula (d : BinData ℝ) (hg : 0 < Cross.coh d) (hn : 0 < d.navg) :
    Cross.Gxy_dev d = Cx.abs (Cross.Gxy d) / Real.sqrt (Cross.coh d * d.navg) :=
  AttrsB.sqrt_sq_div_div (Cx.abs_nonneg _)

theorem Hxy_dev_formula (d : BinData ℝ) (hg : 0 < Cross.coh d) (hg1 : Cross.coh d ≤ 1)
    (hn : 0 < d.navg) :
    Cross.Hxy_dev d =
      Cx.abs (Cross.Hxy d) * Real.sqrt (1 - Cross.coh d) / Real.sqrt (2 * Cross.coh d * d.navg) := by
  simp only [Cross.Hxy_dev, RL.sqrt_eq, RL.abs_eq, RL.ofNat_eq, Nat.cast_one, Nat.cast_ofNat]
  rw [abs_of_nonneg (sub_nonneg.2 hg1), mul_comm (Cross.coh d) 2]

end

theorem coh_dev_formula (d : BinData ℝ) (hg : 0 < Cross.coh d) (hg1 : Cross.coh d ≤ 1)
    (hn : 0 < d.navg) :
    Cross.coh_dev d = Real.sqrt (2 * Cross.coh d) * (1 - Cross.coh d) / Real.sqrt d.navg := by
  simp only [Cross.coh_dev, RL.sqrt_eq, RL.abs_eq, RL.ofNat_eq, Nat.cast_one, Nat.cast_ofNat]
  exact AttrsB.sqrt_coh_dev hg.le hg1 hn.le

theorem Gxx_error_formula (d : BinData ℝ) :
    Cross.Gxx_error d = 1 / Real.sqrt d.navg ∧ Auto.Gxx_error d = 1 / Real.sqrt d.navg ∧
    Cross.Gyy_error d = 1 / Real.sqrt d.navg ∧ Auto.Gyy_error d = 1 / Real.sqrt d.navg := by
  have h := AttrsA.cGxx_error d
  -- the other three are spelled as `Cross.Gxx_error`
  exact ⟨h, h, h, h⟩

theorem Gxy_error_formula (d : BinData ℝ) :
    Cross.Gxy_error d = 1 / Real.sqrt (Cross.coh d * d.navg) := by
  simp only [Cross.Gxy_error, RL.sqrt_eq, RL.ofNat_eq, Nat.cast_one]

theorem Hxy_mag_error_formula (d : BinData ℝ) :
    Cross.Hxy_mag_error d = magErr (Cross.coh d) d.navg := by
  simp only [Cross.Hxy_mag_error, magErr, RL.sqrt_eq, RL.abs_eq, RL.ofNat_eq, Nat.cast_one,
    Nat.cast_ofNat]

theorem Hxy_rad_error_formula (d : BinData ℝ) :
    Cross.Hxy_rad_error d = radErr (Cross.coh d) d.navg := by
  simp only [Cross.Hxy_rad_error, radErr, RL.sqrt_eq, RL.abs_eq, RL.arcsin_eq, RL.ofNat_eq,
    Nat.cast_one, Nat.cast_ofNat]

theorem Hxy_deg_error_formula (d : BinData ℝ) :
    Cross.Hxy_deg_error d = Cross.Hxy_rad_error d * (180 / Real.pi) := by
  simp only [Cross.Hxy_deg_error, RL.pi_eq, RL.ofNat_eq, Nat.cast_ofNat]

section
set_option linter.unusedVariables false

theorem coh_error_formula (d : BinData ℝ) (hg : 0 < Cross.coh d) (hn : 0 < d.navg) :
    Cross.coh_error d =
      Real.sqrt 2 * (1 - Cross.coh d) / Real.sqrt (Cross.coh d * d.navg) := by
  simp only [Cross.coh_error, RL.sqrt_eq, RL.ofNat_eq, Nat.cast_one, Nat.cast_ofNat]
  rw [Real.sqrt_mul hg.le]

end

theorem Gxx_dev_is_est_times_error (d : BinData ℝ) :
    Cross.Gxx_dev d = Cross.Gxx d * Cross.Gxx_error d ∧
    Auto.Gxx_dev d = Auto.Gxx d * Auto.Gxx_error d := by
  have h : Cross.Gxx_dev d = Cross.Gxx d * Cross.Gxx_error d := by
    rw [AttrsA.cGxx_error]
    exact div_eq_mul_one_div _ _
  exact ⟨h, h⟩

theorem Gxy_dev_is_est_times_error (d : BinData ℝ) (hg : 0 < Cross.coh d) (hn : 0 < d.navg) :
    Cross.Gxy_dev d = Cx.abs (Cross.Gxy d) * Cross.Gxy_error d := by
  rw [Gxy_dev_formula d hg hn, Gxy_error_formula d]
  exact div_eq_mul_one_div _ _

theorem Hxy_dev_is_est_times_error (d : BinData ℝ) :
    Cross.Hxy_dev d = Cx.abs (Cross.Hxy d) * Cross.Hxy_mag_error d :=
  mul_div_assoc _ _ _

theorem coh_dev_is_est_times_error (d : BinData ℝ) (hg : 0 < Cross.coh d)
    (hg1 : Cross.coh d ≤ 1) (hn : 0 < d.navg) :
    Cross.coh_dev d = Cross.coh d * Cross.coh_error d := by
  rw [coh_dev_formula d hg hg1 hn, coh_error_formula d hg hn, Real.sqrt_mul zero_le_two,
    Real.sqrt_mul hg.le]
  -- bring `g` next to `1/√g` and use `g/√g = √g`
  rw [mul_div_assoc', ← mul_assoc, mul_comm (Cross.coh d), mul_right_comm _ (Cross.coh d), ← div_div,
    mul_div_assoc _ (Cross.coh d), Real.div_sqrt, mul_right_comm]

namespace AttrsB

theorem Gxx_dev_mul_sqrt (d : BinData ℝ) (hn : 0 < d.navg) :
    Cross.Gxx_dev d * Real.sqrt d.navg = Cross.Gxx d :=
  div_mul_cancel₀ _ (Real.sqrt_pos.2 hn).ne'

theorem Gxy_dev_mul_sqrt (d : BinData ℝ) (hg : 0 < Cross.coh d) (hn : 0 < d.navg) :
    Cross.Gxy_dev d * Real.sqrt d.navg = Cx.abs (Cross.Gxy d) / Real.sqrt (Cross.coh d) := by
  rw [Gxy_dev_formula d hg hn, div_sqrt_mul_mul_sqrt hg.le hn]

theorem Hxy_dev_mul_sqrt (d : BinData ℝ) (hg : 0 < Cross.coh d) (hg1 : Cross.coh d ≤ 1)
    (hn : 0 < d.navg) :
    Cross.Hxy_dev d * Real.sqrt d.navg =
      Cx.abs (Cross.Hxy d) * Real.sqrt (1 - Cross.coh d) / Real.sqrt (2 * Cross.coh d) := by
  rw [Hxy_dev_formula d hg hg1 hn, div_sqrt_mul_mul_sqrt (mul_nonneg zero_le_two hg.le) hn]

theorem coh_dev_mul_sqrt (d : BinData ℝ) (hg : 0 < Cross.coh d) (hg1 : Cross.coh d ≤ 1)
    (hn : 0 < d.navg) :
    Cross.coh_dev d * Real.sqrt d.navg = Real.sqrt (2 * Cross.coh d) * (1 - Cross.coh d) := by
  rw [coh_dev_formula d hg hg1 hn, div_mul_cancel₀ _ (Real.sqrt_pos.2 hn).ne']

end AttrsB

/-- deviations shrink as 1/√n: dev·√n does not depend on n -/
theorem dev_scales_inv_sqrt_n (d : BinData ℝ) (n' : ℝ) (hn : 0 < d.navg) (hn' : 0 < n')
    (hg : 0 < Cross.coh d) (hg1 : Cross.coh d ≤ 1) :
    let d' : BinData ℝ := { d with navg := n' }
    Cross.Gxx_dev d * Real.sqrt d.navg = Cross.Gxx_dev d' * Real.sqrt n' ∧
    Cross.Gxy_dev d * Real.sqrt d.navg = Cross.Gxy_dev d' * Real.sqrt n' ∧
    Cross.Hxy_dev d * Real.sqrt d.navg = Cross.Hxy_dev d' * Real.sqrt n' ∧
    Cross.coh_dev d * Real.sqrt d.navg = Cross.coh_dev d' * Real.sqrt n' := by
  intro d'
  -- `coh`, `Gxx`, `Gxy`, `Hxy` do not read `navg`: the right-hand sides below are those of `d`
  have hg' : 0 < Cross.coh d' := hg
  have hg1' : Cross.coh d' ≤ 1 := hg1
  have hn'' : 0 < d'.navg := hn'
  exact ⟨(AttrsB.Gxx_dev_mul_sqrt d hn).trans (AttrsB.Gxx_dev_mul_sqrt d' hn'').symm,
    (AttrsB.Gxy_dev_mul_sqrt d hg hn).trans (AttrsB.Gxy_dev_mul_sqrt d' hg' hn'').symm,
    (AttrsB.Hxy_dev_mul_sqrt d hg hg1 hn).trans (AttrsB.Hxy_dev_mul_sqrt d' hg' hg1' hn'').symm,
    (AttrsB.coh_dev_mul_sqrt d hg hg1 hn).trans (AttrsB.coh_dev_mul_sqrt d' hg' hg1' hn'').symm⟩

theorem phase_ge_mag (d : BinData ℝ) (hg : 0 < Cross.coh d) (hg1 : Cross.coh d ≤ 1)
    (hn : 1 ≤ d.navg) :
    Cross.Hxy_mag_error d ≤ Cross.Hxy_rad_error d := by
  rw [Hxy_mag_error_formula, Hxy_rad_error_formula]
  exact magErr_le_radErr hg hg1 hn

theorem phase_le_half_pi_mag (d : BinData ℝ) (hg : 0 < Cross.coh d) (hg1 : Cross.coh d ≤ 1)
    (hn : 1 ≤ d.navg) :
    Cross.Hxy_rad_error d ≤ Real.pi / 2 * Cross.Hxy_mag_error d := by
  rw [Hxy_mag_error_formula, Hxy_rad_error_formula]
  exact radErr_le_half_pi_magErr hg hg1 hn

/-- for auto-spectra the coherence entering the formulas is identically 1 -/
theorem auto_dev_uses_unit_coherence (d : BinData ℝ) :
    Auto.Gxx_dev d = Auto.Gxx d / Real.sqrt d.navg ∧ Auto.Gxx_error d = 1 / Real.sqrt d.navg :=
  ⟨(Gxx_dev_formula d).2, (Gxx_error_formula d).2.1⟩

/-! ## C11 — empirical error estimates from the segment scatter -/

theorem emp_var_formula (d : BinData ℝ) (hn : 0 < d.navg) :
    Cross.XY_emp_var d = d.M2 / d.navg ∧ Auto.XY_emp_var d = d.M2 / d.navg :=
  ⟨AttrsA.XY_emp_var_of_pos d hn, AttrsA.XY_emp_var_of_pos d hn⟩

theorem emp_var_nonneg (d : BinData ℝ) (hM : 0 ≤ d.M2) :
    0 ≤ Cross.XY_emp_var d ∧ 0 ≤ Auto.XY_emp_var d :=
  ⟨AttrsA.XY_emp_var_nonneg d hM, AttrsA.XY_emp_var_nonneg d hM⟩

theorem emp_var_zero_of_M2_zero (d : BinData ℝ) (hM : d.M2 = 0) :
    Cross.XY_emp_var d = 0 ∧ Auto.XY_emp_var d = 0 := by
  have h := AttrsA.XY_emp_var_of_M2_zero d hM
  exact ⟨h, h⟩

theorem emp_dev_is_sqrt (d : BinData ℝ) :
    Cross.XY_emp_dev d = Real.sqrt (Cross.XY_emp_var d) ∧
    Auto.XY_emp_dev d = Real.sqrt (Auto.XY_emp_var d) :=
  ⟨rfl, rfl⟩

/-- spectral units: multiply by 2/(fs·S2) -/
theorem emp_dev_is_scaled_emp (d : BinData ℝ) (hS2 : 0 < d.S2) :
    Auto.Gxx_emp_dev d = 2 / (d.fs * d.S2) * Auto.XY_emp_dev d ∧
    Cross.Gxy_emp_dev d = 2 / (d.fs * d.S2) * Cross.XY_emp_dev d := by
  -- two statements of the source; whichever way each spells its products
  simp only [Auto.Gxx_emp_dev, Cross.Gxy_emp_dev, Auto.XY_emp_dev, Cross.XY_emp_dev, RL.lit_two, RL.gt_eq,
    RL.ofNat_eq, Nat.cast_zero, hS2, decide_true, if_true, mul_comm d.S2, mul_comm (RealLike.sqrt _), and_self]

theorem Gxx_emp_dev_formula (d : BinData ℝ) (hS2 : 0 < d.S2) (hn : 0 < d.navg) :
    Auto.Gxx_emp_dev d = 2 / (d.fs * d.S2) * Real.sqrt (d.M2 / d.navg) := by
  rw [(emp_dev_is_scaled_emp d hS2).1, (emp_dev_is_sqrt d).2, (emp_var_formula d hn).2]

theorem Gxy_emp_dev_formula (d : BinData ℝ) (hS2 : 0 < d.S2) (hn : 0 < d.navg) :
    Cross.Gxy_emp_dev d = 2 / (d.fs * d.S2) * Real.sqrt (d.M2 / d.navg) := by
  rw [(emp_dev_is_scaled_emp d hS2).2, (emp_dev_is_sqrt d).1, (emp_var_formula d hn).1]

theorem raw_stats (d : BinData ℝ) :
    Cross.XX_mean d = d.XX ∧ Cross.YY_mean d = d.YY ∧ Auto.YY_mean d = d.XX ∧
    Cross.XY_M2 d = d.M2 ∧ Auto.XY_M2 d = d.M2 :=
  ⟨rfl, rfl, rfl, rfl, rfl⟩

/-- the hypotheses used above are satisfiable -/
example :
    let d : BinData ℝ :=
      { XX := 2, YY := 3, XY := ⟨1, 1⟩, S12 := 4, S2 := 2, M2 := 1, navg := 3, fs := 1 }
    0 < Cross.coh d ∧ Cross.coh d ≤ 1 ∧ 1 ≤ d.navg := by
  intro d
  rw [AttrsA.ccoh]
  norm_num [d, Cx.normSq]

#print axioms Gxx_dev_formula
#print axioms Gyy_dev_formula
#print axioms Gxy_dev_formula
#print axioms Hxy_dev_formula
#print axioms coh_dev_formula
#print axioms Gxx_error_formula
#print axioms Gxy_error_formula
#print axioms Hxy_mag_error_formula
#print axioms Hxy_rad_error_formula
#print axioms Hxy_deg_error_formula
#print axioms coh_error_formula
#print axioms Gxx_dev_is_est_times_error
#print axioms Gxy_dev_is_est_times_error
#print axioms Hxy_dev_is_est_times_error
#print axioms coh_dev_is_est_times_error
#print axioms dev_scales_inv_sqrt_n
#print axioms phase_ge_mag
#print axioms phase_le_half_pi_mag
#print axioms auto_dev_uses_unit_coherence
#print axioms emp_var_formula
#print axioms emp_var_nonneg
#print axioms emp_var_zero_of_M2_zero
#print axioms emp_dev_is_sqrt
#print axioms Gxx_emp_dev_formula
#print axioms Gxy_emp_dev_formula
#print axioms emp_dev_is_scaled_emp
#print axioms raw_stats
