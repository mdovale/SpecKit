/-
  SpecKitV.Props.C04 — monotone resolution, the count formula, even spreading of the starts, the reported
  overlap, log spacing where nothing clamps, and the search that forces a number of bins.
-/
import SpecKitV.Props.C03

open Sched PlanC02 PlanC03

theorem pairwise_mono_of_chain {l : List (Model.Bin ℝ)}
    (h : l.IsChain (fun a b => b.L ≤ a.L ∧ a.K ≤ b.K)) :
    l.Pairwise (fun a b => b.L ≤ a.L ∧ a.K ≤ b.K) := by
  have : Trans (fun a b : Model.Bin ℝ => b.L ≤ a.L ∧ a.K ≤ b.K)
      (fun a b : Model.Bin ℝ => b.L ≤ a.L ∧ a.K ≤ b.K)
      (fun a b : Model.Bin ℝ => b.L ≤ a.L ∧ a.K ≤ b.K) :=
    ⟨fun h1 h2 => ⟨h2.1.trans h1.1, h1.2.trans h2.2⟩⟩
  exact h.pairwise

/-- along the iterative LTF/LPSD plan L never increases and K never decreases -/
theorem ltfPlan_monotone (c : Model.Cfg ℝ) (h : Adm c) (extra : ℕ) :
    (Model.ltfPlan c (c.N + extra)).Pairwise (fun a b => b.L ≤ a.L ∧ a.K ≤ b.K) := by
  apply pairwise_mono_of_chain
  rw [ltfPlan_map, List.isChain_map, SchedLtf.walk_eq_genWalk]
  refine genWalk.isChain (I := fun f => (Model.consts c).fmin ≤ f)
    (fun f hf _ => SchedLtf.fmin_le_next h hf) ?_ _ _ le_rfl
  intro f hf _ _
  -- without this the unifier unfolds `ltfStep` to see through `mkLtf`
  dsimp only [mkLtf]
  exact ltfStep_mono c h f _ ((fmin_pos h).trans_le hf)
    (le_add_of_nonneg_right ((ltfStep_ok h f).r_pos h.hfs).le)

theorem lpsdPlan_monotone (c : Model.Cfg ℝ) (h : Adm c) (extra : ℕ) :
    (Model.lpsdPlan c (c.N + extra)).Pairwise (fun a b => b.L ≤ a.L ∧ a.K ≤ b.K) :=
  ltfPlan_monotone { c with bmin := RealLike.one, Lmin := 1 } (adm_lpsd h) extra

/-- the number of averages is the nearest integer (ties up) to 1+(N−L)/((1−olap)L), capped at N−L+1 -/
theorem ltfPlan_K_formula (c : Model.Cfg ℝ) (h : Adm c) (extra : ℕ) :
    ∀ b ∈ Model.ltfPlan c (c.N + extra), b.K = min (⌊((c.N : ℝ) - b.L) / ((1 - c.olap) * b.L) + 1 + 1 / 2⌋) ((c.N : ℤ) - b.L + 1) := by
  refine ltfPlan_forall h (fun f hf _ => ?_) _
  show (Model.ltfStep c (Model.consts c) f).2.2.2 = _
  rw [(ltfStep_K c h f ((fmin_pos h).trans_le hf)).2.2.2, capK_eq, nsegRaw_eq]
  rfl

theorem lpsdPlan_K_formula (c : Model.Cfg ℝ) (h : Adm c) (extra : ℕ) :
    ∀ b ∈ Model.lpsdPlan c (c.N + extra), b.K = min (⌊((c.N : ℝ) - b.L) / ((1 - c.olap) * b.L) + 1 + 1 / 2⌋) ((c.N : ℤ) - b.L + 1) :=
  ltfPlan_K_formula { c with bmin := RealLike.one, Lmin := 1 } (adm_lpsd h) extra

/-- the four plans at once (`m` is `Lmin`, or 1 for `lpsd_plan`) -/
theorem plans_full (c : Model.Cfg ℝ) (h : Adm c) (extra : ℕ) :
    ∀ l ∈ [Model.ltfPlan c (c.N + extra), Model.lpsdPlan c (c.N + extra), Model.newPlan c (c.N + extra), Model.vecPlan c (c.N + extra)],
    ∀ b ∈ l, ∃ m, BinFull c.N m b := by
  intro l hl b hb
  simp only [List.mem_cons, List.mem_nil_iff, or_false] at hl
  rcases hl with rfl | rfl | rfl | rfl
  · exact ⟨_, (ltfPlan_full h extra).2 b hb⟩
  · exact ⟨_, (lpsdPlan_full h extra).2 b hb⟩
  · exact ⟨_, (newPlan_full h extra).2 b hb⟩
  · exact ⟨_, vecPlan_full h _ b hb⟩

/-- segments are spread evenly: each start within half a sample of its ideal position (all four schedulers) -/
theorem plan_even_spread (c : Model.Cfg ℝ) (h : Adm c) (extra : ℕ) :
    ∀ l ∈ [Model.ltfPlan c (c.N + extra), Model.lpsdPlan c (c.N + extra), Model.newPlan c (c.N + extra), Model.vecPlan c (c.N + extra)],
    ∀ b ∈ l, 2 ≤ b.K → ∀ i (hi : i < b.D.length),
      |((b.D.get ⟨i, hi⟩ : ℤ) : ℝ) - i * (((c.N : ℝ) - b.L) / ((b.K : ℝ) - 1))| ≤ 1 / 2 :=
  fun l hl b hb => let ⟨_, hf⟩ := plans_full c h extra l hl b hb; hf.2.1

/-- the reported overlap is the realised mean overlap of the starts (closed form = mean of (L − diff)/L), 0 for one segment -/
theorem plan_overlap_reported (c : Model.Cfg ℝ) (h : Adm c) (extra : ℕ) :
    ∀ l ∈ [Model.ltfPlan c (c.N + extra), Model.lpsdPlan c (c.N + extra), Model.newPlan c (c.N + extra), Model.vecPlan c (c.N + extra)],
    ∀ b ∈ l, b.O = Model.overlapMean (α := ℝ) b.L b.D ∧ (b.K = 1 → b.O = 0) ∧
             (2 ≤ b.K → b.O = ((b.L : ℝ) - ((c.N : ℝ) - b.L) / ((b.K : ℝ) - 1)) / b.L) :=
  fun l hl b hb => let ⟨_, hf⟩ := plans_full c h extra l hl b hb; hf.2.2

theorem head_lt_getLast {D : List ℤ} {a b : ℤ} (hp : D.Pairwise (· < ·)) (hlen : 2 ≤ D.length)
    (hh : D.head? = some a) (hl : D.getLast? = some b) : a < b := by
  match D, hlen, hh, hl, hp with
  | d0 :: d1 :: t, _, hh, hl, hp =>
    rw [List.head?_cons, Option.some.injEq] at hh
    rw [List.getLast?_cons_cons] at hl
    exact hh ▸ (List.pairwise_cons.mp hp).1 _ (List.mem_of_getLast? hl)

/-- the reported overlap of a bin is `< 1`: with two or more segments `L < N`, so the spacing
    `(N−L)/(K−1)` is positive -/
theorem BinFull.O_lt_one {N m : ℕ} {b : Model.Bin ℝ} (hf : BinFull N m b) : b.O < 1 := by
  obtain ⟨⟨hL, -, hK1, -, hlen, hhead, hlast, hpw, -, -⟩, -, -, h1, h2⟩ := hf
  by_cases hK : b.K = 1
  · rw [h1 hK]; exact one_pos
  · have hK2 : 2 ≤ b.K := by omega
    have hNL : (0 : ℤ) < (N : ℤ) - b.L := head_lt_getLast hpw (by rw [hlen]; omega) hhead hlast
    have hLr : (0 : ℝ) < (b.L : ℝ) := Nat.cast_pos.mpr ((le_max_left _ _).trans hL)
    have hKr : (0 : ℝ) < (b.K : ℝ) - 1 := sub_pos.mpr (by exact_mod_cast (show (1 : ℤ) < b.K from hK2))
    have : 0 < ((N : ℝ) - b.L) / ((b.K : ℝ) - 1) := div_pos (by exact_mod_cast hNL) hKr
    rw [h2 hK2, div_lt_one hLr]
    exact sub_lt_self _ this

/-- the reported overlap is always `< 1` (it may be negative: when the count is small the
    spacing `(N−L)/(K−1)` can exceed `L`, i.e. the segments leave gaps) -/
theorem plan_overlap_lt_one (c : Model.Cfg ℝ) (h : Adm c) (extra : ℕ) :
    ∀ l ∈ [Model.ltfPlan c (c.N + extra), Model.lpsdPlan c (c.N + extra), Model.newPlan c (c.N + extra), Model.vecPlan c (c.N + extra)],
    ∀ b ∈ l, b.O < 1 :=
  fun l hl b hb => let ⟨_, hf⟩ := plans_full c h extra l hl b hb; hf.O_lt_one

theorem findJdes_succ (nf : ℕ → ℕ) (target n lo hi : ℕ) :
    Model.findJdes nf target (n + 1) lo hi =
      if lo ≤ hi then
        if nf ((lo + hi) / 2) = target then some ((lo + hi) / 2)
        else if nf ((lo + hi) / 2) < target then Model.findJdes nf target n ((lo + hi) / 2 + 1) hi
        else if (lo + hi) / 2 = 0 then none
        else Model.findJdes nf target n lo ((lo + hi) / 2 - 1)
      else none := by
  simp only [Model.findJdes, beq_iff_eq]

/-- forcing a target count: the search returns some J only if the plan built with J has exactly the target number of bins -/
theorem findJdes_sound (nf : ℕ → ℕ) (target fuel lo hi J : ℕ) (h : Model.findJdes nf target fuel lo hi = some J) : nf J = target ∧ lo ≤ J ∧ J ≤ hi := by
  induction fuel generalizing lo hi with
  | zero => cases h
  | succ n ih =>
    rw [findJdes_succ] at h
    split_ifs at h with h0 h1 h2 h3
    · obtain rfl := Option.some.inj h
      exact ⟨h1, by omega, by omega⟩
    · have := ih _ _ h
      omega
    · have := ih _ _ h
      omega

/-- either side of the midpoint is at most half of `[lo, hi]` -/
theorem mid_halves {lo hi k : ℕ} (h : hi + 1 - lo < k * 2) :
    hi + 1 - ((lo + hi) / 2 + 1) < k ∧ ((lo + hi) / 2 ≠ 0 → (lo + hi) / 2 - 1 + 1 - lo < k) := by
  omega

/-- the search halves its interval: once `hi + 1 − lo < 2 ^ fuel`, more fuel changes nothing -/
theorem findJdes_fuel_pow (nf : ℕ → ℕ) (target : ℕ) (fuel : ℕ) :
    ∀ lo hi, hi + 1 - lo < 2 ^ fuel → ∀ extra : ℕ,
      Model.findJdes nf target (fuel + extra) lo hi = Model.findJdes nf target fuel lo hi := by
  induction fuel with
  | zero =>
    intro lo hi hlt extra
    have hh : ¬ lo ≤ hi := by rw [pow_zero] at hlt; omega
    cases extra with
    | zero => rfl
    | succ e => rw [Nat.zero_add, findJdes_succ, if_neg hh]; rfl
  | succ n ih =>
    intro lo hi hlt extra
    rw [Nat.add_right_comm, findJdes_succ, findJdes_succ]
    rw [pow_succ] at hlt
    -- the same tests on both sides; where they lead to a recursive call the interval has halved
    refine if_ctx_congr Iff.rfl (fun _ => ?_) fun _ => rfl
    refine if_ctx_congr Iff.rfl (fun _ => rfl) fun _ => ?_
    refine if_ctx_congr Iff.rfl (fun _ => ih _ _ (mid_halves hlt).1 extra) fun _ => ?_
    exact if_ctx_congr Iff.rfl (fun _ => rfl) fun h3 => ih _ _ ((mid_halves hlt).2 h3) extra

/-- with fuel ≥ hi − lo + 2 (far more than the logarithmic bound needs) more fuel changes nothing, so running
    out of fuel cannot be told from exhausting the interval -/
theorem findJdes_fuel (nf : ℕ → ℕ) (target lo hi : ℕ) (extra : ℕ) :
    Model.findJdes nf target (hi - lo + 2 + extra) lo hi = Model.findJdes nf target (hi - lo + 2) lo hi :=
  findJdes_fuel_pow nf target (hi - lo + 2) lo hi
    ((by omega : hi + 1 - lo < hi - lo + 2).trans Nat.lt_two_pow_self) extra

/-- conversely, for a monotone count function `hi + 1 − lo < 2 ^ fuel` iterations decide the interval:
    a `none` means no `J` in it has the target count -/
theorem findJdes_complete_pow (nf : ℕ → ℕ) (hmono : Monotone nf) (target fuel lo hi : ℕ)
    (hfuel : hi + 1 - lo < 2 ^ fuel) (h : Model.findJdes nf target fuel lo hi = none) :
    ∀ J, lo ≤ J → J ≤ hi → nf J ≠ target := by
  induction fuel generalizing lo hi with
  | zero => rw [pow_zero] at hfuel; omega
  | succ n ih =>
    intro J hlo hhi
    rw [findJdes_succ, if_pos (le_trans hlo hhi)] at h
    rw [pow_succ] at hfuel
    split_ifs at h with h1 h2 h3
    · -- nf mid < target: everything ≤ mid is too small
      by_cases hJ : J ≤ (lo + hi) / 2
      · exact ((hmono hJ).trans_lt h2).ne
      · exact ih _ _ (mid_halves hfuel).1 h J (not_le.mp hJ) hhi
    · -- mid = 0 and nf 0 > target
      have := hmono (h3.trans_le J.zero_le)
      omega
    · by_cases hJ : (lo + hi) / 2 ≤ J
      · have := hmono hJ
        omega
      · exact ih _ _ ((mid_halves hfuel).2 h3) h J hlo (Nat.le_sub_one_of_lt (not_le.mp hJ))

/-- the same with fuel linear in the interval -/
theorem findJdes_complete (nf : ℕ → ℕ) (hmono : Monotone nf) (target fuel lo hi : ℕ)
    (hfuel : hi + 1 - lo < fuel) (h : Model.findJdes nf target fuel lo hi = none) :
    ∀ J, lo ≤ J → J ≤ hi → nf J ≠ target :=
  findJdes_complete_pow nf hmono target fuel lo hi (hfuel.trans Nat.lt_two_pow_self) h

/-- plan-level restatement of `ltfStep_logspaced`: for a bin in the pure logarithmic regime whose
    length was not touched by a clamp, `|L − fs/(f·logfact)| ≤ 1/2`, so the next frequency is
    `f + fs/L ≈ f·(1 + logfact)` -/
theorem ltfPlan_logspaced (c : Model.Cfg ℝ) (h : Adm c) (extra : ℕ) :
    ∀ b ∈ Model.ltfPlan c (c.N + extra),
      (Model.consts c).freslim ≤ b.f * (Model.consts c).logfact →
      c.bmin ≤ 1 / (Model.consts c).logfact →
      ((c.Lmin : ℤ) ≤ ⌊c.fs / (b.f * (Model.consts c).logfact) + 1 / 2⌋ ∧
        ⌊c.fs / (b.f * (Model.consts c).logfact) + 1 / 2⌋ ≤ c.N) →
      Model.nsegRaw c.N (1 - c.olap) (⌊c.fs / (b.f * (Model.consts c).logfact) + 1 / 2⌋).toNat ≠ 1 →
      |(b.L : ℝ) - c.fs / (b.f * (Model.consts c).logfact)| ≤ 1 / 2 :=
  ltfPlan_forall h (fun f hf _ => ltfStep_logspaced c h f ((fmin_pos h).trans_le hf)) _

#print axioms ltfPlan_monotone
#print axioms lpsdPlan_monotone
#print axioms ltfPlan_K_formula
#print axioms lpsdPlan_K_formula
#print axioms plan_even_spread
#print axioms plan_overlap_reported
#print axioms plan_overlap_lt_one
#print axioms findJdes_sound
#print axioms findJdes_fuel
#print axioms findJdes_complete
#print axioms ltfPlan_logspaced
