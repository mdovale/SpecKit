/-
  SpecKitV.Props.AttrsA — properties C20, C06, C09, C07 of the generated attribute definitions
  (`SpecKitV/Gen/Attrs.lean`), at `α := ℝ`.

  The "closed form" lemmas (`cX` for `Cross.X`, `aX` for `Auto.X`: `ccoh` is about `Cross.coh`, not `Cross.ccoh`)
  are where the spelling of the generated definitions is read (guards `if bne S2 0 then … else 0`, literals
  `ofSci 20 true 1`); for the error bars: the `*_formula` theorems of AttrsB.  At ℝ division by zero is zero, so
  every guard is absorbed (`AttrsA.guard_div`): e.g. `Gxx = 2·XX/(fs·S2)` unconditionally.
-/
import SpecKitV.Lemmas.CxC
import SpecKitV.Gen.Attrs
open Gen

set_option linter.unusedSimpArgs false   -- the commutativity lemmas rewrite nothing in the source as it is

/-! the auto table spells these attributes exactly as the cross table does: each is one statement of the source, read in both modes
(`Gxx_emp_dev` / `Gxy_emp_dev` are two statements, and are proved side by side instead) -/

namespace Gen.Auto
variable {α : Type} [RealLike α] (d : BinData α)
theorem Gxx_eq_cross : Gxx d = Cross.Gxx d := rfl
theorem ENBW_eq_cross : ENBW d = Cross.ENBW d := rfl
theorem Gxx_dev_eq_cross : Gxx_dev d = Cross.Gxx_dev d := rfl
theorem Gxx_error_eq_cross : Gxx_error d = Cross.Gxx_error d := rfl
theorem XY_emp_var_eq_cross : XY_emp_var d = Cross.XY_emp_var d := rfl
theorem XY_emp_dev_eq_cross : XY_emp_dev d = Cross.XY_emp_dev d := rfl
end Gen.Auto

namespace AttrsA

theorem bne_zero_false {s : ℝ} (h : RealLike.bne s (RealLike.ofNat 0) = false) : s = 0 := by
  simpa using h
theorem bne_zero_true {s : ℝ} (h : RealLike.bne s (RealLike.ofNat 0) = true) : s ≠ 0 := by
  simpa using h
theorem gt_zero_true {s : ℝ} (h : RealLike.gt s (RealLike.ofNat 0) = true) : 0 < s := by
  simpa using h

/-- `h`: the guard fails only where `b = 0`, and there `a / 0 = 0` is the `else` value -/
theorem guard_div {c : Bool} {a b : ℝ} (h : c = false → b = 0) :
    (if c then a / b else RealLike.zero) = a / b := by
  cases c
  · rw [h rfl, div_zero, if_neg Bool.false_ne_true, RL.zero_eq]
  · exact if_pos rfl

theorem guard_divReal {c : Bool} {z : Cx ℝ} {b : ℝ} (h : c = false → b = 0) :
    Cx.toC (if c then Cx.divReal z b else Cx.ofReal RealLike.zero) = Cx.toC z / (b : ℂ) := by
  cases c
  · rw [h rfl, if_neg Bool.false_ne_true, Cx.toC_ofReal, RL.zero_eq, Complex.ofReal_zero, div_zero]
  · rw [if_pos rfl, Cx.toC_divReal]

theorem cGxx (d : BinData ℝ) : Cross.Gxx d = 2 * d.XX / (d.fs * d.S2) := by
  simp only [Cross.Gxx, mul_comm d.XX, mul_comm d.S2]
  rw [guard_div fun h => mul_eq_zero_of_right _ (bne_zero_false h), RL.lit_two]

theorem aGxx (d : BinData ℝ) : Auto.Gxx d = 2 * d.XX / (d.fs * d.S2) := cGxx d

theorem cGyy (d : BinData ℝ) : Cross.Gyy d = 2 * d.YY / (d.fs * d.S2) := by
  simp only [Cross.Gyy, mul_comm d.YY, mul_comm d.S2]
  rw [guard_div fun h => mul_eq_zero_of_right _ (bne_zero_false h), RL.lit_two]

theorem cENBW (d : BinData ℝ) : Cross.ENBW d = d.fs * d.S2 / d.S12 := by
  simp only [Cross.ENBW, mul_comm d.S2]
  exact guard_div bne_zero_false

theorem aENBW (d : BinData ℝ) : Auto.ENBW d = d.fs * d.S2 / d.S12 := cENBW d

theorem cGxy (d : BinData ℝ) :
    Cx.toC (Cross.Gxy d) = (2 : ℂ) * Cx.toC d.XY / ((d.fs * d.S2 : ℝ) : ℂ) := by
  simp only [Cross.Gxy, mul_comm d.S2]
  rw [guard_divReal fun h => mul_eq_zero_of_right _ (bne_zero_false h), Cx.toC_smul, RL.lit_two,
    Complex.ofReal_ofNat]

theorem cHxy (d : BinData ℝ) :
    Cx.toC (Cross.Hxy d) = (starRingEnd ℂ) (Cx.toC d.XY) / (d.XX : ℂ) := by
  simp only [Cross.Hxy]
  rw [guard_divReal bne_zero_false, Cx.toC_conj]

theorem cHyx (d : BinData ℝ) :
    Cx.toC (Cross.Hyx d) = Cx.toC d.XY / (d.XX : ℂ) := by
  rw [Cross.Hyx, Cx.toC_conj, cHxy, map_div₀, Complex.conj_conj, Complex.conj_ofReal]

theorem cGyx (d : BinData ℝ) :
    Cx.toC (Cross.Gyx d) = (2 : ℂ) * (starRingEnd ℂ) (Cx.toC d.XY) / ((d.fs * d.S2 : ℝ) : ℂ) := by
  rw [Cross.Gyx, Cx.toC_conj, cGxy, map_div₀, map_mul, Complex.conj_ofReal, map_ofNat]

theorem ccoh (d : BinData ℝ) : Cross.coh d = Cx.normSq d.XY / (d.XX * d.YY) := by
  simp only [Cross.coh, mul_comm d.YY]
  rw [guard_div, Cx.abs_mul_abs]
  intro h
  rcases Bool.and_eq_false_iff.1 h with h | h <;> simp only [bne_zero_false h, zero_mul, mul_zero]

theorem XY_emp_var_of_pos (d : BinData ℝ) (hn : 0 < d.navg) :
    Cross.XY_emp_var d = d.M2 / d.navg := by
  simp only [Cross.XY_emp_var]
  exact if_pos (by simpa using hn)

theorem XY_emp_var_nonneg (d : BinData ℝ) (hM : 0 ≤ d.M2) : 0 ≤ Cross.XY_emp_var d := by
  simp only [Cross.XY_emp_var]
  split_ifs with h
  · exact div_nonneg hM (gt_zero_true h).le
  · exact RL.zero_eq.ge

theorem XY_emp_var_of_M2_zero (d : BinData ℝ) (hM : d.M2 = 0) : Cross.XY_emp_var d = 0 := by
  simp only [Cross.XY_emp_var, hM, zero_div, RL.zero_eq, ite_self]

/-- any instance: the source repeats the statement of `XY_emp_var` -/
theorem XY_emp_dev_eq_sqrt {α : Type} [RealLike α] (d : BinData α) :
    Cross.XY_emp_dev d = RealLike.sqrt (Cross.XY_emp_var d) := rfl

theorem cGxx_error (d : BinData ℝ) : Cross.Gxx_error d = 1 / Real.sqrt d.navg := by
  simp only [Cross.Gxx_error, RL.sqrt_eq, RL.ofNat_eq, Nat.cast_one]

/-- the complex number inside `|·|` in `GyySx`, written with the closed forms of the densities and
transfer functions (`w = XY`, `x = XX`, `y = YY`, `F = fs·S2`), is the real number `Gyy·(1 − coh)`;
`h` is what Cauchy–Schwarz gives in the corner `YY = 0` -/
theorem residual_aux (x y F : ℝ) (w : ℂ) (h : y = 0 → w = 0) :
    ((2 * y / F : ℝ) : ℂ) + ((2 * x / F : ℝ) : ℂ) * ((starRingEnd ℂ) w / x * (w / x))
        - w / x * (2 * (starRingEnd ℂ) w / (F : ℂ)) - (starRingEnd ℂ) w / x * (2 * w / (F : ℂ))
      = ((2 * y / F * (1 - Complex.normSq w / (x * y)) : ℝ) : ℂ) := by
  push_cast
  -- `1/F` is a common factor: no case `F = 0`
  simp only [Complex.normSq_eq_conj_mul_self, div_eq_mul_inv _ (F : ℂ)]
  generalize (F : ℂ)⁻¹ = k
  by_cases hx : x = 0
  · simp [hx]
  by_cases hy : y = 0
  · simp [hy, h hy]
  have hxC : (x : ℂ) ≠ 0 := Complex.ofReal_ne_zero.2 hx
  have hyC : (y : ℂ) ≠ 0 := Complex.ofReal_ne_zero.2 hy
  field_simp
  ring

end AttrsA

open AttrsA

/-! ## C20 — derived quantities -/

theorem psd_alias (d : BinData ℝ) : Auto.psd d = Auto.Gxx d ∧ Auto.G d = Auto.Gxx d :=
  ⟨rfl, rfl⟩

theorem asd_sq (d : BinData ℝ) (hXX : 0 ≤ d.XX) (hS2 : 0 ≤ d.S2) (hfs : 0 < d.fs) :
    (Auto.asd d) ^ 2 = Auto.psd d := by
  have h : 0 ≤ Auto.psd d := by
    rw [(psd_alias d).1, aGxx]; positivity
  simp only [Auto.asd, RL.sqrt_eq]
  exact Real.sq_sqrt h

theorem ps_def (d : BinData ℝ) : Auto.ps d = Auto.psd d * Auto.ENBW d := by
  simp only [Auto.ps, mul_comm (Auto.ENBW d)]

theorem csd_alias (d : BinData ℝ) : Cross.csd d = Cross.Gxy d := rfl

/- `(Cross.ENBW d : ℂ)` alone makes Lean look for `RealLike ℂ`: hence the double ascription -/
theorem cs_def (d : BinData ℝ) :
    Cx.toC (Cross.cs d) = Cx.toC (Cross.csd d) * ((Cross.ENBW d : ℝ) : ℂ) := by
  simp only [Cross.cs, Cx.toC_smul]; ring

theorem tf_alias (d : BinData ℝ) : Cross.tf d = Cross.Hxy d := rfl

theorem cf_def (d : BinData ℝ) : Cross.cf d = ‖Cx.toC (Cross.Hxy d)‖ := by
  simp only [Cross.cf, Cx.abs_eq]

theorem cf_db_def (d : BinData ℝ) : Cross.cf_db d = 20 * Real.logb 10 (Cross.cf d) := by
  simp only [Cross.cf_db, RL.ofSci_eq, RL.log10_eq]; norm_num

theorem deg_rad (d : BinData ℝ) : Cross.cf_deg d = Cross.cf_rad d * (180 / Real.pi) := by
  simp [Cross.cf_deg, Cross.cf_rad]

theorem cf_rad_def (d : BinData ℝ) : Cross.cf_rad d = Complex.arg (Cx.toC (Cross.Hxy d)) := by
  simp only [Cross.cf_rad, RL.atan2_eq, Cx.toC]

theorem Gyx_conj (d : BinData ℝ) :
    Cx.toC (Cross.Gyx d) = (starRingEnd ℂ) (Cx.toC (Cross.Gxy d)) := by
  simp only [Cross.Gyx, Cx.toC_conj]

theorem Hyx_conj (d : BinData ℝ) :
    Cx.toC (Cross.Hyx d) = (starRingEnd ℂ) (Cx.toC (Cross.Hxy d)) := by
  simp only [Cross.Hyx, Cx.toC_conj]

/-- exactly these are None for the other analysis type (tables are generated from the code) -/
theorem none_table_cross : Cross.noneNames = ["G", "Gxx_emp_dev", "asd", "ps", "psd"] := rfl

theorem none_table_auto : Auto.noneNames = ["Gxy_dev", "Gxy_emp_dev", "Gxy_error", "Gyx", "GyyCx", "GyyRx", "GyySx", "Hxy", "Hxy_deg_error", "Hxy_dev", "Hxy_mag_error", "Hxy_rad_error", "Hyx", "ccoh", "cf", "cf_db", "cf_deg", "cf_rad", "coh", "coh_dev", "coh_error", "cs", "csd", "tf"] := rfl

/-! ## C06 — calibration
The non-vanishing hypotheses of `Gxx_def`, `Gxy_def`, `enbw_def`, `coh_def` are not used (nor `hS1` of `ps_eq`,
`hfs` of `Gxy_sq_le`): the zero guard of the code coincides with `x / 0 = 0` in ℝ/ℂ. -/

section
set_option linter.unusedVariables false

theorem Gxx_def (d : BinData ℝ) (hS2 : d.S2 ≠ 0) :
    Cross.Gxx d = 2 * d.XX / (d.fs * d.S2) ∧ Auto.Gxx d = 2 * d.XX / (d.fs * d.S2) :=
  ⟨cGxx d, aGxx d⟩

theorem Gxy_def (d : BinData ℝ) (hS2 : d.S2 ≠ 0) :
    Cx.toC (Cross.Gxy d) = (2 : ℂ) * Cx.toC d.XY / ((d.fs * d.S2 : ℝ) : ℂ) := cGxy d

theorem enbw_def (d : BinData ℝ) (h : d.S12 ≠ 0) :
    Auto.ENBW d = d.fs * d.S2 / d.S12 ∧ Cross.ENBW d = d.fs * d.S2 / d.S12 :=
  ⟨aENBW d, cENBW d⟩

theorem ps_eq (d : BinData ℝ) (S1 : ℝ) (h12 : d.S12 = S1 ^ 2) (hS1 : S1 ≠ 0) (hS2 : d.S2 ≠ 0)
    (hfs : d.fs ≠ 0) : Auto.ps d = 2 * d.XX / S1 ^ 2 := by
  rw [ps_def, (psd_alias d).1, aGxx, aENBW, h12]
  exact div_mul_div_cancel₀ (mul_ne_zero hfs hS2)

end

theorem scale_x (d : BinData ℝ) (c : ℝ) (hc : c ≠ 0) :
    let d' : BinData ℝ := { d with XX := c ^ 2 * d.XX, XY := Cx.smul c d.XY }
    Cross.Gxx d' = c ^ 2 * Cross.Gxx d ∧ Cross.Gyy d' = Cross.Gyy d ∧
    Cx.toC (Cross.Gxy d') = (c : ℂ) * Cx.toC (Cross.Gxy d) ∧
    Cross.coh d' = Cross.coh d ∧ Cx.toC (Cross.Hxy d') = Cx.toC (Cross.Hxy d) / (c : ℂ) := by
  intro d'
  refine ⟨?_, rfl, ?_, ?_, ?_⟩
  · rw [cGxx, cGxx, mul_left_comm, mul_div_assoc]
  · rw [cGxy, cGxy, Cx.toC_smul, mul_left_comm, mul_div_assoc]
  · rw [ccoh, ccoh, Cx.normSq_smul, mul_assoc, mul_div_mul_left _ _ (pow_ne_zero 2 hc)]
  · rw [cHxy, cHxy, Cx.toC_smul, map_mul, Complex.conj_ofReal, Complex.ofReal_mul,
      Complex.ofReal_pow, sq, mul_assoc, mul_div_mul_left _ _ (Complex.ofReal_ne_zero.2 hc),
      div_div, mul_comm (d.XX : ℂ)]

theorem scale_y (d : BinData ℝ) (c : ℝ) (hc : c ≠ 0) :
    let d' : BinData ℝ := { d with YY := c ^ 2 * d.YY, XY := Cx.smul c d.XY }
    Cross.Gyy d' = c ^ 2 * Cross.Gyy d ∧ Cross.Gxx d' = Cross.Gxx d ∧
    Cx.toC (Cross.Gxy d') = (c : ℂ) * Cx.toC (Cross.Gxy d) ∧
    Cross.coh d' = Cross.coh d ∧ Cx.toC (Cross.Hxy d') = (c : ℂ) * Cx.toC (Cross.Hxy d) := by
  intro d'
  refine ⟨?_, rfl, ?_, ?_, ?_⟩
  · rw [cGyy, cGyy, mul_left_comm, mul_div_assoc]
  · rw [cGxy, cGxy, Cx.toC_smul, mul_left_comm, mul_div_assoc]
  · rw [ccoh, ccoh, Cx.normSq_smul, mul_left_comm d.XX, mul_div_mul_left _ _ (pow_ne_zero 2 hc)]
  · rw [cHxy, cHxy, Cx.toC_smul, map_mul, Complex.conj_ofReal, mul_div_assoc]

/-- relabelling the sampling rate fs ↦ a·fs (same samples, same raw statistics) -/
theorem scale_fs (d : BinData ℝ) (a : ℝ) (ha : 0 < a) :
    let d' : BinData ℝ := { d with fs := a * d.fs }
    Auto.Gxx d' = Auto.Gxx d / a ∧ Auto.ENBW d' = a * Auto.ENBW d ∧ Auto.ps d' = Auto.ps d ∧
    Cross.coh d' = Cross.coh d ∧ Cross.Hxy d' = Cross.Hxy d ∧
    Cx.toC (Cross.Gxy d') = Cx.toC (Cross.Gxy d) / (a : ℂ) := by
  intro d'
  have h1 : Auto.Gxx d' = Auto.Gxx d / a := by
    rw [aGxx, aGxx, mul_assoc, div_mul_eq_div_div_swap]
  have h2 : Auto.ENBW d' = a * Auto.ENBW d := by
    rw [aENBW, aENBW, mul_assoc, mul_div_assoc]
  refine ⟨h1, h2, ?_, rfl, rfl, ?_⟩
  · rw [ps_def, ps_def, (psd_alias d').1, (psd_alias d).1, h1, h2, div_mul_eq_mul_div,
      mul_div_assoc, mul_div_cancel_left₀ _ ha.ne']
  · rw [cGxy, cGxy, mul_assoc, Complex.ofReal_mul a, div_mul_eq_div_div_swap]

/-! ## C09 — identities and bounds.  `CS d` is the Cauchy–Schwarz fact that every real estimate
satisfies (`cross_cs_complex`, Lemmas/CauchySchwarz; `gram_CS` in MisoGen). -/

def CS (d : BinData ℝ) : Prop := 0 ≤ d.XX ∧ 0 ≤ d.YY ∧ Cx.normSq d.XY ≤ d.XX * d.YY

theorem coh_bounds (d : BinData ℝ) (h : CS d) : 0 ≤ Cross.coh d ∧ Cross.coh d ≤ 1 := by
  obtain ⟨hx, hy, hcs⟩ := h
  rw [ccoh]
  have hp : 0 ≤ d.XX * d.YY := mul_nonneg hx hy
  exact ⟨div_nonneg (Cx.normSq_nonneg _) hp, div_le_one_of_le₀ hcs hp⟩

section
set_option linter.unusedVariables false

theorem Gxy_sq_le (d : BinData ℝ) (h : CS d) (hfs : 0 < d.fs) :
    Cx.normSq (Cross.Gxy d) ≤ Cross.Gxx d * Cross.Gyy d := by
  rw [Cx.normSq_eq, cGxy, cGxx, cGyy]
  generalize d.fs * d.S2 = F
  rw [map_div₀, map_mul, Complex.normSq_ofReal, Complex.normSq_ofNat, ← Cx.normSq_eq,
    div_mul_div_comm, mul_mul_mul_comm]
  exact div_le_div_of_nonneg_right (mul_le_mul_of_nonneg_left h.2.2 (by norm_num))
    (mul_self_nonneg _)

theorem coh_def (d : BinData ℝ) (hx : d.XX ≠ 0) (hy : d.YY ≠ 0) :
    Cross.coh d = Cx.normSq d.XY / (d.XX * d.YY) := ccoh d

end

theorem coh_one_of_eq (d : BinData ℝ) (hx : d.XX ≠ 0) (hy : d.YY ≠ 0)
    (h : Cx.normSq d.XY = d.XX * d.YY) : Cross.coh d = 1 := by
  rw [ccoh, h]; exact div_self (mul_ne_zero hx hy)

theorem swap_channels (d : BinData ℝ) :
    let d' : BinData ℝ := { d with XX := d.YY, YY := d.XX, XY := Cx.conj d.XY }
    Cross.coh d' = Cross.coh d ∧ Cross.Gxx d' = Cross.Gyy d ∧ Cross.Gyy d' = Cross.Gxx d ∧
    Cross.Gxy d' = Cx.conj (Cross.Gxy d) := by
  intro d'
  refine ⟨?_, rfl, rfl, ?_⟩
  · simp only [ccoh, d', Cx.normSq_conj, mul_comm]
  · apply Cx.toC_injective
    simp only [cGxy, d', Cx.toC_conj, map_div₀, map_mul, Complex.conj_ofReal, map_ofNat]

theorem conditioned_sum (d : BinData ℝ) : Cross.GyyCx d + Cross.GyyRx d = Cross.Gyy d := by
  simp only [Cross.GyyCx, Cross.GyyRx, RL.ofNat_eq]; push_cast; ring

/-- the optimal-subtraction residual equals Gyy·(1 − coherence), for every complex XY
(phase/delay included).  `CS` is only needed in the corner `YY = 0 ≠ XX` (it forces `XY = 0`). -/
theorem residual_identity (d : BinData ℝ) (h : CS d) :
    Cross.GyySx d = |Cross.Gyy d * (1 - Cross.coh d)| := by
  rw [Cross.GyySx, Cx.abs_eq, ← Real.norm_eq_abs, ← Complex.norm_real]
  congr 1
  simp only [Cx.toC_sub, Cx.toC_add, Cx.toC_mul, Cx.toC_smul, Cx.toC_ofReal, cHxy, cHyx, cGxy, cGyx,
    cGxx, cGyy, ccoh, Cx.normSq_eq]
  -- whichever way the four products of the source are spelled
  refine Eq.trans (by ring) (residual_aux d.XX d.YY (d.fs * d.S2) (Cx.toC d.XY) fun hy =>
    Complex.normSq_eq_zero.1 ?_)
  rw [← Cx.normSq_eq]
  exact le_antisymm (by simpa [hy] using h.2.2) (Cx.normSq_nonneg _)

theorem residual_identity' (d : BinData ℝ) (h : CS d) (hfs : 0 < d.fs) (hS2 : 0 ≤ d.S2) :
    Cross.GyySx d = Cross.Gyy d * (1 - Cross.coh d) := by
  rw [residual_identity d h]
  refine abs_of_nonneg (mul_nonneg ?_ (sub_nonneg.2 (coh_bounds d h).2))
  have hy := h.2.1
  rw [cGyy]; positivity

theorem residual_eq_GyyRx (d : BinData ℝ) (h : CS d) (hfs : 0 < d.fs) (hS2 : 0 ≤ d.S2) :
    Cross.GyySx d = Cross.GyyRx d := by
  rw [residual_identity' d h hfs hS2]
  simp only [Cross.GyyRx, Cross.GyyCx, RL.ofNat_eq]; push_cast; ring

/-- the auto-density of a channel is the same function of XX whether analysed alone or in a pair -/
theorem auto_consistent (d : BinData ℝ) : Auto.Gxx d = Cross.Gxx d := Auto.Gxx_eq_cross d

/-! ## C07 — transfer function -/

/-- static gain: Y = g·X in every segment gives XY = g·XX (real), YY = g²·XX -/
theorem tf_static_gain (d : BinData ℝ) (g : ℝ) (hx : d.XX ≠ 0) (hXY : d.XY = Cx.ofReal (g * d.XX))
    (hYY : d.YY = g ^ 2 * d.XX) :
    Cx.toC (Cross.Hxy d) = (g : ℂ) ∧ (g ≠ 0 → Cross.coh d = 1) := by
  constructor
  · rw [cHxy, hXY, Cx.toC_ofReal, Complex.conj_ofReal, Complex.ofReal_mul,
      mul_div_cancel_right₀ _ (Complex.ofReal_ne_zero.2 hx)]
  · intro hg
    rw [ccoh, hXY, hYY, Cx.normSq_eq, Cx.toC_ofReal, Complex.normSq_ofReal,
      show g * d.XX * (g * d.XX) = d.XX * (g ^ 2 * d.XX) by ring]
    exact div_self (mul_ne_zero hx (mul_ne_zero (pow_ne_zero 2 hg) hx))

theorem tf_zero_input (d : BinData ℝ) (hx : d.XX = 0) :
    Cx.toC (Cross.Hxy d) = 0 ∧ Cross.coh d = 0 := by
  rw [cHxy, ccoh, hx]; simp

/-- one segment: Hxy = Y/X, i.e. conj(X)·Y/|X|² — a lagging output has negative phase -/
theorem tf_is_Y_over_X (d : BinData ℝ) (X Y : ℂ) (hX : X ≠ 0) (hXX : d.XX = Complex.normSq X)
    (hXY : Cx.toC d.XY = X * (starRingEnd ℂ) Y) : Cx.toC (Cross.Hxy d) = Y / X := by
  rw [cHxy, hXY, hXX, map_mul, Complex.conj_conj, Complex.normSq_eq_conj_mul_self,
    mul_div_mul_left _ _ ((map_ne_zero _).2 hX)]

-- `CS` can be met
example : CS { XX := 2, YY := 3, XY := ⟨1, 1⟩, S12 := 4, S2 := 2, M2 := 0, navg := 3, fs := 1 } :=
  ⟨by norm_num, by norm_num, by norm_num [Cx.normSq]⟩

#print axioms psd_alias
#print axioms asd_sq
#print axioms ps_def
#print axioms csd_alias
#print axioms cs_def
#print axioms tf_alias
#print axioms cf_def
#print axioms cf_db_def
#print axioms deg_rad
#print axioms cf_rad_def
#print axioms Gyx_conj
#print axioms Hyx_conj
#print axioms none_table_cross
#print axioms none_table_auto
#print axioms Gxx_def
#print axioms Gxy_def
#print axioms enbw_def
#print axioms ps_eq
#print axioms scale_x
#print axioms scale_y
#print axioms scale_fs
#print axioms coh_bounds
#print axioms Gxy_sq_le
#print axioms coh_one_of_eq
#print axioms coh_def
#print axioms swap_channels
#print axioms conditioned_sum
#print axioms residual_identity
#print axioms residual_identity'
#print axioms residual_eq_GyyRx
#print axioms auto_consistent
#print axioms tf_static_gain
#print axioms tf_zero_input
#print axioms tf_is_Y_over_X
