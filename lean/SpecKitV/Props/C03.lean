/-
  SpecKitV.Props.C03 — the frequency grid of every plan obeys the DFT and stepping constraints:
  `r·L = fs`, `f < fs/2`, `b = f/r = f·L/fs`, consecutive frequencies differ by the resolution
  of the earlier bin, frequencies strictly increase, the first frequency is `fs/N·bmin` (`GridOK`), and the
  bin number stays above `bmin` (up to the rounding of `L` for the LTF/LPSD scheduler).  For the vectorised
  plan `vecPlan_grid` has the clauses of `GridOK` without `b = f·L/fs`, and no bound on the bin number.
-/
import SpecKitV.Props.C02

def GridOK (c : Model.Cfg ℝ) (bminEff : ℝ) (l : List (Model.Bin ℝ)) : Prop :=
  (∀ b ∈ l, b.r * (b.L : ℝ) = c.fs ∧ b.f < c.fs / 2 ∧ b.b = b.f / b.r ∧ b.b = b.f * (b.L : ℝ) / c.fs ∧ 0 < b.r) ∧
  l.IsChain (fun a b => b.f = a.f + a.r) ∧ l.Pairwise (fun a b => a.f < b.f) ∧
  (∀ b0, l.head? = some b0 → b0.f = c.fs / c.N * bminEff)

namespace PlanC03
open Model Sched PlanC02

theorem pairwise_lt_of_chain {β : Type} {l : List β} (f r : β → ℝ)
    (hc : l.IsChain (fun a b => f b = f a + r a)) (hr : ∀ a ∈ l, 0 < r a) :
    l.Pairwise (fun a b => f a < f b) := by
  have h1 : l.IsChain (fun a b => f a < f b) :=
    hc.imp_of_mem_imp (fun a b ha _ hab => by have := hr a ha; linarith)
  have : Trans (fun a b : β => f a < f b) (fun a b => f a < f b) (fun a b => f a < f b) :=
    ⟨fun h1 h2 => lt_trans h1 h2⟩
  exact h1.pairwise

theorem gridOK_of {c : Cfg ℝ} {bminEff : ℝ} {l : List (Bin ℝ)}
    (hbin : ∀ b ∈ l, b.r * (b.L : ℝ) = c.fs ∧ b.f < c.fs / 2 ∧ b.b = b.f / b.r ∧
      b.b = b.f * (b.L : ℝ) / c.fs ∧ 0 < b.r)
    (hchain : l.IsChain (fun a b => b.f = a.f + a.r))
    (hhead : ∀ b0, l.head? = some b0 → b0.f = c.fs / c.N * bminEff) : GridOK c bminEff l :=
  ⟨hbin, hchain, pairwise_lt_of_chain (fun b => b.f) (fun b => b.r) hchain
    (fun b hb => (hbin b hb).2.2.2.2), hhead⟩

/-- the per-bin clause of `GridOK` for a bin with the guaranteed `r, L, K` and `b = f / r` -/
theorem grid_bin {c : Cfg ℝ} {r : ℝ} {L : ℕ} {K : ℤ} (o : BinOK c r L K) (hfs : 0 < c.fs) {f b : ℝ}
    (hlt : f < (consts c).fmax) (hb : b = f / r) :
    r * (L : ℝ) = c.fs ∧ f < c.fs / 2 ∧ b = f / r ∧ b = f * (L : ℝ) / c.fs ∧ 0 < r :=
  ⟨o.rL, by rwa [fmax_eq] at hlt, hb, hb.trans (o.bin_eq f), o.r_pos hfs⟩

/-- the first frequency of a plan is the one its walk starts from -/
theorem head_f {σ β : Type} {cont : σ → Bool} {out : σ → β} {next : σ → σ} (mk : β → Bin ℝ) (fuel : ℕ) (s : σ) :
    ∀ b0, ((genWalk cont out next fuel s).map mk).head? = some b0 → b0.f = (mk (out s)).f := by
  intro b0 hb0
  rw [List.head?_map] at hb0
  obtain ⟨y, hy, rfl⟩ := Option.map_eq_some_iff.mp hb0
  rw [(genWalk.head fuel s y hy).2]

end PlanC03

open Sched PlanC02 PlanC03

theorem ltfPlan_grid (c : Model.Cfg ℝ) (h : Adm c) (extra : ℕ) :
    GridOK c c.bmin (Model.ltfPlan c (c.N + extra)) ∧
    ∀ b ∈ Model.ltfPlan c (c.N + extra), c.bmin - b.f / (2 * c.fs) ≤ b.b := by
  refine ⟨gridOK_of
      (ltfPlan_forall h (fun f _ hlt => grid_bin (ltfStep_ok h f) h.hfs hlt rfl) _)
      ((List.isChain_map (mkLtf c)).2 (walk_stepping _ _ _ _)) ?_,
    ltfPlan_forall h (fun f hf _ => ltfStep_bmin_slack c h f hf) _⟩
  rw [ltfPlan_map, SchedLtf.walk_eq_genWalk]
  exact head_f (mkLtf c) _ _

theorem lpsd_is_ltf (c : Model.Cfg ℝ) (fuel : ℕ) : Model.lpsdPlan c fuel = Model.ltfPlan { c with bmin := 1, Lmin := 1 } fuel := by
  rw [Model.lpsdPlan, RL.one_eq]

/-- hence the LPSD plan has the LTF grid properties with `bmin = 1` -/
theorem lpsdPlan_grid (c : Model.Cfg ℝ) (h : Adm c) (extra : ℕ) :
    GridOK c 1 (Model.lpsdPlan c (c.N + extra)) ∧
    ∀ b ∈ Model.lpsdPlan c (c.N + extra), 1 - b.f / (2 * c.fs) ≤ b.b := by
  have hA : Adm { c with bmin := (1 : ℝ), Lmin := 1 } := by
    have := adm_lpsd h
    rwa [RL.one_eq] at this
  rw [lpsd_is_ltf]
  exact ltfPlan_grid { c with bmin := (1 : ℝ), Lmin := 1 } hA extra

theorem newPlan_grid (c : Model.Cfg ℝ) (h : Adm c) (extra : ℕ) :
    GridOK c c.bmin (Model.newPlan c (c.N + extra)) ∧ ∀ b ∈ Model.newPlan c (c.N + extra), c.bmin ≤ b.b := by
  refine ⟨gridOK_of
      (newPlan_forall h (fun s hs hlt => grid_bin (SchedNV.newStep_ok h s) h.hfs hlt
        (SchedNV.newStep_bin c h.nv s ((fmin_pos h).trans_le hs)).1) _)
      ((List.isChain_map (mkNew c)).2 (SchedNV.newWalk_stepping _ _ _)) ?_,
    newPlan_forall h (fun s hs _ => SchedNV.newStep_bmin c h.nv s hs) _⟩
  rw [newPlan_map, SchedNV.newWalk_eq_genWalk]
  exact head_f (mkNew c) _ _

theorem vecPlan_grid (c : Model.Cfg ℝ) (h : Adm c) (fuel : ℕ) :
    (∀ b ∈ Model.vecPlan c fuel, b.r * (b.L : ℝ) = c.fs ∧ b.f < c.fs / 2 ∧ b.b = b.f / b.r ∧ 0 < b.r) ∧
    (Model.vecPlan c fuel).IsChain (fun a b => b.f = a.f + a.r) ∧
    (∀ b0, (Model.vecPlan c fuel).head? = some b0 → b0.f = c.bmin * c.fs / c.N) := by
  refine ⟨vecPlan_forall c (fun f i _ hlt _ => ?_) fuel,
    (List.isChain_map (mkVec c)).2 (SchedNV.vecWalk_stepping _ _ _ _ _ _), ?_⟩
  · exact ⟨(vecMap_ok h i).rL, hlt, rfl, (vecMap_ok h i).r_pos h.hfs⟩
  · rw [vecPlan_map, vecEntries, SchedNV.vecWalk_eq_genWalk]
    exact head_f (mkVec c) _ _

theorem vecPlan_increasing (c : Model.Cfg ℝ) (h : Adm c) (fuel : ℕ) :
    (Model.vecPlan c fuel).Pairwise (fun a b => a.f < b.f) :=
  pairwise_lt_of_chain (fun b => b.f) (fun b => b.r) (vecPlan_grid c h fuel).2.1
    (fun b hb => ((vecPlan_grid c h fuel).1 b hb).2.2.2)

#print axioms ltfPlan_grid
#print axioms lpsd_is_ltf
#print axioms lpsdPlan_grid
#print axioms newPlan_grid
#print axioms vecPlan_grid
#print axioms vecPlan_increasing
