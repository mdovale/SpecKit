/-
  The machine-translated glue of speckit/analysis.py between a plan and the kernels (Gen/LpsdCore.lean) is the hand model, whatever
  kernels, basis builder and backend rule it is run with: `Gen._lpsd_core` WITH its two dict caches is the cache-free map over the bins of
  `Model.lpsdRow ∘ Model.dispatchWith (selected backend)`, and its raise flag is stated outright; the kernel section of
  `compute_single_bin` is the same dispatch on the one requested bin; `plan()`'s validation is `planValid` on every bin, its band
  restriction `Model.bandFilter` on every per-bin field.
-/
import SpecKitV.Gen.LpsdCore
import SpecKitV.Model.LpsdCore
import SpecKitV.Lemmas.AnalyzerGlue
import SpecKitV.Props.C02

-- Props/LpsdCoreGen continues this namespace; the checks address the theorems below as `LpsdCoreGen.*`
namespace LpsdCoreGen

theorem dictHas_true {κ ν : Type} [DecidableEq κ] {d : List (κ × ν)} {k : κ} (h : NpLC.dictHas d k = true) :
    ∃ v, Model.lookup k d = some v :=
  Option.isSome_iff_exists.mp h

theorem dictHas_false {κ ν : Type} [DecidableEq κ] (d : List (κ × ν)) (k : κ) (h : ¬ NpLC.dictHas d k = true) :
    Model.lookup k d = none :=
  Option.not_isSome_iff_eq_none.mp h

theorem dictGet_of_lookup {κ ν : Type} [DecidableEq κ] (dflt : ν) {d : List (κ × ν)} {k : κ} {v : ν}
    (h : Model.lookup k d = some v) : NpLC.dictGet dflt d k = v := by
  unfold NpLC.dictGet
  rw [h]
  rfl

theorem lookup_dictSet {κ ν : Type} [DecidableEq κ] (d : List (κ × ν)) (k k' : κ) (v : ν) :
    Model.lookup k' (NpLC.dictSet d k v) = if k' = k then some v else Model.lookup k' d := rfl

theorem dictGet_dictSet_self {κ ν : Type} [DecidableEq κ] (dflt : ν) (d : List (κ × ν)) (k : κ) (v : ν) :
    NpLC.dictGet dflt (NpLC.dictSet d k v) k = v :=
  dictGet_of_lookup dflt ((lookup_dictSet d k k v).trans (if_pos rfl))

/-! ### the window closure `_build_window` of `_lpsd_core` (analysis.py:864-880) -/

noncomputable def winEntry (wf : NpLC.WinFunc ℝ) (alpha : ℝ) (L : ℕ) : Arr ℝ × ℝ × ℝ :=
  (Model.lpsdWindow wf alpha L, NpLC.sum (Model.lpsdWindow wf alpha L),
    NpLC.sum (Arr.mul (Model.lpsdWindow wf alpha L) (Model.lpsdWindow wf alpha L)))

def WinCacheOk (wf : NpLC.WinFunc ℝ) (alpha : ℝ) (wc : List (ℕ × (Arr ℝ × ℝ × ℝ))) : Prop :=
  ∀ L v, Model.lookup L wc = some v → v = winEntry wf alpha L

theorem winCacheOk_set {wf : NpLC.WinFunc ℝ} {alpha : ℝ} {wc : List (ℕ × (Arr ℝ × ℝ × ℝ))} {L : ℕ} (h : WinCacheOk wf alpha wc) :
    WinCacheOk wf alpha (NpLC.dictSet wc L (winEntry wf alpha L)) :=
  Model.lookup_cons_ok (winEntry wf alpha) wc h L

theorem gen_build_window_eq (wc : List (ℕ × (Arr ℝ × ℝ × ℝ))) (wf : NpLC.WinFunc ℝ) (alpha : ℝ) (L : ℕ) :
    Gen._lpsd_core___build_window wc wf alpha L =
      if NpLC.dictHas wc L then (false, NpLC.dictGet (NpLC.noneArr, RealLike.ofNat 0, RealLike.ofNat 0) wc L, wc)
      else (decide ((Model.lpsdWindow wf alpha L).n ≠ L), winEntry wf alpha L, NpLC.dictSet wc L (winEntry wf alpha L)) := by
  unfold Gen._lpsd_core___build_window winEntry Model.lpsdWindow
  -- `mul_comm` is idle on `alpha * np.pi`, as the linter notes; it is there for the spelling `np.pi * alpha` (also in `gen_single_window`)
  split_ifs <;> simp only [NpLC.join_mk, dictGet_dictSet_self, Bool.false_or, RLmul, mul_comm]

theorem gen_build_window_spec (wc : List (ℕ × (Arr ℝ × ℝ × ℝ))) (wf : NpLC.WinFunc ℝ) (alpha : ℝ) (L : ℕ)
    (h : WinCacheOk wf alpha wc) :
    (Gen._lpsd_core___build_window wc wf alpha L).2.1 = winEntry wf alpha L ∧
    WinCacheOk wf alpha (Gen._lpsd_core___build_window wc wf alpha L).2.2 := by
  rw [gen_build_window_eq]
  split_ifs with hh
  · obtain ⟨v, hv⟩ := dictHas_true hh
    exact ⟨(dictGet_of_lookup _ hv).trans (h L v hv), h⟩
  · exact ⟨rfl, winCacheOk_set h⟩

/-- the closure's `raised_`: only a freshly built window is measured (`w.shape[0] != L`) -/
theorem gen_build_window_flag (wc : List (ℕ × (Arr ℝ × ℝ × ℝ))) (wf : NpLC.WinFunc ℝ) (alpha : ℝ) (L : ℕ) :
    (Gen._lpsd_core___build_window wc wf alpha L).1
      = (!(NpLC.dictHas wc L) && decide ((Model.lpsdWindow wf alpha L).n ≠ L)) := by
  rw [gen_build_window_eq]
  cases NpLC.dictHas wc L <;> rfl

/-- with NumPy's / SciPy's Kaiser window (contract `NpLC.kaiser`) the window handed to the kernels is the DFT-even
    `Model.kaiserWin L (alpha·π)`: the first `L` points of the `(L+1)`-point symmetric window -/
theorem lpsdWindow_kaiser (c1 : ℕ → Arr ℝ) (alpha : ℝ) (L : ℕ) :
    Model.lpsdWindow ⟨true, c1, NpLC.kaiser⟩ alpha L = ⟨L, Model.kaiserWin L (alpha * Real.pi)⟩ := by
  have h2 : Int.toNat (((L + 1 : ℕ) : ℤ) + -1) = L := by omega
  simp only [Model.lpsdWindow, NpLC.sliceTo, NpLC.kaiser, ↓reduceIte, Int.reduceNeg, Int.reduceLT, h2, Nat.le_succ]
  rfl

/-- so the length test of `_build_window` never fires for it -/
theorem lpsdWindow_kaiser_len (c1 : ℕ → Arr ℝ) (alpha : ℝ) (L : ℕ) : (Model.lpsdWindow ⟨true, c1, NpLC.kaiser⟩ alpha L).n = L := by
  rw [lpsdWindow_kaiser]

theorem lpsdWindow_kaiser_dft_even (c1 : ℕ → Arr ℝ) (alpha : ℝ) (L n : ℕ) (hn0 : 0 < n) (hn : n < L) :
    (Model.lpsdWindow ⟨true, c1, NpLC.kaiser⟩ alpha L).get n = (Model.lpsdWindow ⟨true, c1, NpLC.kaiser⟩ alpha L).get (L - n) := by
  rw [lpsdWindow_kaiser]
  exact kaiserWin_dft_even L (alpha * Real.pi) n hn0 hn

theorem lpsdWindow_other (c1 : ℕ → Arr ℝ) (c2 : ℕ → ℝ → Arr ℝ) (alpha : ℝ) (L : ℕ) :
    Model.lpsdWindow ⟨false, c1, c2⟩ alpha L = c1 L := rfl

section dispatch
variable {k : NpLC.Kernels6 ℝ} {iscsd : Bool} {x1 x2 : Arr ℝ} {fs : ℝ} {b : Model.PBin ℝ} {w : Arr ℝ}

theorem dispatchWith_neg_one (q : Option (Arr2 ℝ)) :
    Model.dispatchWith k iscsd (-1) x1 x2 fs b w q =
      if iscsd then k.win_only_csd x1 x2 b.D b.L w (RealLike.two * RealLike.pi * b.f / fs)
      else k.win_only_auto x1 b.D b.L w (RealLike.two * RealLike.pi * b.f / fs) := rfl

theorem dispatchWith_zero (q : Option (Arr2 ℝ)) :
    Model.dispatchWith k iscsd 0 x1 x2 fs b w q =
      if iscsd then k.detrend0_csd x1 x2 b.D b.L w (RealLike.two * RealLike.pi * b.f / fs)
      else k.detrend0_auto x1 b.D b.L w (RealLike.two * RealLike.pi * b.f / fs) := rfl

theorem dispatchWith_poly {order : ℤ} (h : order = 1 ∨ order = 2) (Q : Arr2 ℝ) :
    Model.dispatchWith k iscsd order x1 x2 fs b w (some Q) =
      if iscsd then k.poly_csd x1 x2 b.D b.L w (RealLike.two * RealLike.pi * b.f / fs) Q
      else k.poly_auto x1 b.D b.L w (RealLike.two * RealLike.pi * b.f / fs) Q := by
  have h1 : order ≠ -1 := by omega
  have h0 : order ≠ 0 := by omega
  simp only [Model.dispatchWith, if_neg h1, if_neg h0, if_pos h]

theorem dispatchWith_unsupported {order : ℤ} (h1 : order ≠ -1) (h0 : order ≠ 0) (h12 : ¬ (order = 1 ∨ order = 2)) (q : Option (Arr2 ℝ)) :
    Model.dispatchWith k iscsd order x1 x2 fs b w q = (0, 0, 0, 0, 0) := by
  simp only [Model.dispatchWith, if_neg h1, if_neg h0, if_neg h12, RL.zero_eq]

/-- in auto mode the second record is not read: the `None` the code binds to `x2` then is as good as any array -/
theorem dispatchWith_x2 (order : ℤ) (q : Option (Arr2 ℝ)) :
    Model.dispatchWith k iscsd order x1 (if iscsd then x2 else NpLC.noneArr) fs b w q = Model.dispatchWith k iscsd order x1 x2 fs b w q := by
  cases iscsd <;> rfl

end dispatch

section pick
variable (fam : NpLC.KernelFamily ℝ) (b : String) (x x1 x2 : Arr ℝ) (s : Arr ℕ) (L : ℕ) (w : Arr ℝ) (ω : ℝ) (Q : Arr2 ℝ)

/-- a projection of the picked kernels, backend by backend: the six equations below are its instances (simp cannot match the general form) -/
theorem pick_apply {β : Type} (π : NpLC.Kernels6 ℝ → β) :
    π (fam.pick b) =
      if b = "cuda" then π ⟨fam._stats_win_only_auto_cuda, fam._stats_win_only_csd_cuda, fam._stats_detrend0_auto_cuda,
        fam._stats_detrend0_csd_cuda, fam._stats_poly_auto_cuda, fam._stats_poly_csd_cuda⟩
      else if b = "numba" then π ⟨fam._stats_win_only_auto, fam._stats_win_only_csd, fam._stats_detrend0_auto, fam._stats_detrend0_csd,
        fam._stats_poly_auto, fam._stats_poly_csd⟩
      else π ⟨fam._stats_win_only_auto_np, fam._stats_win_only_csd_np, fam._stats_detrend0_auto_np, fam._stats_detrend0_csd_np,
        fam._stats_poly_auto_np, fam._stats_poly_csd_np⟩ := by
  unfold NpLC.KernelFamily.pick
  rw [apply_ite π, apply_ite π]

theorem pick_win_only_auto : (fam.pick b).win_only_auto x s L w ω =
    if b = "cuda" then fam._stats_win_only_auto_cuda x s L w ω else if b = "numba" then fam._stats_win_only_auto x s L w ω
    else fam._stats_win_only_auto_np x s L w ω :=
  pick_apply fam b (fun k => k.win_only_auto x s L w ω)

theorem pick_win_only_csd : (fam.pick b).win_only_csd x1 x2 s L w ω =
    if b = "cuda" then fam._stats_win_only_csd_cuda x1 x2 s L w ω else if b = "numba" then fam._stats_win_only_csd x1 x2 s L w ω
    else fam._stats_win_only_csd_np x1 x2 s L w ω :=
  pick_apply fam b (fun k => k.win_only_csd x1 x2 s L w ω)

theorem pick_detrend0_auto : (fam.pick b).detrend0_auto x s L w ω =
    if b = "cuda" then fam._stats_detrend0_auto_cuda x s L w ω else if b = "numba" then fam._stats_detrend0_auto x s L w ω
    else fam._stats_detrend0_auto_np x s L w ω :=
  pick_apply fam b (fun k => k.detrend0_auto x s L w ω)

theorem pick_detrend0_csd : (fam.pick b).detrend0_csd x1 x2 s L w ω =
    if b = "cuda" then fam._stats_detrend0_csd_cuda x1 x2 s L w ω else if b = "numba" then fam._stats_detrend0_csd x1 x2 s L w ω
    else fam._stats_detrend0_csd_np x1 x2 s L w ω :=
  pick_apply fam b (fun k => k.detrend0_csd x1 x2 s L w ω)

theorem pick_poly_auto : (fam.pick b).poly_auto x s L w ω Q =
    if b = "cuda" then fam._stats_poly_auto_cuda x s L w ω Q else if b = "numba" then fam._stats_poly_auto x s L w ω Q
    else fam._stats_poly_auto_np x s L w ω Q :=
  pick_apply fam b (fun k => k.poly_auto x s L w ω Q)

theorem pick_poly_csd : (fam.pick b).poly_csd x1 x2 s L w ω Q =
    if b = "cuda" then fam._stats_poly_csd_cuda x1 x2 s L w ω Q else if b = "numba" then fam._stats_poly_csd x1 x2 s L w ω Q
    else fam._stats_poly_csd_np x1 x2 s L w ω Q :=
  pick_apply fam b (fun k => k.poly_csd x1 x2 s L w ω Q)

theorem pick_ofBackends (n c p : NpLC.Kernels6 ℝ) :
    (NpLC.KernelFamily.ofBackends n c p).pick b = if b = "cuda" then c else if b = "numba" then n else p :=
  pick_apply (NpLC.KernelFamily.ofBackends n c p) b id

end pick

/-! ### the shapes the translator gives a branch that assigns the kernel's five results, and their joins -/

theorem stats_eta (r : Bool) (t : ℝ × ℝ × ℝ × ℝ × ℝ) : (r, t.1, t.2.1, t.2.2.1, t.2.2.2.1, t.2.2.2.2) = (r, t) := rfl

theorem ite_pair {β γ : Type} (c : Prop) [Decidable c] (r : β) (x y : γ) : (if c then (r, x) else (r, y)) = (r, if c then x else y) := by
  split_ifs <;> rfl

theorem join_ite {β γ : Type} (c : Prop) [Decidable c] (a b : β) (k : β → γ) :
    NpLC.join (if c then a else b) k = if c then NpLC.join a k else NpLC.join b k := by
  split_ifs <;> rfl

theorem lpsdRow_eta (i : ℕ) (t : ℝ × ℝ × ℝ × ℝ × ℝ) (a b : ℝ) :
    (i, (⟨t.2.2.1, t.2.2.2.1⟩ : Cx ℝ), t.1, t.2.1, a, b, t.2.2.2.2, ()) = Model.lpsdRow i t (a, b) := rfl

/-! ### the per-bin loop of `_lpsd_core` (analysis.py:832-1012)

Parameters (also in Props/LpsdCoreGen, PipelineClosed): `fam` the 18 kernels by name; `bq L order` = `_build_Q`; `sel K hint` =
`_select_backend` for a bin of `K` segments; `wf alpha order cb` = `config["win_func" | "alpha" | "order" | "backend"]` (`cb` is the hint
`sel` gets); `x1 x2 iscsd fs nx` = `self.x1 … self.nx` (`nx`: the record length `N` of the bounds test); `pL pD pf` = `plan["L" | "D" | "f"]`;
`idx` = `f_indices`. -/

theorem foldl_inv {σ ι : Type} (P : List ι → σ → Prop) (f : σ → ι → σ) (l : List ι) (init : σ)
    (h0 : P [] init) (hs : ∀ pre i s, P pre s → P (pre ++ [i]) (f s i)) : P l (List.foldl f init l) := by
  induction l using List.reverseRecOn with
  | nil => exact h0
  | append_singleton pre i ih =>
    rw [List.foldl_append]
    exact hs pre i _ ih

def QCacheOk (bq : ℕ → ℤ → Arr2 ℝ) (qc : List ((ℕ × ℤ) × Arr2 ℝ)) : Prop :=
  ∀ k q, Model.lookup k qc = some q → q = bq k.1 k.2

theorem qCacheOk_set {bq : ℕ → ℤ → Arr2 ℝ} {qc : List ((ℕ × ℤ) × Arr2 ℝ)} {k : ℕ × ℤ} (h : QCacheOk bq qc) :
    QCacheOk bq (NpLC.dictSet qc k (bq k.1 k.2)) :=
  Model.lookup_cons_ok (fun k : ℕ × ℤ => bq k.1 k.2) qc h k

theorem two_lit : (RealLike.ofSci 20 true 1 : ℝ) = RealLike.two := RL.lit_two.trans RL.two_eq.symm

/-- the model's row for plan index `i` -/
noncomputable def rowAt (fam : NpLC.KernelFamily ℝ) (bq : ℕ → ℤ → Arr2 ℝ) (sel : ℕ → String → String) (wf : NpLC.WinFunc ℝ) (alpha : ℝ)
    (order : ℤ) (cb : String) (x1 x2 : Arr ℝ) (iscsd : Bool) (fs : ℝ) (pL : Arr ℕ) (pD : Arr (Arr ℕ)) (pf : Arr ℝ) (i : ℕ) :
    Model.LpsdRow ℝ :=
  Model.lpsdRow i
    (Model.dispatchWith (fam.pick (sel (pD.get i).n cb)) iscsd order x1 x2 fs (Model.pbinAt pf pL pD i)
      (Model.lpsdWindow wf alpha (pL.get i)) (if order = 1 ∨ order = 2 then some (bq (pL.get i) order) else none))
    (Model.winSums (Model.lpsdWindow wf alpha (pL.get i)))

/-- the bounds test of one bin (analysis.py:889): some start is negative (never, of the ℕ starts here) or exceeds `N - L` -/
def boundsFlag (nx : ℤ) (L : ℕ) (D : Arr ℕ) : Bool :=
  NpLC.any ⟨D.n, fun j => decide (D.get j < 0)⟩ || NpLC.any ⟨D.n, fun j => decide ((D.get j : ℤ) > nx - (L : ℤ))⟩

/-- `raise ValueError("Unsupported detrend order")` -/
def orderBad (order : ℤ) : Bool :=
  !(decide (order = -1) || decide (order = 0) || decide (order = 1) || decide (order = 2))

theorem orderBad_eq_false_iff (order : ℤ) : orderBad order = false ↔ (order = -1 ∨ order = 0 ∨ order = 1 ∨ order = 2) := by
  unfold orderBad
  simp only [Bool.not_eq_false', Bool.or_eq_true, decide_eq_true_eq, or_assoc]

/-- one iteration of the translated loop (analysis.py:882-1010): the model's row for bin `i` is appended, both caches stay sound, and
    the flag is raised for an out-of-range start, a freshly built window of the wrong length, or an unsupported order.
    The result is named (`st'`, `hst`) so that the body is rewritten in a hypothesis, away from the goal. `x1 … nx` occur twice in the call:
    after its own parameters the translated body takes the locals the Python loop reads (`x2` is `None` there in auto mode). -/
theorem gen_lpsd_core_step (fam : NpLC.KernelFamily ℝ) (bq : ℕ → ℤ → Arr2 ℝ) (sel : ℕ → String → String) (wf : NpLC.WinFunc ℝ) (alpha : ℝ)
    (order : ℤ) (cb : String) (x1 x2 : Arr ℝ) (iscsd : Bool) (fs : ℝ) (nx : ℤ) (pL : Arr ℕ) (pD : Arr (Arr ℕ)) (pf : Arr ℝ)
    (idx : List ℕ) (r : Bool) (wc : List (ℕ × (Arr ℝ × ℝ × ℝ))) (qc : List ((ℕ × ℤ) × Arr2 ℝ)) (rows : List (Model.LpsdRow ℝ)) (i : ℕ)
    (hwc : WinCacheOk wf alpha wc) (hqc : QCacheOk bq qc)
    (st' : Bool × List (ℕ × (Arr ℝ × ℝ × ℝ)) × List ((ℕ × ℤ) × Arr2 ℝ) × List (Model.LpsdRow ℝ))
    (hst : Gen._lpsd_core_loop1 fam bq sel wf alpha order cb x1 x2 iscsd fs nx pL pD pf idx x1 (if iscsd then x2 else NpLC.noneArr)
      wf alpha order fs nx (r, wc, qc, rows) i = st') :
    st'.2.2.2 = rows ++ [rowAt fam bq sel wf alpha order cb x1 x2 iscsd fs pL pD pf i] ∧ WinCacheOk wf alpha st'.2.1 ∧
    QCacheOk bq st'.2.2.1 ∧
    st'.1 = (r || boundsFlag nx (pL.get i) (pD.get i) ||
      (!(NpLC.dictHas wc (pL.get i)) && decide ((Model.lpsdWindow wf alpha (pL.get i)).n ≠ pL.get i)) || orderBad order) ∧
    st'.2.1 = (Gen._lpsd_core___build_window wc wf alpha (pL.get i)).2.2 := by
  obtain ⟨hw1, hw2⟩ := gen_build_window_spec wc wf alpha (pL.get i) hwc
  have hw0 := gen_build_window_flag wc wf alpha (pL.get i)
  rw [rowAt, ← dispatchWith_x2]
  unfold Gen._lpsd_core_loop1 at hst
  -- one pass: the continuation is pushed into the order tests (`join_ite`); every branch that assigns the kernel's results takes the shape
  -- `(flag, kernel result)` with the three-way backend tests folded into `KernelFamily.pick`, and the row becomes `Model.lpsdRow`
  simp only [NpLC.join_mk, join_ite, stats_eta, ite_pair, lpsdRow_eta, decide_eq_true_eq, two_lit,
    ← pick_win_only_auto, ← pick_win_only_csd, ← pick_detrend0_auto, ← pick_detrend0_csd, ← pick_poly_auto, ← pick_poly_csd,
    hw1, hw0, Bool.or_eq_true] at hst
  by_cases ho1 : order = -1
  · subst ho1
    rw [if_pos rfl] at hst
    subst hst
    exact ⟨rfl, hw2, hqc, (Bool.or_false _).symm, rfl⟩
  · by_cases ho0 : order = 0
    · subst ho0
      rw [if_neg ho1, if_pos rfl] at hst
      subst hst
      exact ⟨rfl, hw2, hqc, (Bool.or_false _).symm, rfl⟩
    · by_cases ho12 : order = 1 ∨ order = 2
      · have hb : orderBad order = false := (orderBad_eq_false_iff order).2 (Or.inr (Or.inr ho12))
        rw [if_pos ho12, dispatchWith_poly ho12, hb]
        rw [if_neg ho1, if_neg ho0, if_pos ho12] at hst
        cases hq : Model.lookup (pL.get i, order) qc with
        | none =>
          simp only [NpLC.dictGetOpt, hq, NpLC.join_mk, lpsdRow_eta] at hst
          subst hst
          exact ⟨rfl, hw2, qCacheOk_set hqc, (Bool.or_false _).symm, rfl⟩
        | some Q =>
          obtain rfl : Q = bq (pL.get i) order := hqc _ _ hq
          simp only [NpLC.dictGetOpt, hq, NpLC.join_mk, lpsdRow_eta] at hst
          subst hst
          exact ⟨rfl, hw2, hqc, (Bool.or_false _).symm, rfl⟩
      · have hb : orderBad order = true := by
          rw [← Bool.not_eq_false, orderBad_eq_false_iff]
          exact not_or.mpr ⟨ho1, not_or.mpr ⟨ho0, ho12⟩⟩
        rw [dispatchWith_unsupported ho1 ho0 ho12, hb]
        rw [if_neg ho1, if_neg ho0, if_neg ho12, RL.ofNat_eq, Nat.cast_zero] at hst
        subst hst
        exact ⟨rfl, hw2, hqc, (Bool.or_true _).symm, rfl⟩

theorem or_skip_of_imp (r B H D C : Bool) (h : H = true → D = true → r = true) :
    (r || B || (!H && D) || C) = (r || (B || D || C)) := by
  cases r <;> cases H <;> cases D <;> simp_all

/-- bin `i` makes `_lpsd_core` raise -/
noncomputable def binBad (wf : NpLC.WinFunc ℝ) (alpha : ℝ) (order : ℤ) (nx : ℤ) (pL : Arr ℕ) (pD : Arr (Arr ℕ)) (i : ℕ) : Bool :=
  boundsFlag nx (pL.get i) (pD.get i) || decide ((Model.lpsdWindow wf alpha (pL.get i)).n ≠ pL.get i) || orderBad order

theorem gen_lpsd_core_fold (fam : NpLC.KernelFamily ℝ) (bq : ℕ → ℤ → Arr2 ℝ) (sel : ℕ → String → String) (wf : NpLC.WinFunc ℝ) (alpha : ℝ)
    (order : ℤ) (cb : String) (x1 x2 : Arr ℝ) (iscsd : Bool) (fs : ℝ) (nx : ℤ) (pL : Arr ℕ) (pD : Arr (Arr ℕ)) (pf : Arr ℝ)
    (idx : List ℕ) :
    Gen._lpsd_core fam bq sel wf alpha order cb x1 x2 iscsd fs nx pL pD pf idx
      = (idx.any (binBad wf alpha order nx pL pD), idx.map (rowAt fam bq sel wf alpha order cb x1 x2 iscsd fs pL pD pf)) := by
  unfold Gen._lpsd_core
  simp only [NpLC.join]
  have key := foldl_inv
    (fun pre (st : Bool × List (ℕ × (Arr ℝ × ℝ × ℝ)) × List ((ℕ × ℤ) × Arr2 ℝ) × List (Model.LpsdRow ℝ)) =>
      st.2.2.2 = pre.map (rowAt fam bq sel wf alpha order cb x1 x2 iscsd fs pL pD pf) ∧ WinCacheOk wf alpha st.2.1 ∧
      QCacheOk bq st.2.2.1 ∧ st.1 = pre.any (binBad wf alpha order nx pL pD) ∧
      (∀ L v, Model.lookup L st.2.1 = some v → ∃ j ∈ pre, pL.get j = L))
    (Gen._lpsd_core_loop1 fam bq sel wf alpha order cb x1 x2 iscsd fs nx pL pD pf idx x1 (if iscsd then x2 else NpLC.noneArr)
      wf alpha order fs nx) idx (false, NpLC.dictEmpty, NpLC.dictEmpty, [])
    ⟨rfl, Model.lookup_nil_ok _, Model.lookup_nil_ok _, rfl, Model.lookup_nil_ok _⟩
    (by
      rintro pre i ⟨r, wc, qc, rows⟩ ⟨hrows, hwc, hqc, hr, hkeys⟩
      dsimp only at hrows hwc hqc hr hkeys
      obtain ⟨h1, h2, h3, h4, h5⟩ := gen_lpsd_core_step fam bq sel wf alpha order cb x1 x2 iscsd fs nx pL pD pf idx r wc qc rows i hwc hqc _ rfl
      have hmono : ∀ L v, Model.lookup L wc = some v → ∃ j ∈ pre ++ [i], pL.get j = L := fun L v hl =>
        (hkeys L v hl).imp fun j hj => ⟨List.mem_append_left _ hj.1, hj.2⟩
      refine ⟨?_, h2, h3, ?_, ?_⟩
      · rw [h1, hrows, List.map_append, List.map_cons, List.map_nil]
      · -- a hit skips the length test, but the bin that stored the entry had the same `L` and was tested: the flag is set already
        rw [h4, List.any_append, List.any_cons, List.any_nil, Bool.or_false, hr]
        refine or_skip_of_imp _ _ _ _ _ (fun hh hd => ?_)
        obtain ⟨v, hv⟩ := dictHas_true hh
        obtain ⟨j, hj, hjL⟩ := hkeys _ _ hv
        refine List.any_eq_true.mpr ⟨j, hj, ?_⟩
        unfold binBad
        rw [hjL, hd, Bool.or_true, Bool.true_or]
      · intro L v hl
        rw [h5, gen_build_window_eq] at hl
        split_ifs at hl with hh
        · exact hmono L v hl
        · rw [lookup_dictSet] at hl
          split_ifs at hl with hLL
          · exact ⟨i, List.mem_append_right _ (List.mem_singleton_self i), hLL.symm⟩
          · exact hmono L v hl)
  obtain ⟨k1, -, -, k4, -⟩ := key
  exact Prod.ext k4 k1

theorem gen_lpsd_core_rows (fam : NpLC.KernelFamily ℝ) (bq : ℕ → ℤ → Arr2 ℝ) (sel : ℕ → String → String) (wf : NpLC.WinFunc ℝ) (alpha : ℝ)
    (order : ℤ) (cb : String) (x1 x2 : Arr ℝ) (iscsd : Bool) (fs : ℝ) (nx : ℤ) (pL : Arr ℕ) (pD : Arr (Arr ℕ)) (pf : Arr ℝ)
    (idx : List ℕ) :
    (Gen._lpsd_core fam bq sel wf alpha order cb x1 x2 iscsd fs nx pL pD pf idx).2
      = idx.map (rowAt fam bq sel wf alpha order cb x1 x2 iscsd fs pL pD pf) := by
  rw [gen_lpsd_core_fold]

theorem boundsFlag_eq_false_iff (nx : ℤ) (L : ℕ) (D : Arr ℕ) :
    boundsFlag nx L D = false ↔ ∀ j < D.n, (D.get j : ℤ) + L ≤ nx := by
  unfold boundsFlag NpLC.any
  simp only [Bool.or_eq_false_iff, List.any_eq_false, List.mem_range, decide_eq_true_eq, not_lt, Nat.zero_le, implies_true,
    true_and, gt_iff_lt]
  exact forall₂_congr fun j hj => by omega

/-- `_lpsd_core` raises unless every bin read has the in-range premise of C02, a window of the right length, a supported order -/
theorem gen_lpsd_core_raises_iff (fam : NpLC.KernelFamily ℝ) (bq : ℕ → ℤ → Arr2 ℝ) (sel : ℕ → String → String) (wf : NpLC.WinFunc ℝ) (alpha : ℝ)
    (order : ℤ) (cb : String) (x1 x2 : Arr ℝ) (iscsd : Bool) (fs : ℝ) (nx : ℤ) (pL : Arr ℕ) (pD : Arr (Arr ℕ)) (pf : Arr ℝ)
    (idx : List ℕ) :
    (Gen._lpsd_core fam bq sel wf alpha order cb x1 x2 iscsd fs nx pL pD pf idx).1 = false ↔
      ∀ i ∈ idx, (∀ j < (pD.get i).n, ((pD.get i).get j : ℤ) + pL.get i ≤ nx) ∧
        (Model.lpsdWindow wf alpha (pL.get i)).n = pL.get i ∧ (order = -1 ∨ order = 0 ∨ order = 1 ∨ order = 2) := by
  rw [gen_lpsd_core_fold]
  simp only [List.any_eq_false, binBad, Bool.or_eq_true, not_or, Bool.not_eq_true, boundsFlag_eq_false_iff,
    orderBad_eq_false_iff, decide_eq_false_iff_not, ne_eq, not_not, and_assoc]

/-- kernel 5-tuple and window sums of a result row (its plan index is `r.1`) -/
def rowStats (r : Model.LpsdRow ℝ) : ℝ × ℝ × ℝ × ℝ × ℝ := (r.2.2.1, r.2.2.2.1, r.2.1.re, r.2.1.im, r.2.2.2.2.2.2.1)
def rowSums (r : Model.LpsdRow ℝ) : ℝ × ℝ := (r.2.2.2.2.1, r.2.2.2.2.2.1)

theorem rowStats_lpsdRow (i : ℕ) (s : ℝ × ℝ × ℝ × ℝ × ℝ) (ws : ℝ × ℝ) : rowStats (Model.lpsdRow i s ws) = s := rfl
theorem rowSums_lpsdRow (i : ℕ) (s : ℝ × ℝ × ℝ × ℝ × ℝ) (ws : ℝ × ℝ) : rowSums (Model.lpsdRow i s ws) = ws := rfl

/-- every statement about the numbers `_lpsd_core` returns is a statement about the dispatch on one bin -/
theorem gen_lpsd_core_stats {fam : NpLC.KernelFamily ℝ} {bq : ℕ → ℤ → Arr2 ℝ} {sel : ℕ → String → String} {wf : NpLC.WinFunc ℝ} {alpha : ℝ}
    {order : ℤ} {cb : String} {x1 x2 : Arr ℝ} {iscsd : Bool} {fs : ℝ} {nx : ℤ} {pL : Arr ℕ} {pD : Arr (Arr ℕ)} {pf : Arr ℝ}
    {idx : List ℕ} {g : ℕ → ℝ × ℝ × ℝ × ℝ × ℝ}
    (h : ∀ i ∈ idx, Model.dispatchWith (fam.pick (sel (pD.get i).n cb)) iscsd order x1 x2 fs (Model.pbinAt pf pL pD i)
      (Model.lpsdWindow wf alpha (pL.get i)) (if order = 1 ∨ order = 2 then some (bq (pL.get i) order) else none) = g i) :
    ((Gen._lpsd_core fam bq sel wf alpha order cb x1 x2 iscsd fs nx pL pD pf idx).2).map rowStats = idx.map g := by
  rw [gen_lpsd_core_rows, List.map_map]
  exact List.map_congr_left h

theorem gen_lpsd_core_sums (fam : NpLC.KernelFamily ℝ) (bq : ℕ → ℤ → Arr2 ℝ) (sel : ℕ → String → String) (wf : NpLC.WinFunc ℝ) (alpha : ℝ)
    (order : ℤ) (cb : String) (x1 x2 : Arr ℝ) (iscsd : Bool) (fs : ℝ) (nx : ℤ) (pL : Arr ℕ) (pD : Arr (Arr ℕ)) (pf : Arr ℝ)
    (idx : List ℕ) :
    ((Gen._lpsd_core fam bq sel wf alpha order cb x1 x2 iscsd fs nx pL pD pf idx).2).map rowSums
      = idx.map (fun i => Model.winSums (Model.lpsdWindow wf alpha (pL.get i))) ∧
    ((Gen._lpsd_core fam bq sel wf alpha order cb x1 x2 iscsd fs nx pL pD pf idx).2).map (fun r => r.1) = idx := by
  rw [gen_lpsd_core_rows, List.map_map, List.map_map]
  exact ⟨List.map_congr_left fun _ _ => rfl, (List.map_congr_left fun _ _ => rfl).trans (List.map_id idx)⟩

/-- a cached window or basis is never used for another bin: the row of a bin does not depend on the bins processed before it -/
theorem gen_lpsd_core_bin_local (fam : NpLC.KernelFamily ℝ) (bq : ℕ → ℤ → Arr2 ℝ) (sel : ℕ → String → String) (wf : NpLC.WinFunc ℝ) (alpha : ℝ)
    (order : ℤ) (cb : String) (x1 x2 : Arr ℝ) (iscsd : Bool) (fs : ℝ) (nx : ℤ) (pL : Arr ℕ) (pD : Arr (Arr ℕ)) (pf : Arr ℝ)
    (pre post : List ℕ) (i : ℕ) :
    ((Gen._lpsd_core fam bq sel wf alpha order cb x1 x2 iscsd fs nx pL pD pf (pre ++ i :: post)).2)[pre.length]?
      = (Gen._lpsd_core fam bq sel wf alpha order cb x1 x2 iscsd fs nx pL pD pf [i]).2[0]? := by
  simp only [gen_lpsd_core_rows, List.map_append, List.map_cons, List.map_nil]
  rw [List.getElem?_append_right (by simp)]
  simp

/-- restricting the index list to a band = filtering the unrestricted rows -/
theorem gen_lpsd_core_band (fam : NpLC.KernelFamily ℝ) (bq : ℕ → ℤ → Arr2 ℝ) (sel : ℕ → String → String) (wf : NpLC.WinFunc ℝ) (alpha : ℝ)
    (order : ℤ) (cb : String) (x1 x2 : Arr ℝ) (iscsd : Bool) (fs : ℝ) (nx : ℤ) (pL : Arr ℕ) (pD : Arr (Arr ℕ)) (pf : Arr ℝ)
    (idx : List ℕ) (lo hi : ℝ) :
    (Gen._lpsd_core fam bq sel wf alpha order cb x1 x2 iscsd fs nx pL pD pf
        (idx.filter (fun i => decide (lo ≤ pf.get i) && decide (pf.get i ≤ hi)))).2
      = ((idx.zip (Gen._lpsd_core fam bq sel wf alpha order cb x1 x2 iscsd fs nx pL pD pf idx).2).filter
          (fun p => decide (lo ≤ pf.get p.1) && decide (pf.get p.1 ≤ hi))).map Prod.snd := by
  simp only [gen_lpsd_core_rows]
  exact Model.filter_map_eq_zip _ _ idx

/-! ### the kernel section of `compute_single_bin` (analysis.py:608-759) -/

/-- the window closure of `compute_single_bin` (analysis.py:608-620; no cache): same rule as in `_lpsd_core` -/
theorem gen_single_window (wf : NpLC.WinFunc ℝ) (L : ℕ) (alpha : ℝ) :
    Gen.single_bin_kernel_section___build_window wf L alpha
      = (decide ((Model.lpsdWindow wf alpha L).n ≠ L), winEntry wf alpha L) := by
  unfold Gen.single_bin_kernel_section___build_window winEntry Model.lpsdWindow
  cases hk : wf.isKaiser <;> simp [NpLC.join_mk, mul_comm]

/-- what the kernel section of `compute_single_bin` stores under XX, YY, XY, S12, S2, M2 -/
def singleRow (s : ℝ × ℝ × ℝ × ℝ × ℝ) (ws : ℝ × ℝ) : ℝ × ℝ × Cx ℝ × ℝ × ℝ × ℝ :=
  (s.1, s.2.1, ⟨s.2.2.1, s.2.2.2.1⟩, ws.1, ws.2, s.2.2.2.2)

theorem singleRow_eta (t : ℝ × ℝ × ℝ × ℝ × ℝ) (a b : ℝ) :
    (t.1, t.2.1, (⟨t.2.2.1, t.2.2.2.1⟩ : Cx ℝ), a, b, t.2.2.2.2) = singleRow t (a, b) := rfl

noncomputable def singleOut (fam : NpLC.KernelFamily ℝ) (bq : ℕ → ℤ → Arr2 ℝ) (sel : ℕ → String → String) (wf : NpLC.WinFunc ℝ) (alpha : ℝ)
    (order : ℤ) (cb : String) (x1 x2 : Arr ℝ) (iscsd : Bool) (fs : ℝ) (freq : ℝ) (segL : ℕ) (starts : Arr ℕ) :
    ℝ × ℝ × Cx ℝ × ℝ × ℝ × ℝ :=
  singleRow
    (Model.dispatchWith (fam.pick (sel starts.n cb)) iscsd order x1 x2 fs ⟨freq, segL, starts⟩ (Model.lpsdWindow wf alpha segL)
      (if order = 1 ∨ order = 2 then some (bq segL order) else none))
    (Model.winSums (Model.lpsdWindow wf alpha segL))

/-- the translated kernel section of `compute_single_bin` — its own `_build_window`, `omega`, `detrend_mode`, `Q` and the second copy of
    the 18-way dispatch — returns what the model's dispatch gives on the one requested bin `⟨freq, segL, starts⟩`, and raises exactly
    when the window callable returns another length than `segL`.
    `hord`: for any other order the code raises `ValueError("order must be one of {-1, 0, 1, 2}")` and no value exists (the
    straight-line value would be the `poly` branch on an empty basis). -/
theorem gen_single_bin_section_eq_model (fam : NpLC.KernelFamily ℝ) (bq : ℕ → ℤ → Arr2 ℝ) (sel : ℕ → String → String) (wf : NpLC.WinFunc ℝ)
    (alpha : ℝ) (order : ℤ) (hord : order = -1 ∨ order = 0 ∨ order = 1 ∨ order = 2) (cb : String) (x1 x2 : Arr ℝ) (iscsd : Bool) (fs : ℝ) (nx : ℤ)
    (freq fres : ℝ) (segL : ℕ) (starts : Arr ℕ) (out : Bool × (ℝ × ℝ × Cx ℝ × ℝ × ℝ × ℝ))
    (hst : Gen.single_bin_kernel_section fam bq sel wf alpha order cb x1 x2 iscsd fs nx freq fres segL starts = out) :
    out = (decide ((Model.lpsdWindow wf alpha segL).n ≠ segL),
        singleOut fam bq sel wf alpha order cb x1 x2 iscsd fs freq segL starts) := by
  subst hst
  unfold Gen.single_bin_kernel_section
  rw [singleOut, ← dispatchWith_x2]
  -- one pass, as in `gen_lpsd_core_step`; pushed into the order tests, the continuation after `detrend_mode` sees the mode as a literal
  simp only [gen_single_window, join_ite, NpLC.join_mk, stats_eta, ite_pair, singleRow_eta, decide_eq_true_eq, ↓reduceIte, two_lit,
    ← pick_win_only_auto, ← pick_win_only_csd, ← pick_detrend0_auto, ← pick_detrend0_csd, ← pick_poly_auto, ← pick_poly_csd,
    Bool.false_or, String.reduceEq, Bool.or_eq_true]
  rcases hord with rfl | rfl | h12
  · rw [if_pos rfl, dispatchWith_neg_one]
    rfl
  · rw [if_neg (by decide), if_pos rfl, dispatchWith_zero]
    rfl
  · rw [if_neg (by omega), if_neg (by omega), if_pos h12, if_pos h12, dispatchWith_poly h12]
    rfl

theorem gen_single_bin_section_stats {fam : NpLC.KernelFamily ℝ} {bq : ℕ → ℤ → Arr2 ℝ} {sel : ℕ → String → String} {wf : NpLC.WinFunc ℝ}
    {alpha : ℝ} {order : ℤ} (hord : order = -1 ∨ order = 0 ∨ order = 1 ∨ order = 2) {cb : String} {x1 x2 : Arr ℝ} {iscsd : Bool} {fs : ℝ} {nx : ℤ}
    {freq fres : ℝ} {segL : ℕ} {starts : Arr ℕ} {s : ℝ × ℝ × ℝ × ℝ × ℝ}
    (h : Model.dispatchWith (fam.pick (sel starts.n cb)) iscsd order x1 x2 fs ⟨freq, segL, starts⟩ (Model.lpsdWindow wf alpha segL)
      (if order = 1 ∨ order = 2 then some (bq segL order) else none) = s) :
    Gen.single_bin_kernel_section fam bq sel wf alpha order cb x1 x2 iscsd fs nx freq fres segL starts
      = (decide ((Model.lpsdWindow wf alpha segL).n ≠ segL),
          (s.1, s.2.1, (⟨s.2.2.1, s.2.2.2.1⟩ : Cx ℝ), (Model.winSums (Model.lpsdWindow wf alpha segL)).1,
            (Model.winSums (Model.lpsdWindow wf alpha segL)).2, s.2.2.2.2)) := by
  subst h
  exact gen_single_bin_section_eq_model fam bq sel wf alpha order hord cb x1 x2 iscsd fs nx freq fres segL starts _ rfl

/-! ### `plan()`: validation of the scheduler's output (analysis.py:443-499), band restriction (502-528) -/

theorem range_map_comp_getD {β γ : Type} (l : List β) (d : β) (h : β → γ) :
    (List.range l.length).map (fun j => h (l.getD j d)) = l.map h := by
  conv_rhs => rw [← List.range_map_getD l d]
  rw [List.map_map]
  rfl

theorem toList_length {β : Type} (a : Arr β) : (NpLC.toList a).length = a.n := by simp [NpLC.toList]

theorem toList_ofList {β : Type} (d : β) (l : List β) : NpLC.toList (NpLC.ofList d l) = l := by
  unfold NpLC.toList NpLC.ofList
  exact List.range_map_getD l d

theorem toList_colOf {B β : Type} {dflt : β} {g : B → β} {bins : List B} : NpLC.toList (Model.colOf dflt g bins) = bins.map g := by
  have h := List.range_map_getD (bins.map g) dflt
  rwa [List.length_map] at h

theorem np_any_intArr (l : List ℤ) (p : ℤ → Bool) :
    NpLC.any ⟨(Model.intArr l).n, fun j => p ((Model.intArr l).get j)⟩ = l.any p := by
  unfold NpLC.any Model.intArr
  dsimp only
  conv_rhs => rw [← List.range_map_getD l 0]
  rw [List.any_map]
  rfl

theorem all_range_eq_not_any (l : List ℤ) (M : ℤ) :
    l.all (fun d => decide (0 ≤ d) && decide (d ≤ M)) = !(l.any (fun d => decide (d < 0)) || l.any (fun d => decide (d > M))) := by
  rw [Bool.eq_iff_iff]
  simp only [List.all_eq_true, Bool.not_eq_true', Bool.or_eq_false_iff, List.any_eq_false, Bool.and_eq_true, decide_eq_true_eq,
    not_lt, gt_iff_lt]
  exact ⟨fun h => ⟨fun x hx => (h x hx).1, fun x hx => (h x hx).2⟩, fun h x hx => ⟨h.1 x hx, h.2 x hx⟩⟩

/-- the per-bin tests of `plan()` on the parallel arrays (analysis.py:476-498); `arr.ndim != 1` is translated as `1 ≠ 1`: an `Arr` is 1-D -/
def binInvalid (Lmin : ℤ) (isLpsd : Bool) (N : ℤ) (pL pK : Arr ℤ) (pD : Arr (Arr ℤ)) (i : ℕ) : Bool :=
  ((decide (pL.get i < Lmin) && !isLpsd) || decide (pL.get i < 1)) || decide ((pD.get i).n = 0) ||
  (NpLC.any ⟨(pD.get i).n, fun j => decide ((pD.get i).get j < 0)⟩ ||
    NpLC.any ⟨(pD.get i).n, fun j => decide ((pD.get i).get j > N - pL.get i)⟩) ||
  decide (pK.get i ≠ ((pD.get i).n : ℤ))

theorem gen_plan_validate_step (Lmin : ℤ) (isLpsd : Bool) (nx : ℤ) (f r b : Arr ℝ) (pL pK navg : Arr ℤ) (O : Arr ℝ) (pD : Arr (Arr ℤ))
    (rs : Bool) (Dn : List (Arr ℤ)) (i : ℕ) :
    Gen.plan_validate_loop1 Lmin isLpsd nx f r b pL pK navg O pD nx (rs, Dn) i
      = (rs || binInvalid Lmin isLpsd nx pL pK pD i, Dn ++ [pD.get i]) := by
  unfold Gen.plan_validate_loop1 binInvalid
  simp only [NpLC.join_mk, ne_eq, not_true_eq_false, decide_false, Bool.or_false, Bool.or_assoc]

theorem gen_plan_validate_fold (Lmin : ℤ) (isLpsd : Bool) (nx : ℤ) (f r b : Arr ℝ) (pL pK navg : Arr ℤ) (O : Arr ℝ) (pD : Arr (Arr ℤ))
    (r0 : Bool) (idx : List ℕ) :
    List.foldl (Gen.plan_validate_loop1 Lmin isLpsd nx f r b pL pK navg O pD nx) (r0, []) idx
      = (r0 || idx.any (binInvalid Lmin isLpsd nx pL pK pD), idx.map pD.get) := by
  refine foldl_inv (fun pre st => st = (r0 || pre.any (binInvalid Lmin isLpsd nx pL pK pD), pre.map pD.get)) _ idx _
    (by rw [List.any_nil, Bool.or_false, List.map_nil]) ?_
  rintro pre i _ rfl
  rw [gen_plan_validate_step, List.any_append, List.any_cons, List.any_nil, Bool.or_false, Bool.or_assoc, List.map_append,
    List.map_cons, List.map_nil]

theorem gen_plan_validate_arrays (Lmin : ℤ) (isLpsd : Bool) (nx : ℤ) (f r b : Arr ℝ) (pL pK navg : Arr ℤ) (O : Arr ℝ) (pD : Arr (Arr ℤ)) :
    Gen.plan_validate Lmin isLpsd nx f r b pL pK navg O pD
      = ((!([f.n, r.n, b.n, pL.n, pK.n, navg.n, O.n].all (fun n => decide (n = f.n))) || decide (pD.n ≠ f.n)) ||
          (List.range pD.n).any (binInvalid Lmin isLpsd nx pL pK pD),
         ((f.n : ℤ), NpLC.ofList (⟨0, fun _ => 0⟩ : Arr ℤ) ((List.range pD.n).map pD.get))) := by
  unfold Gen.plan_validate
  simp only [NpLC.join]
  rw [gen_plan_validate_fold]
  simp only [List.getD_cons_zero, Bool.false_or, Bool.not_true]

/-! ### a plan given as a list of bins, laid out as the parallel arrays `plan()` sees -/

noncomputable def colR (g : Model.Bin ℝ → ℝ) (bins : List (Model.Bin ℝ)) : Arr ℝ := Model.colOf 0 g bins
def colZ (g : Model.Bin ℝ → ℤ) (bins : List (Model.Bin ℝ)) : Arr ℤ := Model.colOf 0 g bins
def colD (bins : List (Model.Bin ℝ)) : Arr (Arr ℤ) := Model.colOf (⟨0, fun _ => 0⟩ : Arr ℤ) (fun b => Model.intArr b.D) bins

theorem colOf_get {B β : Type} {dflt : β} {g : B → β} {bins : List B} {i : ℕ} (h : i < bins.length) :
    (Model.colOf dflt g bins).get i = g bins[i] := by
  simp [Model.colOf, h]

theorem binInvalid_eq_not_planValid (N Lmin : ℕ) (isLpsd : Bool) (bins : List (Model.Bin ℝ)) (i : ℕ) (h : i < bins.length) :
    binInvalid (Lmin : ℤ) isLpsd (N : ℤ) (colZ (fun b => (b.L : ℤ)) bins) (colZ (fun b => b.K) bins) (colD bins) i
      = !(planValid N Lmin isLpsd bins[i]) := by
  unfold binInvalid planValid colZ colD
  simp only [colOf_get h]
  generalize bins[i] = b
  rw [np_any_intArr b.D (fun d => decide (d < 0)), np_any_intArr b.D (fun d => decide (d > (N : ℤ) - (b.L : ℤ))),
    all_range_eq_not_any]
  have e1 : decide ((b.L : ℤ) < (Lmin : ℤ)) = decide (b.L < Lmin) := decide_eq_decide.mpr Int.ofNat_lt
  have e2 : decide ((b.L : ℤ) < 1) = decide (b.L < 1) := decide_eq_decide.mpr Int.ofNat_lt
  have e3 : decide ((Model.intArr b.D).n = 0) = b.D.isEmpty := by
    rw [Bool.eq_iff_iff, decide_eq_true_eq, List.isEmpty_iff_length_eq_zero]
    rfl
  have e4 : decide (b.K ≠ (((Model.intArr b.D).n : ℕ) : ℤ)) = !decide (b.K = (b.D.length : ℤ)) := decide_not
  rw [e1, e2, e3, e4]
  simp only [Bool.not_and, Bool.not_not]

theorem any_range_eq_not_all {B : Type} {bins : List B} {q : ℕ → Bool} {p : B → Bool}
    (h : ∀ i (hi : i < bins.length), q i = !(p bins[i])) : (List.range bins.length).any q = !(bins.all p) := by
  rw [Bool.eq_iff_iff]
  simp only [List.any_eq_true, List.mem_range, Bool.not_eq_true', List.all_eq_false]
  constructor
  · rintro ⟨i, hi, hq⟩
    rw [h i hi] at hq
    exact ⟨bins[i], List.getElem_mem hi, by simpa using hq⟩
  · rintro ⟨b, hb, hp⟩
    obtain ⟨i, hi, rfl⟩ := List.getElem_of_mem hb
    exact ⟨i, hi, by rw [h i hi]; simpa using hp⟩

/-- the translated validation raises exactly when some bin fails `planValid` (Props/C02), and otherwise hands on `nf = number of bins`
    and the bins' own start lists -/
theorem gen_plan_validate_eq_model (N Lmin : ℕ) (isLpsd : Bool) (bins : List (Model.Bin ℝ)) :
    Gen.plan_validate (Lmin : ℤ) isLpsd (N : ℤ) (colR (fun b => b.f) bins) (colR (fun b => b.r) bins) (colR (fun b => b.b) bins)
        (colZ (fun b => (b.L : ℤ)) bins) (colZ (fun b => b.K) bins) (colZ (fun b => b.navg) bins) (colR (fun b => b.O) bins) (colD bins)
      = (!(bins.all (planValid N Lmin isLpsd)),
          ((bins.length : ℤ), NpLC.ofList (⟨0, fun _ => 0⟩ : Arr ℤ) (bins.map (fun b => Model.intArr b.D)))) := by
  rw [gen_plan_validate_arrays]
  have hn : (colD bins).n = bins.length := rfl
  rw [hn, any_range_eq_not_all (binInvalid_eq_not_planValid N Lmin isLpsd bins)]
  rw [show (List.range bins.length).map (colD bins).get = _ from toList_colOf]
  -- every column has `bins.length` entries: the coherence tests of the seven lengths and of `D` all pass
  simp only [colR, colZ, Model.colOf, List.all_cons, List.all_nil, decide_true, Bool.and_self, Bool.not_true, ne_eq, not_true_eq_false,
    decide_false, Bool.false_or]

/-- a plan all of whose bins are safe (what C02 proves of the schedulers) passes the translated validation -/
theorem gen_plan_validate_accepts_safe (N Lmin : ℕ) (bins : List (Model.Bin ℝ)) (h : ∀ b ∈ bins, BinSafe N Lmin b) :
    (Gen.plan_validate (Lmin : ℤ) false (N : ℤ) (colR (fun b => b.f) bins) (colR (fun b => b.r) bins) (colR (fun b => b.b) bins)
        (colZ (fun b => (b.L : ℤ)) bins) (colZ (fun b => b.K) bins) (colZ (fun b => b.navg) bins) (colR (fun b => b.O) bins) (colD bins)).1
      = false := by
  rw [gen_plan_validate_eq_model]
  simp only [Bool.not_eq_false', List.all_eq_true]
  intro b hb
  exact planValidate_ok N Lmin b (h b hb)

/-- boolean-mask selection `a[mask]` is the comprehension `[x for x, keep in zip(a, mask) if keep]` -/
theorem toList_maskSelect {β : Type} (a : Arr β) (mask : Arr Bool) (h : mask.n = a.n) :
    NpLC.toList (NpLC.maskSelect a mask) = NpLC.zipFilter (NpLC.toList a) mask := by
  unfold NpLC.toList NpLC.maskSelect NpLC.zipFilter
  dsimp only
  rw [range_map_comp_getD ((List.range a.n).filter mask.get) 0 a.get, h, List.zip_map', List.filter_map, List.map_map]
  rfl

theorem zipFilter_map {B β : Type} (g : B → β) {bins : List B} {p : B → Bool} {mask : Arr Bool} (hm : NpLC.toList mask = bins.map p) :
    NpLC.zipFilter (bins.map g) mask = (bins.filter p).map g := by
  unfold NpLC.zipFilter
  rw [show (List.range mask.n).map mask.get = bins.map p from hm, List.zip_map', List.filter_map, List.map_map]
  rfl

theorem isfinite_real (x : ℝ) : NpLC.isfinite x = true := by
  simp [NpLC.isfinite]

theorem not_any_eq_isEmpty_filter {B : Type} (l : List B) (q : B → Bool) : (!l.any q) = (l.filter q).isEmpty := by
  rw [Bool.eq_iff_iff, List.isEmpty_iff, List.filter_eq_nil_iff, Bool.not_eq_true', List.any_eq_false]

theorem np_any_eq (mask : Arr Bool) : NpLC.any mask = (NpLC.toList mask).any id := by
  unfold NpLC.any NpLC.toList
  rw [List.any_map]
  rfl

theorem gen_plan_band_some {lo hi : ℝ} {f r b : Arr ℝ} {pL pK navg : Arr ℤ} {O : Arr ℝ} {pD : Arr (Arr ℤ)} {nf : ℤ} {Dn : List (Arr ℤ)} :
    Gen.plan_band (some (lo, hi)) f r b pL pK navg O pD nf Dn =
      let mask : Arr Bool := ⟨f.n, fun i => RealLike.ge (f.get i) lo && RealLike.le (f.get i) hi⟩
      let D := NpLC.ofList (⟨0, fun _ => 0⟩ : Arr ℤ) (NpLC.zipFilter Dn mask)
      ((!(decide (lo ≤ hi)) || !(NpLC.any mask)) || decide ((NpLC.maskSelect f mask).n ≠ D.n),
        NpLC.maskSelect f mask, NpLC.maskSelect r mask, NpLC.maskSelect b mask, NpLC.maskSelect pL mask, NpLC.maskSelect pK mask,
        NpLC.maskSelect navg mask, NpLC.maskSelect O mask, D, ((NpLC.maskSelect f mask).n : ℤ)) := by
  simp only [Gen.plan_band, NpLC.join_mk, isfinite_real, Bool.true_and, Bool.false_or]
  rfl

/-- with `band = (lo, hi)` EVERY per-bin field — f, r, b, L, K, navg, O and the ragged D — becomes the field of `Model.bandFilter`
    applied to the bins (inclusive edges, one mask for all fields, so they stay aligned), `nf` the number of bins kept, and the function
    raises exactly for `hi < lo` or an empty selection -/
theorem gen_plan_band_eq_model (lo hi : ℝ) (bins : List (Model.Bin ℝ)) (nf0 : ℤ) (pD0 : Arr (Arr ℤ)) :
    let kept := Model.bandFilter (fun b => b.f) lo hi bins
    let out := Gen.plan_band (some (lo, hi)) (colR (fun b => b.f) bins) (colR (fun b => b.r) bins) (colR (fun b => b.b) bins)
      (colZ (fun b => (b.L : ℤ)) bins) (colZ (fun b => b.K) bins) (colZ (fun b => b.navg) bins) (colR (fun b => b.O) bins) pD0 nf0
      (bins.map (fun b => Model.intArr b.D))
    out.1 = (!(decide (lo ≤ hi)) || kept.isEmpty) ∧
    NpLC.toList out.2.1 = kept.map (fun b => b.f) ∧ NpLC.toList out.2.2.1 = kept.map (fun b => b.r) ∧
    NpLC.toList out.2.2.2.1 = kept.map (fun b => b.b) ∧ NpLC.toList out.2.2.2.2.1 = kept.map (fun b => (b.L : ℤ)) ∧
    NpLC.toList out.2.2.2.2.2.1 = kept.map (fun b => b.K) ∧ NpLC.toList out.2.2.2.2.2.2.1 = kept.map (fun b => b.navg) ∧
    NpLC.toList out.2.2.2.2.2.2.2.1 = kept.map (fun b => b.O) ∧
    NpLC.toList out.2.2.2.2.2.2.2.2.1 = kept.map (fun b => Model.intArr b.D) ∧
    out.2.2.2.2.2.2.2.2.2 = (kept.length : ℤ) := by
  intro kept out
  let mask : Arr Bool := ⟨(colR (fun b => b.f) bins).n, fun i => RealLike.ge ((colR (fun b => b.f) bins).get i) lo && RealLike.le ((colR (fun b => b.f) bins).get i) hi⟩
  let p : Model.Bin ℝ → Bool := fun b => RealLike.ge b.f lo && RealLike.le b.f hi
  have hm : NpLC.toList mask = bins.map p := by
    have h := range_map_comp_getD (bins.map (fun b => b.f)) 0 (fun x => RealLike.ge x lo && RealLike.le x hi)
    rwa [List.length_map, List.map_map] at h
  have sel : ∀ {β : Type} (d : β) (g : Model.Bin ℝ → β),
      NpLC.toList (NpLC.maskSelect (Model.colOf d g bins) mask) = kept.map g := fun d g => by
    rw [toList_maskSelect (Model.colOf d g bins) mask rfl, toList_colOf, zipFilter_map g hm]
    rfl
  have hD : NpLC.zipFilter (bins.map (fun b => Model.intArr b.D)) mask = kept.map (fun b => Model.intArr b.D) :=
    zipFilter_map _ hm
  have hlen : (NpLC.maskSelect (colR (fun b => b.f) bins) mask).n = kept.length := by
    rw [← toList_length, colR, sel, List.length_map]
  rw [show out = _ from gen_plan_band_some]
  refine ⟨?_, sel 0 _, sel 0 _, sel 0 _, sel 0 _, sel 0 _, sel 0 _, sel 0 _, ?_, ?_⟩
  · dsimp only
    rw [hlen, np_any_eq, hm, hD, List.any_map, not_any_eq_isEmpty_filter]
    simp only [NpLC.ofList, List.length_map, ne_eq, not_true_eq_false, decide_false, Bool.or_false]
    rfl
  · dsimp only
    rw [toList_ofList, hD]
  · dsimp only
    rw [hlen]

theorem gen_plan_band_none (f r b : Arr ℝ) (pL pK navg : Arr ℤ) (O : Arr ℝ) (pD : Arr (Arr ℤ)) (nf : ℤ) (Dn : List (Arr ℤ)) :
    Gen.plan_band (none : Option (ℝ × ℝ)) f r b pL pK navg O pD nf Dn = (decide (f.n ≠ pD.n), (f, r, b, pL, pK, navg, O, pD, nf)) := by
  simp [Gen.plan_band, NpLC.join_mk]

/-- the single-bin theorem's hypothesis (`order` supported) with a concrete request: Kaiser window, order 1, L = 3, two segments -/
example (fam : NpLC.KernelFamily ℝ) (x1 x2 : Arr ℝ) :
    ∃ v, Gen.single_bin_kernel_section (α := ℝ) fam (fun L o => ⟨L, (o + 1).toNat, fun _ _ => 0⟩) (fun _ b => b)
        (⟨true, fun L => ⟨L, fun _ => 1⟩, NpLC.kaiser⟩ : NpLC.WinFunc ℝ) (3 : ℝ) 1 "numpy" x1 x2 true (2 : ℝ) 7 (1 / 3 : ℝ) (2 / 3 : ℝ) 3
        ⟨2, fun j => 2 * j⟩ = v :=
  ⟨_, gen_single_bin_section_eq_model fam _ _ _ 3 1 (Or.inr (Or.inr (Or.inl rfl))) "numpy" x1 x2 true 2 7 (1 / 3) (2 / 3) 3 _ _ rfl⟩

/-- `gen_plan_validate_accepts_safe`: a concrete safe bin (N = 10, L = 4, K = 2 = navg, D = [0, 6]) -/
example : BinSafe 10 2 (⟨1, 1, 1, 4, 2, 2, [0, 6], 0⟩ : Model.Bin ℝ) := by
  unfold BinSafe
  decide

/-- a band that keeps the middle bin only: `lo ≤ hi` and a non-empty selection, so the translated restriction does not raise -/
example : (Model.bandFilter (fun b : Model.Bin ℝ => b.f) 2 2 [⟨1, 0, 0, 1, 1, 1, [0], 0⟩, ⟨2, 0, 0, 1, 1, 1, [0], 0⟩, ⟨3, 0, 0, 1, 1, 1, [0], 0⟩]).length = 1 := by
  norm_num [Model.bandFilter, RL.ge_eq, RL.le_eq, List.filter]

end LpsdCoreGen

open LpsdCoreGen

#print axioms gen_build_window_spec
#print axioms gen_build_window_flag
#print axioms gen_lpsd_core_step
#print axioms gen_lpsd_core_fold
#print axioms gen_lpsd_core_rows
#print axioms gen_lpsd_core_raises_iff
#print axioms gen_lpsd_core_sums
#print axioms gen_lpsd_core_bin_local
#print axioms gen_lpsd_core_band
#print axioms lpsdWindow_kaiser
#print axioms lpsdWindow_kaiser_dft_even
#print axioms lpsdWindow_other
#print axioms gen_single_window
#print axioms gen_single_bin_section_eq_model
#print axioms gen_plan_validate_arrays
#print axioms gen_plan_validate_eq_model
#print axioms gen_plan_validate_accepts_safe
#print axioms gen_plan_band_eq_model
#print axioms gen_plan_band_none
