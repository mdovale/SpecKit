/-
  The machine-translated fractional time shift (`Gen.timeshift`, generated from speckit/dsp.py `timeshift` on every run) IS the hand
  model `Model.shiftConst` / `Model.shiftVar`, sample by sample, for every record of size ≥ 2, every half-length h ≥ 1 (order 2h-1)
  and EVERY real shift.  Hence the theorems of `Lemmas/TimeShiftPaths.lean` are theorems about the code as translated.
  The NumPy calls are the stated contracts of `SpecKitV/Np/TimeShift.lean` (unfolded here, never assumed).  The translation is
  `Option`-valued: `none` is a raised exception — the explicit `raise` statements AND the places where NumPy / indexing would
  raise (index out of range, padding an empty array, empty correlate operand, window longer than the array, shape mismatch);
  `… = some out` therefore also says that on valid input none of them fires.

  Hypotheses of the equality theorems, and why:
    * `order = 2h-1`, `1 ≤ h`: the real code raises ValueError for an even order (`gen_timeshift_even_order`: the translated
      code returns `none`), and fails inside NumPy for a negative odd order (IndexError / "negative dimensions";
      `gen_timeshift_negative_order`: `none`).
    * `2 ≤ data.n`, shifts not all zero: otherwise the routine returns its input (`gen_timeshift_tiny`, `gen_timeshift_zero`).
    * `shifts.n = 1` (a Python float or a size-1 array) / `shifts.n = data.n`: any other size raises (`gen_timeshift_size_mismatch`).
-/
import SpecKitV.RealInst
import SpecKitV.Gen.TimeShift
import SpecKitV.Model.TimeShift
import SpecKitV.Lemmas.TimeShiftPaths
import SpecKitV.Props.TapsGen

open Finset

namespace NpTS
variable {β : Type}

theorem all_mk_iff (n : ℕ) (f : ℕ → Bool) : all ⟨n, f⟩ = true ↔ ∀ i < n, f i = true := by
  unfold all
  induction n with
  | zero => simp [forRange_zero]
  | succ m ih => rw [forRange_succ, Bool.and_eq_true, ih, Nat.forall_lt_succ_right]

theorem takeRejects_iff (n : ℕ) (idx : Arr ℤ) :
    takeRejects n idx = true ↔ ¬ ∀ i < idx.n, -(n : ℤ) ≤ idx.get i ∧ idx.get i < (n : ℤ) := by
  unfold takeRejects
  rw [Bool.not_eq_true', ← Bool.not_eq_true, all_mk_iff]
  simp only [decide_eq_true_eq]

theorem einsumRejects_iff (A B : Arr (Arr β)) :
    einsumRejects A B = true ↔ (A.n ≠ B.n ∨ ¬ ∀ i < A.n, (A.get i).n = (B.get i).n) := by
  unfold einsumRejects
  rw [Bool.or_eq_true, Bool.not_eq_true', ← Bool.not_eq_true, all_mk_iff]
  simp only [decide_eq_true_eq]

theorem sliceBound_natCast (n b : ℕ) (h : b ≤ n) : sliceBound n (b : ℤ) = b := by
  unfold sliceBound
  rw [if_neg (by omega), if_neg (by omega), Int.toNat_natCast]

/-- edge padding clamps the index: the truncated subtraction on the left, the `min` on the right -/
theorem padEdge_get (a : Arr β) (l r : ℤ) (i : ℕ) : (padEdge a l r).get i = a.get (min (i - l.toNat) (a.n - 1)) := by
  simp only [padEdge]
  split_ifs <;> (congr 1; omega)

/-- the constant path's trim `a[lo:hi]` to the window `[iMin, iMax)` followed by `E = np.pad(…, (pl, pr), mode="edge")`, the four
    bounds in whatever spelling (`hw`): the trim is not empty (so NumPy accepts the padding), and sample `j` of `E` is the record
    at the clamped index `j + iMin` -/
theorem trimPad (a : Arr β) (hn : 0 < a.n) (iMin iMax : ℤ) (h1 : 0 < iMax) (h2 : iMin < a.n) (hlt : iMin < iMax) {lo hi pl pr : ℤ}
    {E : Arr β} (hE : padEdge (slice a lo hi) pl pr = E)
    (hw : lo = max 0 iMin ∧ hi = min (a.n : ℤ) iMax ∧ pl = max 0 (-iMin) ∧ pr = max 0 (iMax - a.n)) :
    (slice a lo hi).n ≠ 0 ∧ E.n = (iMax - iMin).toNat ∧
    ∀ j : ℕ, (j : ℤ) + iMin < iMax → E.get j = a.get (Model.clampIdx ((j : ℤ) + iMin) a.n) := by
  subst hE
  obtain ⟨rfl, rfl, rfl, rfl⟩ := hw
  -- the natural numbers the contracts see: the window `[L, U)` of `a`, held over `p` samples on the left and `q` on the right
  obtain ⟨L, p, eL, ep, hLp, hL0⟩ : ∃ L p : ℕ, max 0 iMin = L ∧ max 0 (-iMin) = p ∧ (L : ℤ) - p = iMin ∧ (L = 0 ∨ p = 0) :=
    ⟨iMin.toNat, (-iMin).toNat, by omega⟩
  obtain ⟨U, q, eU, eq, hUq, hU0, hUn⟩ : ∃ U q : ℕ, min (a.n : ℤ) iMax = U ∧ max 0 (iMax - a.n) = q ∧ (U : ℤ) + q = iMax ∧
      (U = a.n ∨ q = 0) ∧ U ≤ a.n :=
    ⟨iMax.toNat ⊓ a.n, (iMax - a.n).toNat, by omega⟩
  rw [eL, ep, eU, eq]
  clear eL ep eU eq   -- `omega` splits on every `max` / `min` in sight
  have hLU : L < U := by omega
  simp only [padEdge_get, TimeShiftAux.clampIdx_eq_min]
  simp only [padEdge, slice, sliceBound_natCast a.n U hUn, sliceBound_natCast a.n L (hLU.le.trans hUn), Int.toNat_natCast]
  refine ⟨by omega, by omega, fun j hj => ?_⟩
  rw [← Nat.add_min_add_left, show L + (j - p) = ((j : ℤ) + iMin).toNat by omega, show L + (U - L - 1) = U - 1 by omega]
  -- the window reaches the end of the record, or the index stays below both ends
  rcases hU0 with e | e
  · rw [e]
  · rw [min_eq_left (by omega), min_eq_left (by omega)]

theorem clip_mem (x lo hi : ℤ) (h : lo ≤ hi) : lo ≤ clip x lo hi ∧ clip x lo hi ≤ hi := by
  simp only [clip]
  split_ifs <;> omega

/-- `np.clip` in the nested-`if` form `Model.shiftVar` uses -/
theorem clip_eq (x lo hi : ℤ) (h : lo ≤ hi) : clip x lo hi = if x < lo then lo else if x > hi then hi else x := by
  simp only [clip]
  split_ifs <;> omega

/-- zero padding by `w` on both sides, then all windows of length `w`: entry `k` of window `r` is sample `r + k - w` of the
    record, zero outside it -/
theorem window_get (a : Arr ℝ) (w r k : ℕ) :
    ((slidingWindow (padZero a w w) w).get r).get k
      = if (r : ℤ) + k - w < 0 ∨ (r : ℤ) + k - w ≥ a.n then 0 else a.get ((r : ℤ) + k - w).toNat := by
  simp only [slidingWindow, padZero, Int.toNat_natCast, RL.ofNat_eq, Nat.cast_zero]
  split_ifs <;> first | rfl | omega | (congr 1; omega)

end NpTS

namespace TimeShiftGenAux

theorem order_odd (h : ℤ) : ¬ (2 * h - 1) % 2 = 0 := by omega
theorem order_half (h : ℤ) : (2 * h - 1 + 1) / 2 = h := by omega

/-- the translator's spelling of Python `max(a, b)` / `min(a, b)` on integers -/
theorem ite_ge_max (a b : ℤ) : (if a ≥ b then a else b) = max a b := by
  split_ifs <;> omega
theorem ite_le_min (a b : ℤ) : (if a ≤ b then a else b) = min a b := by
  split_ifs <;> omega

theorem of_eq_some {β : Type} {o : Option β} {P : β → Prop} (h : ∃ x, o = some x ∧ P x) {y : β} (hy : o = some y) : P y := by
  obtain ⟨x, hx, hP⟩ := h
  cases hx.symm.trans hy
  exact hP

theorem not_all_zero {a : Arr ℝ} (h : ∃ i < a.n, a.get i ≠ 0) : ¬ ∀ i < a.n, a.get i = 0 :=
  fun hall => let ⟨i, hi, hne⟩ := h; hne (hall i hi)

/-- correlating the trimmed and edge-padded record with the taps is the clamped-index stencil sum of the model, at every sample,
    whatever part of the stencil hangs over the ends of the record (`E`: what `NpTS.trimPad` says of the padded record) -/
theorem const_core (data : Arr ℝ) {v E : Arr ℝ} (h : ℕ) {d : ℝ} (hh : 1 ≤ h) (hsz : 1 ≤ data.n)
    (hv : v.n = 2 * h ∧ ∀ k < 2 * h, v.get k = Model.tap h d k)
    (sInt : ℤ) (h1 : ¬ (sInt + (h : ℤ) + (data.n : ℤ) - 1 < 0)) (h2 : ¬ (sInt - ((h : ℤ) - 1) > (data.n : ℤ) - 1))
    (hEn : E.n = (sInt + (h : ℤ) + (data.n : ℤ) - (sInt - ((h : ℤ) - 1))).toNat)
    (hE : ∀ j : ℕ, (j : ℤ) + (sInt - ((h : ℤ) - 1)) < sInt + (h : ℤ) + (data.n : ℤ) →
      E.get j = data.get (Model.clampIdx ((j : ℤ) + (sInt - ((h : ℤ) - 1))) data.n)) :
    (NpTS.correlateValid E v).n = data.n ∧
    ∀ n < data.n, (NpTS.correlateValid E v).get n = Model.shiftConst data.get data.n h sInt d n := by
  obtain ⟨hvn, hvk⟩ := hv
  unfold NpTS.correlateValid
  rw [if_pos (by omega)]
  refine ⟨by simp only; omega, fun n hnn => ?_⟩
  show sumRange v.n _ = _
  rw [TimeShiftAux.shiftConst_eq, if_neg h1, if_neg h2, sumRange_eq_sum, hvn]
  refine sum_congr rfl (fun k hk => ?_)
  have hk' := mem_range.mp hk
  rw [hvk k hk', hE (n + k) (by push_cast; omega)]
  congr 3
  push_cast
  omega

/-- the windows `W` of the zero-padded record, row `J[n]` (the clipped index, moved to the padded record) per sample, row-wise dot
    product `O` with the taps: no fancy index is out of range and the shapes agree (neither the indexing nor `einsum` raises), and
    `O` is the model's sum.  Widths and rows are variables tied to `h` by arithmetic (`hw`, `hJ`), whatever the Python calls them -/
theorem var_core (data : Arr ℝ) (h : ℕ) (hh : 1 ≤ h) (sInt : ℕ → ℤ) (d : ℕ → ℝ) {T W : Arr (Arr ℝ)} {J : Arr ℤ} {pl pr w : ℤ} {O : Arr ℝ}
    (hW : NpTS.slidingWindow (NpTS.padZero data pl pr) w = W) (hO : NpTS.einsumRowDot T (NpTS.take W J) = O)
    (hw : pl = 2 * (h : ℤ) ∧ pr = 2 * (h : ℤ) ∧ w = 2 * (h : ℤ)) (hTn : T.n = data.n) (hJn : J.n = data.n)
    (hT : ∀ n < data.n, (T.get n).n = 2 * h ∧ ∀ k < 2 * h, (T.get n).get k = Model.tap h (d n) k)
    (hJ : ∀ n < data.n, J.get n = NpTS.clip ((n : ℤ) + sInt n) (-((h : ℤ) + 1)) ((data.n : ℤ) + ((h : ℤ) - 1)) + ((h : ℤ) + 1)) :
    ¬ NpTS.takeRejects W.n J = true ∧ ¬ NpTS.einsumRejects T (NpTS.take W J) = true ∧
    O.n = data.n ∧ ∀ n < data.n, O.get n = Model.shiftVar data.get data.n h (sInt n) (d n) n := by
  subst hW hO
  have hlh : -((h : ℤ) + 1) ≤ (data.n : ℤ) + ((h : ℤ) - 1) := by omega
  have e2 : (2 * (h : ℤ)) = ((2 * h : ℕ) : ℤ) := by push_cast; rfl
  obtain ⟨rfl, rfl, rfl⟩ := hw
  rw [e2, NpTS.takeRejects_iff, NpTS.einsumRejects_iff, not_not, not_or, not_not, not_not]
  refine ⟨fun n hn => ?_, ⟨?_, fun n hn => ?_⟩, hTn, fun n hn => ?_⟩
  · have := NpTS.clip_mem ((n : ℤ) + sInt n) _ _ hlh
    rw [hJ n (hJn ▸ hn)]
    simp only [NpTS.slidingWindow, NpTS.padZero, Int.toNat_natCast]
    omega
  · rw [hTn, ← hJn]; rfl
  · exact (hT n (hTn ▸ hn)).1
  obtain ⟨hTn2, hTk⟩ := hT n hn
  simp only [NpTS.einsumRowDot, NpTS.take, Model.shiftVar, sumRange_eq_sum, hTn2, RL.zero_eq, hJ n hn, ← NpTS.clip_eq _ _ _ hlh]
  have hb := NpTS.clip_mem ((n : ℤ) + sInt n) _ _ hlh
  generalize NpTS.clip ((n : ℤ) + sInt n) (-((h : ℤ) + 1)) ((data.n : ℤ) + ((h : ℤ) - 1)) = c at hb ⊢
  rw [Np.pyIndex_nonneg _ _ (by omega)]
  refine sum_congr rfl (fun k hk => ?_)
  rw [hTk k (mem_range.mp hk), NpTS.window_get]
  have e : ((c + ((h : ℤ) + 1)).toNat : ℤ) + k - ((2 * h : ℕ) : ℤ) = c - ((h : ℤ) - 1) + k := by
    push_cast; omega
  rw [e]

/-- decide the outermost `if` of the goal with the given tactic, as long as that is possible (so the proofs do not depend on how
    the Python spells its conditions) -/
syntax "peel_ifs " tacticSeq : tactic
macro_rules
  | `(tactic| peel_ifs $t:tacticSeq) => `(tactic| repeat (first | rw [if_neg (by $t)] | rw [if_pos (by $t)]))

end TimeShiftGenAux

open TimeShiftGenAux

/-! Every proof below: normalise the generated term (`simp only`: eager evaluation, floor, `//` and `%` by 2, the order `2h - 1`,
  max/min) so that every `if` up to the NumPy calls is linear integer arithmetic, decided by `omega` (`peel_ifs`); what NumPy accepts
  and returns is said by the lemmas of `NpTS`; the surviving expression goes to `const_core` / `var_core`. -/

/-- an even `order` is rejected (Python: ValueError) -/
theorem gen_timeshift_even_order (data shifts : Arr ℝ) (k : ℤ) : Gen.timeshift data shifts (2 * k) = none := by
  simp only [Gen.timeshift, Int.fmod_two, decide_eq_true_eq]
  rw [if_pos (by omega)]

/-- a record of size ≤ 1 is returned as it is, whatever the shift (any odd order) -/
theorem gen_timeshift_tiny (data shifts : Arr ℝ) (k : ℤ) (hsz : data.n ≤ 1) :
    ∃ out : Arr ℝ, Gen.timeshift data shifts (2 * k + 1) = some out ∧ out.n = data.n ∧ ∀ n < data.n, out.get n = data.get n := by
  simp only [Gen.timeshift, Int.fmod_two, decide_eq_true_eq, NpTS.item, Bool.and_eq_true]
  peel_ifs omega   -- nothing raises; the value still asks whether the size is 1
  by_cases hd : data.n = 1
  · peel_ifs omega
    refine ⟨_, rfl, hd.symm, fun n hn => ?_⟩
    obtain rfl : n = 0 := by omega
    rfl
  · peel_ifs omega
    exact ⟨_, rfl, rfl, fun _ _ => rfl⟩

/-- all shifts zero: the record itself is returned (any odd order, scalar or per-sample shifts) -/
theorem gen_timeshift_zero (data shifts : Arr ℝ) (k : ℤ) (hsz : 2 ≤ data.n) (hz : ∀ i < shifts.n, shifts.get i = 0) :
    Gen.timeshift data shifts (2 * k + 1) = some data := by
  simp only [Gen.timeshift, Int.fmod_two, decide_eq_true_eq, Arr.memo_eq, NpTS.all_mk_iff, RL.beq_eq, RL.ofNat_eq, Nat.cast_zero]
  peel_ifs (first | omega | exact hz)

/-- a negative odd `order` is rejected as soon as the filter is needed (Python: NumPy raises inside `lagrange_taps`,
    whose table of taps has no rows) -/
theorem gen_timeshift_negative_order (data shifts : Arr ℝ) (k : ℤ) (hk : k + 1 ≤ 0) (hsz : 2 ≤ data.n)
    (hnz : ∃ i < shifts.n, shifts.get i ≠ 0) : Gen.timeshift data shifts (2 * k + 1) = none := by
  have hall := not_all_zero hnz
  simp only [Gen.timeshift, Int.fdiv_two, Int.fmod_two, decide_eq_true_eq, Arr.memo_eq, NpTS.all_mk_iff, RL.beq_eq, RL.ofNat_eq, Nat.cast_zero,
    hall, if_false]
  peel_ifs omega

/-- a shift vector whose size is neither 1 nor the size of the record is rejected (Python: ValueError), any odd order -/
theorem gen_timeshift_size_mismatch (data shifts : Arr ℝ) (k : ℤ) (hsz : 2 ≤ data.n) (hnz : ∃ i < shifts.n, shifts.get i ≠ 0)
    (h1 : shifts.n ≠ 1) (h2 : shifts.n ≠ data.n) : Gen.timeshift data shifts (2 * k + 1) = none := by
  by_cases hk : k + 1 ≤ 0
  · exact gen_timeshift_negative_order data shifts k hk hsz hnz
  have hall := not_all_zero hnz
  simp only [Gen.timeshift, Int.fdiv_two, Int.fmod_two, decide_eq_true_eq, Arr.memo_eq, NpTS.all_mk_iff, RL.beq_eq, RL.ofNat_eq, Nat.cast_zero,
    hall, if_false]
  peel_ifs omega

/-- CONSTANT-SHIFT PATH (a Python float / 0-d / size-1 array): translated = model at every sample, for every real shift ≠ 0
    — early returns, stencil over one or both ends, interior: all of it; in particular no NumPy call of the path raises -/
theorem gen_timeshift_const_eq_model (data shifts : Arr ℝ) (h : ℕ) (hh : 1 ≤ h) (hsz : 2 ≤ data.n)
    (h1 : shifts.n = 1) (hnz : shifts.get 0 ≠ 0) :
    ∃ out : Arr ℝ, Gen.timeshift data shifts (2 * (h : ℤ) - 1) = some out ∧ out.n = data.n ∧
      ∀ n < data.n, out.get n
        = Model.shiftConst data.get data.n h ⌊shifts.get 0⌋ (shifts.get 0 - (⌊shifts.get 0⌋ : ℝ)) n := by
  have hall := not_all_zero ⟨0, by omega, hnz⟩
  simp only [Gen.timeshift, Arr.memo_eq, NpTS.item, Int.fdiv_two, Int.fmod_two, order_odd, order_half, ite_ge_max, ite_le_min,
    decide_eq_true_eq, RL.ofInt_eq, RL.trunc_intCast, RL.floor_eq, NpTS.all_mk_iff, RL.beq_eq, RL.ofNat_eq, Nat.cast_zero,
    NpTS.indexRejects, NpTS.padRejects, Bool.or_eq_true, Bool.true_and, hall, if_false]
  -- peeled: size ≤ 1, the elementwise length guards, `halfp ≤ 0`, `shifts.size == 1`; next is `i_max - 1 < 0`
  peel_ifs omega
  by_cases c5 : ⌊shifts.get 0⌋ + (h : ℤ) + (data.n : ℤ) - 1 < 0
  · -- shifted out to the left: the first sample, repeated
    peel_ifs omega
    refine ⟨_, rfl, by simp only [NpTS.repeat]; omega, fun n hn => ?_⟩
    rw [TimeShiftAux.shiftConst_eq, if_pos c5]
    rfl
  by_cases c6 : ⌊shifts.get 0⌋ - ((h : ℤ) - 1) > (data.n : ℤ) - 1
  · -- shifted out to the right: the last sample, repeated
    peel_ifs omega
    refine ⟨_, rfl, by simp only [NpTS.repeat]; omega, fun n hn => ?_⟩
    rw [TimeShiftAux.shiftConst_eq, if_neg c5, if_pos c6, Np.pyIndex_neg_one]
    rfl
  · -- trim, hold the ends (`E`: the padded record, however its bounds are spelled), correlate
    generalize hE : NpTS.padEdge _ _ _ = E
    obtain ⟨hTn, hEn, hEg⟩ := NpTS.trimPad data (by omega) (⌊shifts.get 0⌋ - ((h : ℤ) - 1)) (⌊shifts.get 0⌋ + (h : ℤ) + (data.n : ℤ))
      (by omega) (by omega) (by omega) hE (by omega)
    have hT := gen_taps_eq_model h hh (shifts.get 0 - (⌊shifts.get 0⌋ : ℝ))
    peel_ifs omega   -- with the sizes of the trim, of `E` and of the taps (`hTn`, `hEn`, `hT`)
    exact ⟨_, rfl, const_core data h hh (by omega) hT ⌊shifts.get 0⌋ c5 c6 hEn hEg⟩

/-- TIME-VARYING PATH (one shift per sample): translated = model at every sample, for every real shift vector that is not
    identically zero — clipped indices, partial stencils (zero outside the record), interior: all of it; in particular every
    fancy index is in range and no NumPy call of the path raises -/
theorem gen_timeshift_var_eq_model (data shifts : Arr ℝ) (h : ℕ) (hh : 1 ≤ h) (hsz : 2 ≤ data.n)
    (hn : shifts.n = data.n) (hnz : ∃ i < shifts.n, shifts.get i ≠ 0) :
    ∃ out : Arr ℝ, Gen.timeshift data shifts (2 * (h : ℤ) - 1) = some out ∧ out.n = data.n ∧
      ∀ n < data.n, out.get n
        = Model.shiftVar data.get data.n h ⌊shifts.get n⌋ (shifts.get n - (⌊shifts.get n⌋ : ℝ)) n := by
  have hall := not_all_zero hnz
  have hT := fun i : ℕ => gen_taps_eq_model h hh (shifts.get i - (⌊shifts.get i⌋ : ℝ))
  simp only [Gen.timeshift, Arr.memo_eq, NpTS.item, Int.fdiv_two, Int.fmod_two, order_odd, order_half, ite_ge_max, ite_le_min,
    decide_eq_true_eq, RL.ofInt_eq, RL.trunc_intCast, RL.floor_eq, NpTS.all_mk_iff, RL.beq_eq, RL.ofNat_eq, Nat.cast_zero,
    NpTS.padRejects, Bool.or_eq_true, Bool.and_eq_true, Bool.false_and, Bool.false_eq_true, or_false, hall, if_false]
  peel_ifs omega   -- every guard up to `np.pad`
  -- `sliding_window_view`'s "window longer than the array" guard needs the length of `padZero`: not peeled
  rw [if_neg (by simp only [NpTS.padZero]; omega)]
  -- the windows `W` and the result `O`, whatever the widths and the rows are called
  generalize hW : NpTS.slidingWindow _ _ = W
  generalize hO : NpTS.einsumRowDot (α := ℝ) _ _ = O
  obtain ⟨hr1, hr2, hout⟩ := var_core data h hh (fun n => ⌊shifts.get n⌋) (fun n => shifts.get n - (⌊shifts.get n⌋ : ℝ)) hW hO
    (by omega) hn (by dsimp only; omega) (fun n _ => hT n) (fun n _ => by simp only [NpTS.clip]; omega)
  peel_ifs tauto   -- `hr1`, `hr2`: one guard each, or both in one
  exact ⟨_, rfl, hout⟩

-- the hypotheses of the two equality theorems and of `gen_timeshift_size_mismatch` can be met
example : ∃ (data shifts : Arr ℝ) (h : ℕ), 1 ≤ h ∧ 2 ≤ data.n ∧ shifts.n = 1 ∧ shifts.get 0 ≠ 0 :=
  ⟨⟨2, fun _ => 0⟩, ⟨1, fun _ => 1⟩, 1, le_rfl, le_rfl, rfl, one_ne_zero⟩
example : ∃ (data shifts : Arr ℝ) (h : ℕ), 1 ≤ h ∧ 2 ≤ data.n ∧ shifts.n = data.n ∧ ∃ i < shifts.n, shifts.get i ≠ 0 :=
  ⟨⟨2, fun _ => 0⟩, ⟨2, fun _ => 1⟩, 1, le_rfl, le_rfl, rfl, 0, two_pos, one_ne_zero⟩
example : ∃ (data shifts : Arr ℝ), 2 ≤ data.n ∧ (∃ i < shifts.n, shifts.get i ≠ 0) ∧ shifts.n ≠ 1 ∧ shifts.n ≠ data.n :=
  ⟨⟨2, fun _ => 0⟩, ⟨3, fun _ => 1⟩, le_rfl, ⟨0, by norm_num, one_ne_zero⟩, by norm_num, by norm_num⟩

theorem gen_frac_range (s : ℝ) : 0 ≤ s - (⌊s⌋ : ℝ) ∧ s - (⌊s⌋ : ℝ) < 1 :=
  ⟨Int.fract_nonneg s, Int.fract_lt_one s⟩

/-- the equality theorem for a result `out` in hand (`gen_var_out`: the other path) -/
theorem gen_const_out (data shifts : Arr ℝ) (h : ℕ) (hh : 1 ≤ h) (hsz : 2 ≤ data.n) (h1 : shifts.n = 1) (hnz : shifts.get 0 ≠ 0)
    (out : Arr ℝ) (hout : Gen.timeshift data shifts (2 * (h : ℤ) - 1) = some out) :
    out.n = data.n ∧ ∀ n < data.n, out.get n
      = Model.shiftConst data.get data.n h ⌊shifts.get 0⌋ (shifts.get 0 - (⌊shifts.get 0⌋ : ℝ)) n :=
  of_eq_some (gen_timeshift_const_eq_model data shifts h hh hsz h1 hnz) hout

theorem gen_var_out (data shifts : Arr ℝ) (h : ℕ) (hh : 1 ≤ h) (hsz : 2 ≤ data.n) (hn : shifts.n = data.n)
    (hnz : ∃ i < shifts.n, shifts.get i ≠ 0) (out : Arr ℝ) (hout : Gen.timeshift data shifts (2 * (h : ℤ) - 1) = some out) :
    out.n = data.n ∧ ∀ n < data.n, out.get n
      = Model.shiftVar data.get data.n h ⌊shifts.get n⌋ (shifts.get n - (⌊shifts.get n⌋ : ℝ)) n :=
  of_eq_some (gen_timeshift_var_eq_model data shifts h hh hsz hn hnz) hout

theorem gen_const_interior (data shifts : Arr ℝ) (h : ℕ) (hh : 1 ≤ h) (hsz : 2 ≤ data.n) (h1 : shifts.n = 1) (hnz : shifts.get 0 ≠ 0)
    (out : Arr ℝ) (hout : Gen.timeshift data shifts (2 * (h : ℤ) - 1) = some out)
    (n : ℕ) (hn : n < data.n) (hint : Interior data.n h ⌊shifts.get 0⌋ n) :
    out.get n = ∑ k ∈ range (2 * h),
      data.get ((n : ℤ) + ⌊shifts.get 0⌋ - ((h : ℤ) - 1) + (k : ℤ)).toNat * Model.tap h (shifts.get 0 - (⌊shifts.get 0⌋ : ℝ)) k := by
  rw [(gen_const_out data shifts h hh hsz h1 hnz out hout).2 n hn]
  exact shiftConst_interior data.get data.n h hh _ _ n hn hint

/-- constant path: for ANY record the interior output is the value at `n + s` of the unique polynomial of degree ≤ 2h-1
    through the 2h surrounding samples -/
theorem gen_const_is_interpolant (data shifts : Arr ℝ) (h : ℕ) (hh : 1 ≤ h) (hsz : 2 ≤ data.n) (h1 : shifts.n = 1)
    (hnz : shifts.get 0 ≠ 0) (out : Arr ℝ) (hout : Gen.timeshift data shifts (2 * (h : ℤ) - 1) = some out)
    (n : ℕ) (hn : n < data.n) (hint : Interior data.n h ⌊shifts.get 0⌋ n) (p : Polynomial ℝ) (hp : p.natDegree < 2 * h)
    (hfit : ∀ k < 2 * h, p.eval (((n : ℤ) + ⌊shifts.get 0⌋ - ((h : ℤ) - 1) + (k : ℤ) : ℤ) : ℝ)
      = data.get ((n : ℤ) + ⌊shifts.get 0⌋ - ((h : ℤ) - 1) + (k : ℤ)).toNat) :
    out.get n = p.eval ((n : ℝ) + shifts.get 0) := by
  rw [(gen_const_out data shifts h hh hsz h1 hnz out hout).2 n hn,
    shiftConst_is_interpolant data.get data.n h hh _ _ (gen_frac_range _).1 (gen_frac_range _).2 n hn hint p hp hfit]
  congr 1
  ring

theorem gen_const_reproduces_poly (p : Polynomial ℝ) (data shifts : Arr ℝ) (h : ℕ) (hh : 1 ≤ h) (hp : p.natDegree < 2 * h)
    (hdata : ∀ i, data.get i = p.eval (i : ℝ)) (hsz : 2 ≤ data.n) (h1 : shifts.n = 1) (hnz : shifts.get 0 ≠ 0)
    (out : Arr ℝ) (hout : Gen.timeshift data shifts (2 * (h : ℤ) - 1) = some out)
    (n : ℕ) (hn : n < data.n) (hint : Interior data.n h ⌊shifts.get 0⌋ n) :
    out.get n = p.eval ((n : ℝ) + shifts.get 0) := by
  have e : data.get = fun (i : ℕ) => p.eval (i : ℝ) := funext hdata
  rw [(gen_const_out data shifts h hh hsz h1 hnz out hout).2 n hn, e,
    shiftConst_reproduces_poly p data.n h hh hp _ _ (gen_frac_range _).1 (gen_frac_range _).2 n hn hint]
  congr 1
  ring

/-- constant path: an integer shift `m ≠ 0` is a pure displacement with the end values held, at EVERY sample -/
theorem gen_const_integer (data shifts : Arr ℝ) (h : ℕ) (hh : 1 ≤ h) (hsz : 2 ≤ data.n) (h1 : shifts.n = 1) (m : ℤ) (hm : m ≠ 0)
    (hs : shifts.get 0 = (m : ℝ)) (out : Arr ℝ) (hout : Gen.timeshift data shifts (2 * (h : ℤ) - 1) = some out)
    (n : ℕ) (hn : n < data.n) : out.get n = data.get (Model.clampIdx ((n : ℤ) + m) data.n) := by
  have hnz : shifts.get 0 ≠ 0 := by rw [hs]; exact_mod_cast hm
  rw [(gen_const_out data shifts h hh hsz h1 hnz out hout).2 n hn, hs, Int.floor_intCast, sub_self]
  exact shiftConst_integer data.get data.n h hh hsz m n hn

theorem gen_zero_identity (data shifts : Arr ℝ) (h : ℕ) (hsz : 2 ≤ data.n) (hz : ∀ i < shifts.n, shifts.get i = 0) :
    Gen.timeshift data shifts (2 * (h : ℤ) - 1) = some data := by
  have e : 2 * (h : ℤ) - 1 = 2 * ((h : ℤ) - 1) + 1 := by ring
  rw [e]
  exact gen_timeshift_zero data shifts _ hsz hz

theorem gen_const_constant (c : ℝ) (data shifts : Arr ℝ) (hc : ∀ i, data.get i = c) (h : ℕ) (hh : 1 ≤ h) (hsz : 2 ≤ data.n)
    (h1 : shifts.n = 1) (hnz : shifts.get 0 ≠ 0) (out : Arr ℝ) (hout : Gen.timeshift data shifts (2 * (h : ℤ) - 1) = some out)
    (n : ℕ) (hn : n < data.n) : out.get n = c := by
  have e : data.get = fun _ => c := funext hc
  rw [(gen_const_out data shifts h hh hsz h1 hnz out hout).2 n hn, e]
  exact shiftConst_const c data.n h hh hsz _ _ (gen_frac_range _).1 (gen_frac_range _).2 n

/-- both translated paths agree wherever the stencil is interior: the time-varying path with shift `s` at sample `n`
    returns there what the constant path returns for the scalar shift `s` -/
theorem gen_paths_agree_interior (data sc sv : Arr ℝ) (h : ℕ) (hh : 1 ≤ h) (hsz : 2 ≤ data.n)
    (h1 : sc.n = 1) (hnz : sc.get 0 ≠ 0) (hv : sv.n = data.n) (hvnz : ∃ i < sv.n, sv.get i ≠ 0)
    (outC outV : Arr ℝ) (hC : Gen.timeshift data sc (2 * (h : ℤ) - 1) = some outC) (hV : Gen.timeshift data sv (2 * (h : ℤ) - 1) = some outV)
    (n : ℕ) (hn : n < data.n) (hsame : sv.get n = sc.get 0) (hint : Interior data.n h ⌊sc.get 0⌋ n) :
    outV.get n = outC.get n := by
  rw [(gen_var_out data sv h hh hsz hv hvnz outV hV).2 n hn, (gen_const_out data sc h hh hsz h1 hnz outC hC).2 n hn, hsame]
  exact paths_agree_interior data.get data.n h hh _ _ n hn hint

/-- time-varying path: at every sample whose own stencil is interior the output is the value at `n + shifts[n]` of the
    polynomial of degree ≤ 2h-1 through the 2h surrounding samples -/
theorem gen_var_is_interpolant (data shifts : Arr ℝ) (h : ℕ) (hh : 1 ≤ h) (hsz : 2 ≤ data.n) (hv : shifts.n = data.n)
    (hnz : ∃ i < shifts.n, shifts.get i ≠ 0) (out : Arr ℝ) (hout : Gen.timeshift data shifts (2 * (h : ℤ) - 1) = some out)
    (n : ℕ) (hn : n < data.n) (hint : Interior data.n h ⌊shifts.get n⌋ n) (p : Polynomial ℝ) (hp : p.natDegree < 2 * h)
    (hfit : ∀ k < 2 * h, p.eval (((n : ℤ) + ⌊shifts.get n⌋ - ((h : ℤ) - 1) + (k : ℤ) : ℤ) : ℝ)
      = data.get ((n : ℤ) + ⌊shifts.get n⌋ - ((h : ℤ) - 1) + (k : ℤ)).toNat) :
    out.get n = p.eval ((n : ℝ) + shifts.get n) := by
  rw [(gen_var_out data shifts h hh hsz hv hnz out hout).2 n hn, paths_agree_interior data.get data.n h hh _ _ n hn hint,
    shiftConst_is_interpolant data.get data.n h hh _ _ (gen_frac_range _).1 (gen_frac_range _).2 n hn hint p hp hfit]
  congr 1
  ring

example : Interior 12 2 ⌊((-5 / 2 : ℝ))⌋ 6 := by
  have : ⌊((-5 / 2 : ℝ))⌋ = -3 := by rw [Int.floor_eq_iff]; norm_num
  rw [this]; unfold Interior; norm_num

/- Region TimeShift's own excerpt of `df_timeshift` (shift arithmetic, order, dtype kinds, one column); the whole wrapper: Props/DfWrappersGen. -/
theorem gen_df_samples (fs seconds : ℝ) : Gen.df_timeshift_samples fs seconds = seconds * fs := by
  unfold Gen.df_timeshift_samples
  ring

/-- the wrapper uses the default order 31, i.e. half-length 16 -/
theorem gen_df_order : Gen.df_timeshift_order = 2 * ((16 : ℕ) : ℤ) - 1 := by decide

/-- shifted are exactly the columns whose dtype kind is one of b, i, u, f, c -/
theorem gen_df_numeric_kinds : Gen.df_timeshift_numeric_kinds = "biufc" := by decide

/-- `seconds == 0`: every column is returned as it is -/
theorem gen_df_column_noop (col : Arr ℝ) (fs : ℝ) : Gen.df_timeshift_column col fs 0 = some col := by
  simp [Gen.df_timeshift_column, Gen.df_timeshift_noop]

/-- otherwise a selected numeric column is the constant-path time shift by `seconds·fs` samples, order 31 -/
theorem gen_df_column_eq_model (col : Arr ℝ) (fs seconds : ℝ) (hsz : 2 ≤ col.n) (hs : seconds ≠ 0) (hfs : fs ≠ 0) :
    ∃ out : Arr ℝ, Gen.df_timeshift_column col fs seconds = some out ∧ out.n = col.n ∧
      ∀ n < col.n, out.get n
        = Model.shiftConst col.get col.n 16 ⌊seconds * fs⌋ (seconds * fs - (⌊seconds * fs⌋ : ℝ)) n := by
  have hno : Gen.df_timeshift_noop seconds = false := by
    simp [Gen.df_timeshift_noop, hs]
  have e0 : (NpTS.ofScalar (Gen.df_timeshift_samples fs seconds)).get 0 = seconds * fs := gen_df_samples fs seconds
  have key := gen_timeshift_const_eq_model col (NpTS.ofScalar (Gen.df_timeshift_samples fs seconds)) 16 (by norm_num) hsz rfl
    (by rw [e0]; exact mul_ne_zero hs hfs)
  rw [e0] at key
  unfold Gen.df_timeshift_column
  rw [hno, gen_df_order]
  exact key

example : ∃ (col : Arr ℝ) (fs seconds : ℝ), 2 ≤ col.n ∧ seconds ≠ 0 ∧ fs ≠ 0 :=
  ⟨⟨2, fun _ => 0⟩, 1, 1, le_rfl, one_ne_zero, one_ne_zero⟩

#print axioms gen_timeshift_even_order
#print axioms gen_timeshift_tiny
#print axioms gen_timeshift_zero
#print axioms gen_timeshift_size_mismatch
#print axioms gen_timeshift_negative_order
#print axioms gen_timeshift_const_eq_model
#print axioms gen_timeshift_var_eq_model
#print axioms gen_const_interior
#print axioms gen_const_is_interpolant
#print axioms gen_const_reproduces_poly
#print axioms gen_const_integer
#print axioms gen_zero_identity
#print axioms gen_const_constant
#print axioms gen_paths_agree_interior
#print axioms gen_var_is_interpolant
#print axioms gen_df_samples
#print axioms gen_df_order
#print axioms gen_df_numeric_kinds
#print axioms gen_df_column_noop
#print axioms gen_df_column_eq_model
