/-
  Props/MisoGen — the machine-translated speckit/systems.py (`Gen/Miso.lean`, regenerated each run) against the hand model
  `Model.misoResidual` and the property theorems of `Lemmas/MisoResidual`.  `a_…`: analytic solver, `n_…`: numeric solver; `loopN`
  is loop N of Gen/Miso.lean, inner before outer.  systems.py: `a_loop1` 264-272, `a_loop2/3` 275-285, `a_loop4` 288-297, `a_store`
  320-340, `a_loop5/6_toC` 345-353; `n_loop1/2` 488-499, `n_loop3` 507-509, `numeric_H_solves` 514-528, `gen_numeric_loop5/6_toC`
  534-536.  `GramLtf` (C01/C05 for the `ltf` results) makes the assembled arrays `Miso.T/S/S00`.
-/
import SpecKitV.Lemmas.MisoResidual
import SpecKitV.Gen.Miso
import SpecKitV.Props.AttrsA
import SpecKitV.Lemmas.CauchySchwarz

open Finset
open Np.Miso

namespace MisoGen

theorem sumAxis0_toC (n : ℕ) (f : ℕ → Cx ℝ) : Cx.toC (sumAxis0 n f) = ∑ i ∈ range n, Cx.toC (f i) :=
  forRange_cx_toC n f

theorem pySum_toC (n : ℕ) (f : ℕ → Cx ℝ) : Cx.toC (pySum n f) = ∑ i ∈ range n, Cx.toC (f i) :=
  forRange_cx_toC n f

theorem matVec_toC (n : ℕ) (M : ℕ → ℕ → Cx ℝ) (v : ℕ → Cx ℝ) (i : ℕ) :
    Cx.toC (matVec n M v i) = ∑ j ∈ range n, Cx.toC (M i j) * Cx.toC (v j) :=
  (forRange_cx_toC n fun j => M i j * v j).trans (Finset.sum_congr rfl fun _ _ => Cx.toC_mul _ _)

theorem normSq_nonneg' (z : Cx ℝ) : 0 ≤ Cx.normSq z := Cx.normSq_nonneg z

theorem abs_ge_re (z : Cx ℝ) : |z.re| ≤ Cx.abs z := by
  rw [Cx.abs_eq]; exact Complex.abs_re_le_norm (Cx.toC z)

/-- `np.abs(np.sqrt(z)) = sqrt(|z|)` for every complex `z` (principal square root) -/
theorem abs_csqrt (z : Cx ℝ) : Cx.abs (csqrt z) = Real.sqrt (Cx.abs z) := by
  obtain ⟨h1, h2⟩ := abs_le.mp (abs_ge_re z)
  have key : Cx.normSq (csqrt z) = Cx.abs z := by
    have e : ∀ a b : ℝ, Cx.normSq ⟨a, b⟩ = a * a + b * b := fun _ _ => rfl
    unfold csqrt
    simp only [RL.sqrt_eq, RL.two_eq, e, apply_ite, neg_mul_neg, ite_self,
      Real.mul_self_sqrt (div_nonneg (neg_le_iff_add_nonneg'.mp h1) zero_le_two),
      Real.mul_self_sqrt (div_nonneg (sub_nonneg.mpr h2) zero_le_two)]
    ring
  rw [Cx.abs, key, RL.sqrt_eq]

/-- `forRange_items` for `for v in range(a, b)` (here because RealInst cannot import Np/Miso, which defines `forRangeFrom`) -/
theorem forRangeFrom_items {σ ι : Type} (I : σ → Prop) (Q : ι → σ → Prop) (w : ℕ → ι → Prop) (a b : ℕ) (body : ℕ → σ → σ)
    (hstep : ∀ i st, a ≤ i → i < b → I st → I (body i st) ∧ ∀ s, Q s st ∨ w i s → Q s (body i st))
    (init : σ) (h0 : I init) :
    I (forRangeFrom a b init body) ∧ ∀ s, (Q s init ∨ ∃ i, a ≤ i ∧ i < b ∧ w i s) → Q s (forRangeFrom a b init body) := by
  obtain ⟨hI, hQ⟩ := forRange_items I Q (fun t => w (a + t)) (b - a) (fun t => body (a + t))
    (fun t st ht => hstep (a + t) st (Nat.le_add_right a t) (by omega)) init h0
  refine ⟨hI, fun s h => hQ s (h.imp_right fun ⟨i, hai, hib, hw⟩ => ⟨i - a, by omega, ?_⟩)⟩
  rwa [Nat.add_sub_cancel' hai]

theorem forRangeFrom_preserve {σ : Type} (a b : ℕ) (init : σ) (body : ℕ → σ → σ) (I : σ → Prop)
    (hI0 : I init) (hI : ∀ j s, a ≤ j → j < b → I s → I (body j s)) : I (forRangeFrom a b init body) :=
  forRange_inv (fun _ => I) (b - a) init _ hI0 fun t s ht hs => hI (a + t) s (Nat.le_add_right a t) (by omega) hs

def Tkey (i j : ℕ) : Key := ['T'] ++ Key.num (i + 1) ++ Key.num (j + 1)
def Skey (i : ℕ) : Key := ['S'] ++ Key.num (i + 1) ++ ['0']
def S0key (i : ℕ) : Key := ['S', '0'] ++ Key.num (i + 1)
def Hkey (i : ℕ) : Key := ['H'] ++ Key.num (i + 1)
def S00key : Key := ['S', '0', '0']
def asdKey : Key := ['o', 'p', 't', 'i', 'm', 'a', 'l', '_', 'a', 's', 'd']

theorem num_succ (n : ℕ) (h : n < 9) : Key.num (n + 1) = [Nat.digitChar (n + 1)] := by
  unfold Key.num; exact Nat.toDigits_of_lt_base (by omega)

theorem num_inj (a b : ℕ) (h : Key.num a = Key.num b) : a = b := by
  have := congrArg (fun l => Nat.ofDigitChars 10 l 0) h
  simpa [Key.num] using this

theorem num_ne_zero_digit (a : ℕ) : Key.num (a + 1) ≠ ['0'] := by
  intro h
  have : Key.num (a + 1) = Key.num 0 := by rw [h]; simp [Key.num, Nat.toDigits_zero]
  exact absurd (num_inj _ _ this) (by omega)

theorem digitChar_succ_inj (a b : ℕ) (ha : a < 9) (hb : b < 9) : Nat.digitChar (a + 1) = Nat.digitChar (b + 1) ↔ a = b := by
  rw [← List.singleton_inj, ← num_succ a ha, ← num_succ b hb]
  exact ⟨fun h => Nat.succ_injective (num_inj _ _ h), fun h => by rw [h]⟩

theorem digitChar_succ_ne_zero (a : ℕ) (ha : a < 9) : Nat.digitChar (a + 1) ≠ '0' := fun h =>
  num_ne_zero_digit a (by rw [num_succ a ha, h])

/-- the names under which the analytic solver files arrays in `result`: the SymPy symbols `T{i+1}{j+1}`, `S{i+1}0`, `H{i+1}` of its
    linear system, and `S0{i+1}`, `S00`, which only the residual sums read -/
inductive Sym
  | T (i j : ℕ) | S (i : ℕ) | S0 (i : ℕ) | S00 | H (i : ℕ)

/-- `str(sym)` -/
def Sym.key : Sym → Key
  | .T i j => Tkey i j
  | .S i => Skey i
  | .S0 i => S0key i
  | .S00 => S00key
  | .H i => Hkey i

def Sym.below (q : ℕ) : Sym → Prop
  | .T i j => i < q ∧ j < q
  | .S i | .S0 i | .H i => i < q
  | .S00 => True

theorem Sym.below_mono {q q' : ℕ} (hq : q ≤ q') : ∀ {s : Sym}, s.below q → s.below q'
  | .T _ _, h => ⟨h.1.trans_le hq, h.2.trans_le hq⟩
  | .S _, h | .S0 _, h | .H _, h => Nat.lt_of_lt_of_le h hq
  | .S00, _ => trivial

theorem Sym.key_eq : ∀ {s : Sym}, s.below 9 → s.key = match s with
    | .T i j => ['T', Nat.digitChar (i + 1), Nat.digitChar (j + 1)]
    | .S i => ['S', Nat.digitChar (i + 1), '0']
    | .S0 i => ['S', '0', Nat.digitChar (i + 1)]
    | .S00 => ['S', '0', '0']
    | .H i => ['H', Nat.digitChar (i + 1)]
  | .T i j, h => by simp [Sym.key, Tkey, num_succ i h.1, num_succ j h.2]
  | .S i, h => by simp [Sym.key, Skey, num_succ i h]
  | .S0 i, h => by simp [Sym.key, S0key, num_succ i h]
  | .S00, _ => rfl
  | .H i, h => by simp [Sym.key, Hkey, num_succ i h]

/-- for at most nine inputs (one digit per index) no two symbols share a key -/
theorem Sym.key_inj {s s' : Sym} (h : s.below 9) (h' : s'.below 9) (e : s.key = s'.key) : s = s' := by
  rw [Sym.key_eq h, Sym.key_eq h'] at e
  -- mixed pairs differ in the letter or set a digit `1`…`9` against a `'0'`; the others are `digitChar_succ_inj`
  cases s <;> cases s' <;> simp only [Sym.below] at h h' <;>
    simp only [List.cons.injEq, Char.reduceEq, false_and, and_false, and_true, true_and, digitChar_succ_inj, digitChar_succ_ne_zero,
      eq_comm (a := '0'), h, h', Sym.T.injEq, Sym.S.injEq, Sym.S0.injEq, Sym.H.injEq] at e ⊢ <;> exact e

theorem T11_eq : (['T', '1', '1'] : Key) = Tkey 0 0 := by decide

theorem dict_set_same (d : Dict ℝ) (key : Key) (v : ℕ → Cx ℝ) : Dict.set d key v key = v := by
  simp [Dict.set]
theorem dict_set_other (d : Dict ℝ) (key key' : Key) (v : ℕ → Cx ℝ) (h : key' ≠ key) : Dict.set d key v key' = d key' := by
  simp [Dict.set, h]

end MisoGen

open MisoGen

theorem gen_numeric_loop6_toC (q : ℕ) (ltf : Ltf ℝ) (la : LinAlg ℝ) (Tmat : A3 ℝ) (Hvec : A2 ℝ) (Sum3 : ℕ → Cx ℝ) (i k : ℕ) :
    Cx.toC (Gen.MISO_numeric_optimal_spectral_analysis.loop6 q ltf la Tmat Hvec Sum3 i k)
      = Cx.toC (Sum3 k) + ∑ j ∈ range q, (starRingEnd ℂ) (Cx.toC (Hvec j k)) * Cx.toC (Hvec i k) * Cx.toC (Tmat j i k) :=
  -- the step as the difference a pass makes: `ring` then always has a goal (the old value cancels) and takes the summand's factors,
  -- and the sum, in any order
  forRange_sum (fun st => Cx.toC (st k)) _ q Sum3 _ fun j st _ => eq_add_of_sub_eq' <| by
    simp only [Cx.toC_add, Cx.toC_mul, Cx.toC_conj]
    ring

theorem gen_numeric_loop5_toC (q : ℕ) (ltf : Ltf ℝ) (la : LinAlg ℝ) (Tmat : A3 ℝ) (Hvec : A2 ℝ) (Sum3 : ℕ → Cx ℝ) (k : ℕ) :
    Cx.toC (Gen.MISO_numeric_optimal_spectral_analysis.loop5 q ltf la Tmat Hvec Sum3 k)
      = Cx.toC (Sum3 k) + ∑ i ∈ range q, ∑ j ∈ range q,
          (starRingEnd ℂ) (Cx.toC (Hvec j k)) * Cx.toC (Hvec i k) * Cx.toC (Tmat j i k) :=
  forRange_sum (fun st => Cx.toC (st k)) _ q Sum3 _ fun i st _ => gen_numeric_loop6_toC q ltf la Tmat Hvec st i k

/-- `MISO_numeric_optimal_spectral_analysis` returns `sqrt |Model.misoResidual|` evaluated on ITS OWN arrays `S00`, `Svec`, `Tmat`, `Hvec`
    (whatever they contain) -/
theorem gen_numeric_eq_model (q : ℕ) (ltf : Ltf ℝ) (la : LinAlg ℝ) (k : ℕ) :
    let L := Gen.MISO_numeric_optimal_spectral_analysis.locals q ltf la
    Gen.MISO_numeric_optimal_spectral_analysis q ltf la k
      = Real.sqrt (Cx.abs (Model.misoResidual q (L.S00 k) (fun i => L.Svec i k) (fun i j => L.Tmat i j k) (fun i => L.Hvec i k))) := by
  intro L
  simp only [L, Gen.MISO_numeric_optimal_spectral_analysis, Gen.MISO_numeric_optimal_spectral_analysis.locals,
    Gen.MISO_numeric_optimal_spectral_analysis.stage4, abs_csqrt]
  -- `abs_csqrt` has made `np.abs(np.sqrt(·))` (systems.py:539) `Real.sqrt (Cx.abs _)`; `np.sqrt(np.abs(·))` would be that by unfolding
  refine congrArg Real.sqrt (congrArg Cx.abs (Cx.toC_injective ?_))
  simp only [model_misoResidual_toC, Cx.toC_add, Cx.toC_sub, Cx.toC_ofReal, sumAxis0_toC, Cx.toC_mul, Cx.toC_conj,
    gen_numeric_loop5_toC, RL.zero_eq, Complex.ofReal_zero]
  -- the zero `Sum3` starts from is left to `ring`, which also takes `S00 - Sum1 - Sum2 + Sum3` in any order and bracketing
  ring

/-! The analytic solver, at most nine inputs: the proof takes each index as one digit of the f-string keys; from eleven inputs on the
keys are ambiguous in the Python source itself (`analytic_key_collision`). -/

namespace MisoGen

theorem Tkey_def (i j : ℕ) : (['T'] ++ Key.num (i + 1) ++ Key.num (j + 1) : Key) = Tkey i j := rfl
theorem Skey_def (i : ℕ) : (['S'] ++ Key.num (i + 1) ++ ['0'] : Key) = Skey i := rfl
theorem S0key_def (i : ℕ) : (['S', '0'] ++ Key.num (i + 1) : Key) = S0key i := rfl
theorem Hkey_def (i : ℕ) : (['H'] ++ Key.num (i + 1) : Key) = Hkey i := rfl
/-! the translator writes `1 + p_` for the index of an unknown of the symbolic system (`eqns`, `storeSolution`) -/
theorem Hkey_def' (i : ℕ) : (['H'] ++ Key.num (1 + i) : Key) = Hkey i := by rw [Nat.add_comm]; rfl
theorem Skey_def' (i : ℕ) : (['S'] ++ Key.num (1 + i) ++ ['0'] : Key) = Skey i := by rw [Nat.add_comm]; rfl
theorem S00key_def : (['S', '0', '0'] : Key) = S00key := rfl
theorem asdKey_def : (['o', 'p', 't', 'i', 'm', 'a', 'l', '_', 'a', 's', 'd'] : Key) = asdKey := rfl

/-- the value the source files under `T{i+1}{j+1}` -/
noncomputable def Tval (ltf : Ltf ℝ) (i j k : ℕ) : Cx ℝ :=
  if i = j then Cx.ofReal (Gen.Auto.Gxx ((ltf.auto (Chan.inp i)).bin k))
  else if i < j then Gen.Cross.Gxy ((ltf.cross (Chan.inp i) (Chan.inp j)).bin k)
  else Cx.conj (Gen.Cross.Gxy ((ltf.cross (Chan.inp j) (Chan.inp i)).bin k))

/-- the value filed under `S{i+1}0` -/
noncomputable def Sval (ltf : Ltf ℝ) (i k : ℕ) : Cx ℝ := Gen.Cross.Gxy ((ltf.cross (Chan.inp i) Chan.out).bin k)

theorem Tval_self (ltf : Ltf ℝ) (i : ℕ) : Tval ltf i i = fun k => Cx.ofReal (Gen.Auto.Gxx ((ltf.auto (Chan.inp i)).bin k)) := by
  funext k; rw [Tval, if_pos rfl]

theorem Tval_lt (ltf : Ltf ℝ) {i j : ℕ} (h : i < j) :
    Tval ltf i j = fun k => Gen.Cross.Gxy ((ltf.cross (Chan.inp i) (Chan.inp j)).bin k) := by
  funext k; rw [Tval, if_neg (Nat.ne_of_lt h), if_pos h]

theorem Tval_gt (ltf : Ltf ℝ) {i j : ℕ} (h : i < j) :
    Tval ltf j i = fun k => Cx.conj (Gen.Cross.Gxy ((ltf.cross (Chan.inp i) (Chan.inp j)).bin k)) := by
  funext k; rw [Tval, if_neg (Nat.ne_of_gt h), if_neg (Nat.lt_asymm h)]

variable (q : ℕ) (ltf : Ltf ℝ) (Hsol : ℕ → ℕ → Cx ℝ)

noncomputable def Sym.val : Sym → ℕ → Cx ℝ
  | .T i j => Tval ltf i j
  | .S i => Sval ltf i
  | .S0 i => fun k => Cx.conj (Sval ltf i k)
  | .S00 => fun k => Cx.ofReal (Gen.Auto.Gxx ((ltf.auto Chan.out).bin k))
  | .H i => Hsol i

/-- `d` holds, under the symbol's name, the array it stands for -/
def Filed (s : Sym) (d : Dict ℝ) : Prop := s.below q → d s.key = s.val ltf Hsol

/-- the dict `result` of the analytic solver when the residual sums are evaluated (all spectra and the solution stored) -/
noncomputable def aDict : Dict ℝ := (Gen.MISO_analytic_optimal_spectral_analysis.stage4 q ltf Hsol).result

variable {q ltf Hsol}

/-- `result[str(x)] = v` files `x` and, the names being distinct, disturbs no other symbol.  Every store of the source writes the
    symbol's final array, so "filed" only ever grows. -/
theorem filed_set (hq : q ≤ 9) {x : Sym} (hx : x.below q) {v : ℕ → Cx ℝ} (hv : v = x.val ltf Hsol) (d : Dict ℝ) (s : Sym)
    (h : Filed q ltf Hsol s d ∨ s = x) : Filed q ltf Hsol s (Dict.set d x.key v) := by
  intro hs
  by_cases e : s.key = x.key
  · rw [e, dict_set_same, Sym.key_inj (Sym.below_mono hq hs) (Sym.below_mono hq hx) e, hv]
  · rw [dict_set_other _ _ _ _ e]
    exact h.elim (fun h => h hs) fun h => absurd (h ▸ rfl) e

/- The body `_` of these loop lemmas is found by unification with the generated `loopN`, and each store is a `Dict.set _ (Sym.…).key _` by
   unfolding only: a change in the Python shows here as a type mismatch over the whole generated body. -/
theorem a_loop1 (hq : q ≤ 9) (d : Dict ℝ) (s : Sym) (h : Filed q ltf Hsol s d ∨ ∃ i, 1 ≤ i ∧ i < q ∧ s = .T i i) :
    Filed q ltf Hsol s (Gen.MISO_analytic_optimal_spectral_analysis.loop1 q ltf Hsol d) :=
  (forRangeFrom_items (fun _ => True) (Filed q ltf Hsol) (fun i s => s = .T i i) 1 q _
    (fun i d _ hi _ => ⟨trivial, filed_set hq (x := .T i i) ⟨hi, hi⟩ (Tval_self ltf i).symm d⟩) d trivial).2 s h

theorem a_loop3 (hq : q ≤ 9) (i : ℕ) (hi : i < q) (d : Dict ℝ) (s : Sym)
    (h : Filed q ltf Hsol s d ∨ ∃ j, i + 1 ≤ j ∧ j < q ∧ (s = .T i j ∨ s = .T j i)) :
    Filed q ltf Hsol s (Gen.MISO_analytic_optimal_spectral_analysis.loop3 q ltf Hsol d i) :=
  (forRangeFrom_items (fun _ => True) (Filed q ltf Hsol) (fun j s => s = .T i j ∨ s = .T j i) (i + 1) q _
    (fun j d hij hj _ => ⟨trivial, fun s h =>
      filed_set hq (x := .T j i) ⟨hj, hi⟩ (Tval_gt ltf hij).symm _ s <| (or_assoc.mpr h).imp_left <|
        filed_set hq (x := .T i j) ⟨hi, hj⟩ (Tval_lt ltf hij).symm d s⟩) d trivial).2 s h

theorem a_loop2 (hq : q ≤ 9) (d : Dict ℝ) (s : Sym)
    (h : Filed q ltf Hsol s d ∨ ∃ i, i < q ∧ ∃ j, i + 1 ≤ j ∧ j < q ∧ (s = .T i j ∨ s = .T j i)) :
    Filed q ltf Hsol s (Gen.MISO_analytic_optimal_spectral_analysis.loop2 q ltf Hsol d) :=
  (forRange_items (fun _ => True) (Filed q ltf Hsol) (fun i s => ∃ j, i + 1 ≤ j ∧ j < q ∧ (s = .T i j ∨ s = .T j i)) q _
    (fun i d hi _ => ⟨trivial, a_loop3 hq i hi d⟩) d trivial).2 s h

theorem a_loop4 (hq : q ≤ 9) (d : Dict ℝ) (s : Sym) (h : Filed q ltf Hsol s d ∨ ∃ i, i < q ∧ (s = .S i ∨ s = .S0 i)) :
    Filed q ltf Hsol s (Gen.MISO_analytic_optimal_spectral_analysis.loop4 q ltf Hsol d) :=
  (forRange_items (fun _ => True) (Filed q ltf Hsol) (fun i s => s = .S i ∨ s = .S0 i) q _
    (fun i d hi _ => ⟨trivial, fun s h =>
      filed_set hq (x := .S0 i) hi rfl _ s <| (or_assoc.mpr h).imp_left <| filed_set hq (x := .S i) hi rfl d s⟩) d trivial).2 s h

theorem a_store (hq : q ≤ 9) (d : Dict ℝ) (s : Sym) (h : Filed q ltf Hsol s d ∨ ∃ i, i < q ∧ s = .H i) :
    Filed q ltf Hsol s (Dict.storeSolution d q Hkey Hsol) :=
  (forRange_items (fun _ => True) (Filed q ltf Hsol) (fun i s => s = .H i) q _
    (fun i d hi _ => ⟨trivial, filed_set hq (x := .H i) hi rfl d⟩) d trivial).2 s h

theorem aDict_eq : aDict q ltf Hsol = Dict.storeSolution
    (Dict.set (Gen.MISO_analytic_optimal_spectral_analysis.loop4 q ltf Hsol
      (Gen.MISO_analytic_optimal_spectral_analysis.loop2 q ltf Hsol
        (Gen.MISO_analytic_optimal_spectral_analysis.loop1 q ltf Hsol
          (Dict.set Dict.empty (Tkey 0 0) (fun k => Cx.ofReal (Gen.Auto.Gxx ((ltf.auto (Chan.inp 0)).bin k)))))))
      S00key (fun k => Cx.ofReal (Gen.Auto.Gxx ((ltf.auto Chan.out).bin k))))
    q Hkey Hsol := by
  simp only [aDict, Gen.MISO_analytic_optimal_spectral_analysis.stage4, Gen.MISO_analytic_optimal_spectral_analysis.stage3,
    Gen.MISO_analytic_optimal_spectral_analysis.stage2, Gen.MISO_analytic_optimal_spectral_analysis.stage1,
    Gen.MISO_analytic_optimal_spectral_analysis.stage0, T11_eq, S00key_def, Hkey_def', Nat.add_sub_cancel]

theorem aDict_filed (hq : q ≤ 9) (s : Sym) (hs : s.below q) : aDict q ltf Hsol s.key = s.val ltf Hsol := by
  rw [aDict_eq]
  refine a_store hq _ s ?_ hs
  cases s with
  | H i => exact Or.inr ⟨i, hs, rfl⟩
  | S00 => exact Or.inl (filed_set hq (x := .S00) trivial rfl _ _ (Or.inr rfl))
  | S i => exact Or.inl (filed_set hq (x := .S00) trivial rfl _ _ (Or.inl (a_loop4 hq _ _ (Or.inr ⟨i, hs, Or.inl rfl⟩))))
  | S0 i => exact Or.inl (filed_set hq (x := .S00) trivial rfl _ _ (Or.inl (a_loop4 hq _ _ (Or.inr ⟨i, hs, Or.inr rfl⟩))))
  | T i j =>
    refine Or.inl (filed_set hq (x := .S00) trivial rfl _ _ (Or.inl (a_loop4 hq _ _ (Or.inl (a_loop2 hq _ _ ?_)))))
    rcases Nat.lt_trichotomy i j with hij | rfl | hij
    · exact Or.inr ⟨i, hs.1, j, hij, hs.2, Or.inl rfl⟩
    · refine Or.inl (a_loop1 hq _ _ ?_)
      rcases Nat.eq_zero_or_pos i with rfl | h0
      · exact Or.inl (filed_set hq (x := .T 0 0) hs (Tval_self ltf 0).symm _ _ (Or.inr rfl))
      · exact Or.inr ⟨i, h0, hs.1, rfl⟩
    · exact Or.inr ⟨j, hs.2, i, hij, hs.1, Or.inr rfl⟩

variable (q ltf Hsol)

theorem analytic_T (hq : q ≤ 9) (i j : ℕ) (hi : i < q) (hj : j < q) :
    aDict q ltf Hsol (Tkey i j) = fun k => Tval ltf i j k :=
  aDict_filed hq (.T i j) ⟨hi, hj⟩

theorem analytic_S (hq : q ≤ 9) (i : ℕ) (hi : i < q) :
    aDict q ltf Hsol (Skey i) = (fun k => Sval ltf i k) ∧ aDict q ltf Hsol (S0key i) = (fun k => Cx.conj (Sval ltf i k)) :=
  ⟨aDict_filed hq (.S i) hi, aDict_filed hq (.S0 i) hi⟩

theorem analytic_S00 (hq : q ≤ 9) :
    aDict q ltf Hsol S00key = fun k => Cx.ofReal (Gen.Auto.Gxx ((ltf.auto Chan.out).bin k)) :=
  aDict_filed hq .S00 trivial

theorem analytic_H (hq : q ≤ 9) (i : ℕ) (hi : i < q) : aDict q ltf Hsol (Hkey i) = Hsol i :=
  aDict_filed hq (.H i) hi

/-- the residual sums read from `result` what was filed -/
theorem a_loop6_toC (hq : q ≤ 9) (Sum3 : ℕ → Cx ℝ) (i k : ℕ) (hi : i < q) :
    Cx.toC (Gen.MISO_analytic_optimal_spectral_analysis.loop6 q ltf Hsol (aDict q ltf Hsol) Sum3 i k)
      = Cx.toC (Sum3 k)
        + ∑ j ∈ range q, (starRingEnd ℂ) (Cx.toC (Hsol j k)) * Cx.toC (Hsol i k) * Cx.toC (Tval ltf j i k) :=
  forRange_sum (fun st => Cx.toC (st k)) _ q Sum3 _ fun j st hj => eq_add_of_sub_eq' <| by
    simp only [Cx.toC_add, Cx.toC_mul, Cx.toC_conj, Hkey_def, Tkey_def, analytic_H q ltf Hsol hq j hj, analytic_H q ltf Hsol hq i hi,
      analytic_T q ltf Hsol hq j i hj hi]
    ring

theorem a_loop5_toC (hq : q ≤ 9) (S1 S2 S3 : ℕ → Cx ℝ) (k : ℕ) :
    let r := Gen.MISO_analytic_optimal_spectral_analysis.loop5 q ltf Hsol (aDict q ltf Hsol) S1 S2 S3
    Cx.toC (r.1 k) = Cx.toC (S1 k) + ∑ i ∈ range q, Cx.toC (Hsol i k) * (starRingEnd ℂ) (Cx.toC (Sval ltf i k)) ∧
    Cx.toC (r.2.1 k) = Cx.toC (S2 k) + ∑ i ∈ range q, (starRingEnd ℂ) (Cx.toC (Hsol i k)) * Cx.toC (Sval ltf i k) ∧
    Cx.toC (r.2.2 k) = Cx.toC (S3 k) + ∑ i ∈ range q, ∑ j ∈ range q,
        (starRingEnd ℂ) (Cx.toC (Hsol j k)) * Cx.toC (Hsol i k) * Cx.toC (Tval ltf j i k) :=
  ⟨forRange_sum (fun st => Cx.toC (st.1 k)) _ q (S1, S2, S3) _ fun i st hi => eq_add_of_sub_eq' <| by
      simp only [Cx.toC_add, Cx.toC_mul, Cx.toC_conj, Hkey_def, S0key_def, analytic_H q ltf Hsol hq i hi,
        (analytic_S q ltf Hsol hq i hi).2]
      ring,
    forRange_sum (fun st => Cx.toC (st.2.1 k)) _ q (S1, S2, S3) _ fun i st hi => eq_add_of_sub_eq' <| by
      simp only [Cx.toC_add, Cx.toC_mul, Cx.toC_conj, Hkey_def, Skey_def, analytic_H q ltf Hsol hq i hi,
        (analytic_S q ltf Hsol hq i hi).1]
      ring,
    forRange_sum (fun st => Cx.toC (st.2.2 k)) _ q (S1, S2, S3) _ fun i st hi => a_loop6_toC q ltf Hsol hq st.2.2 i k hi⟩

end MisoGen

/-- `MISO_analytic_optimal_spectral_analysis` (q ≤ 9 inputs) returns `sqrt |Model.misoResidual|` of: `S00` = Gxx of `ltf(output)`;
    `S_i` = Gxy of `ltf([input_i, output])` (`S0i` is its conjugate: that is what the code files under `S0{i}`);
    `T_ij` = Gxx of `ltf(input_i)` (i = j), Gxy of `ltf([input_i, input_j])` (i < j), its conjugate (i > j); `H` = the stored solution -/
theorem gen_analytic_eq_model (q : ℕ) (ltf : Ltf ℝ) (Hsol : ℕ → ℕ → Cx ℝ) (hq : q ≤ 9) (k : ℕ) :
    Gen.MISO_analytic_optimal_spectral_analysis q ltf Hsol k
      = Real.sqrt (Cx.abs (Model.misoResidual q (Gen.Auto.Gxx ((ltf.auto Chan.out).bin k)) (fun i => Sval ltf i k)
          (fun i j => Tval ltf i j k) (fun i => Hsol i k))) := by
  -- the left side quotes the translator's spelling of the store in `stage4`
  have hD : Dict.storeSolution (Gen.MISO_analytic_optimal_spectral_analysis.stage3 q ltf Hsol).result (q + 1 - 1)
      (fun p_ => ['H'] ++ Key.num (1 + p_)) Hsol = aDict q ltf Hsol := rfl
  obtain ⟨e1, e2, e3⟩ := a_loop5_toC q ltf Hsol hq (fun _ => Cx.ofReal (RealLike.ofNat 0)) (fun _ => Cx.ofReal (RealLike.ofNat 0))
    (fun _ => Cx.ofReal (RealLike.ofNat 0)) k
  simp only [Gen.MISO_analytic_optimal_spectral_analysis, Gen.MISO_analytic_optimal_spectral_analysis.locals,
    Gen.MISO_analytic_optimal_spectral_analysis.stage4, hD, asdKey_def, S00key_def, dict_set_same, Cx.ofReal_re, abs_csqrt]
  refine congrArg Real.sqrt (congrArg Cx.abs (Cx.toC_injective ?_))
  simp only [Cx.toC_add, Cx.toC_sub, e1, e2, e3, analytic_S00 q ltf Hsol hq, model_misoResidual_toC]
  simp only [Cx.toC_ofReal, RL.ofNat_eq, Nat.cast_zero, Complex.ofReal_zero]
  ring

namespace MisoGen

/-! The numeric solver, for EVERY number of inputs: its memoisation keys `"S00"`, `"T{i+1}_{j+1}"`, `"T11"`, `"S{i+1}0"` are unambiguous
(decimal representation is injective, contains no `'_'`, and is `"0"` only for 0) -/

/-- the pair key `f"T{i+1}_{j+1}"` of `MISO_numeric_optimal_spectral_analysis` -/
def NTkey (i j : ℕ) : Key := ['T'] ++ Key.num (i + 1) ++ ['_'] ++ Key.num (j + 1)
def T11key : Key := ['T', '1', '1']

theorem NTkey_def (i j : ℕ) : (['T'] ++ Key.num (i + 1) ++ ['_'] ++ Key.num (j + 1) : Key) = NTkey i j := rfl
theorem T11key_def : (['T', '1', '1'] : Key) = T11key := rfl

theorem num_no_underscore (a : ℕ) : '_' ∉ Key.num a := Nat.underscore_not_in_toDigits

theorem NTkey_eq (i j : ℕ) : NTkey i j = 'T' :: (Key.num (i + 1) ++ '_' :: Key.num (j + 1)) := by
  simp [NTkey]

/-- the pair key determines the pair, whatever the number of digits: the separator is no digit -/
theorem NTkey_inj (i j a b : ℕ) : NTkey i j = NTkey a b ↔ i = a ∧ j = b := by
  constructor
  · intro h
    rw [NTkey_eq, NTkey_eq, List.cons.injEq] at h
    obtain ⟨h1, _, h2⟩ := (List.append_cons_inj_of_notMem (num_no_underscore _) (num_no_underscore _)).mp h.2
    exact ⟨by have := num_inj _ _ h1; omega, by have := num_inj _ _ h2; omega⟩
  · rintro ⟨rfl, rfl⟩; rfl

theorem Skey_eq (i : ℕ) : Skey i = 'S' :: (Key.num (i + 1) ++ ['0']) := by simp [Skey]

/-- `"S{i+1}0"` determines `i`, whatever the number of digits -/
theorem Skey_inj' (i a : ℕ) : Skey i = Skey a ↔ i = a := by
  constructor
  · intro h
    rw [Skey_eq, Skey_eq, List.cons.injEq] at h
    have := num_inj _ _ (List.append_cancel_right h.2)
    omega
  · rintro rfl; rfl

theorem Skey_ne_S00 (i : ℕ) : Skey i ≠ S00key := by
  intro h
  rw [Skey_eq, S00key, List.cons.injEq] at h
  have h2 : Key.num (i + 1) ++ ['0'] = ['0'] ++ ['0'] := h.2
  exact num_ne_zero_digit i (List.append_cancel_right h2)

theorem NTkey_ne_T11 (i j : ℕ) : NTkey i j ≠ T11key := by
  intro h
  rw [NTkey_eq, T11key, List.cons.injEq] at h
  have hm : '_' ∈ Key.num (i + 1) ++ '_' :: Key.num (j + 1) := by simp
  rw [h.2] at hm
  simp at hm

/-- the `ltf` calls that `get_ltf_result` memoises in the numeric solver; `key` and `run` are `abbrev`s, so that at a constructor they
    are the key and the call as the source writes them -/
inductive Call
  | T (i j : ℕ) | S (i : ℕ) | T11 | S00

abbrev Call.key : Call → Key
  | .T i j => NTkey i j
  | .S i => Skey i
  | .T11 => T11key
  | .S00 => S00key

abbrev Call.run (ltf : Ltf ℝ) : Call → Spec ℝ
  | .T i j => ltf.cross (Chan.inp i) (Chan.inp j)
  | .S i => ltf.cross (Chan.inp i) Chan.out
  | .T11 => ltf.cross (Chan.inp 0) (Chan.inp 0)
  | .S00 => ltf.auto Chan.out

/-- for EVERY number of inputs the key determines the call: the other pairs differ in the first character -/
theorem Call.key_inj : ∀ {s s' : Call}, s.key = s'.key → s = s'
  | .T i j, .T a b, e => by obtain ⟨rfl, rfl⟩ := (NTkey_inj i j a b).mp e; rfl
  | .S i, .S a, e => by rw [(Skey_inj' i a).mp e]
  | .T11, .T11, _ | .S00, .S00, _ => rfl
  | .T i j, .T11, e => absurd e (NTkey_ne_T11 i j)
  | .T11, .T i j, e => absurd e.symm (NTkey_ne_T11 i j)
  | .S i, .S00, e => absurd e (Skey_ne_S00 i)
  | .S00, .S i, e => absurd e.symm (Skey_ne_S00 i)
  | .T i j, .S a, e | .S a, .T i j, e => by simp [Call.key, NTkey, Skey] at e
  | .T i j, .S00, e | .S00, .T i j, e => by simp [Call.key, NTkey, S00key] at e
  | .S a, .T11, e | .T11, .S a, e => by simp [Call.key, T11key, Skey] at e
  | .S00, .T11, e | .T11, .S00, e => by simp [Call.key, T11key, S00key] at e

/-- every cached object is the result of the call its key stands for -/
def Coh (ltf : Ltf ℝ) (c : Cache ℝ) : Prop := ∀ (s : Call) o, c s.key = some o → o = s.run ltf

theorem coh_empty (ltf : Ltf ℝ) : Coh ltf Cache.empty := fun _ _ h => by simp [Cache.empty] at h

/-- `get_ltf_result`: on a coherent cache the object returned is the call's result, whether it was cached or not -/
theorem memo_coh {ltf : Ltf ℝ} {c : Cache ℝ} (s : Call) (hc : Coh ltf c) :
    (Cache.memo c s.key fun _ => s.run ltf).1 = s.run ltf ∧ Coh ltf (Cache.memo c s.key fun _ => s.run ltf).2 := by
  unfold Cache.memo
  cases h : c s.key with
  | some o => exact ⟨hc s o h, hc⟩
  | none =>
    refine ⟨rfl, fun s' o' h' => ?_⟩
    by_cases e : s'.key = s.key
    · simp only [if_pos e] at h'
      rw [Call.key_inj e, ← Option.some.inj h']
    · simp only [if_neg e] at h'
      exact hc s' o' h'

theorem anyNonzero_zero (n : ℕ) (v : ℕ → Cx ℝ) (h : ∀ k, v k = Cx.ofReal RealLike.zero) : anyNonzero n v = false := by
  unfold anyNonzero
  refine forRange_inv (fun _ acc => acc = false) n false _ rfl ?_
  intro k acc _ hacc
  subst hacc
  simp [h k, Cx.ofReal, RealLike.bne]

theorem setRow_apply (T : A3 ℝ) (i j : ℕ) (v : ℕ → Cx ℝ) (a b : ℕ) :
    A3.setRow T i j v a b = if a = i ∧ b = j then v else T a b := by
  funext k; simp only [A3.setRow]; split_ifs <;> rfl

theorem setRow2_apply (S : A2 ℝ) (i : ℕ) (v : ℕ → Cx ℝ) (a : ℕ) : A2.setRow S i v a = if a = i then v else S a := by
  funext k; simp only [A2.setRow]; split_ifs <;> rfl

/-- `T'` is `T` after some stores `Tmat[a, b, :] = V[a, b, :]` -/
def Fill (V T T' : A3 ℝ) : Prop := ∀ a b, T' a b = T a b ∨ T' a b = V a b

theorem Fill.refl (V T : A3 ℝ) : Fill V T T := fun _ _ => Or.inl rfl

theorem Fill.trans {V T₁ T₂ T₃ : A3 ℝ} (h : Fill V T₁ T₂) (h' : Fill V T₂ T₃) : Fill V T₁ T₃ := fun a b =>
  (h' a b).elim (fun e => e ▸ h a b) Or.inr

theorem Fill.keep {V T T' : A3 ℝ} (h : Fill V T T') {a b : ℕ} (e : T a b = V a b) : T' a b = V a b :=
  (h a b).elim (fun e' => e'.trans e) id

theorem setRow_same (T : A3 ℝ) (i j : ℕ) (v : ℕ → Cx ℝ) : A3.setRow T i j v i j = v := by
  rw [setRow_apply, if_pos ⟨rfl, rfl⟩]

theorem Fill.setRow (V T : A3 ℝ) (i j : ℕ) : Fill V T (A3.setRow T i j (V i j)) := fun a b => by
  rw [setRow_apply]
  split_ifs with h
  · exact Or.inr (by rw [h.1, h.2])
  · exact Or.inl rfl

/-- `T` is `np.zeros((q, q, nf))` after some such stores: every row is still zero or already final -/
def Part (V T : A3 ℝ) : Prop := Fill V (fun _ _ _ => Cx.ofReal RealLike.zero) T

/-- the diagonal rule `if not np.any(T[a, a, :]): T[a, a, :] = V[a, a, :]` on an array under construction: by `Part`, a row with a
    non-zero entry is already final -/
theorem Fill.diag {V T : A3 ℝ} (hT : Part V T) (n a : ℕ) :
    let T' := if (!(anyNonzero n (fun k => T a a k))) = true then A3.setRow T a a (V a a) else T
    Fill V T T' ∧ T' a a = V a a := by
  intro T'
  by_cases hany : anyNonzero n (fun k => T a a k) = true
  · have e : T' = T := by simp [T', hany]
    rw [e]
    refine ⟨Fill.refl V T, (hT a a).resolve_left fun hz => ?_⟩
    rw [anyNonzero_zero n _ (fun k => congrFun hz k)] at hany
    exact absurd hany (by simp)
  · have e : T' = A3.setRow T a a (V a a) := by simp [T', hany]
    rw [e]
    exact ⟨Fill.setRow V T a a, setRow_same T a a _⟩

/-- the `for j` body (systems.py:493-499) on `Tmat` alone -/
noncomputable def pairPass (n i j : ℕ) (v₁ v₂ v₃ v₄ : ℕ → Cx ℝ) (T : A3 ℝ) : A3 ℝ :=
  let T := A3.setRow (A3.setRow T i j v₁) j i v₂
  let T := if (!(anyNonzero n (fun k => T i i k))) = true then A3.setRow T i i v₃ else T
  if (!(anyNonzero n (fun k => T j j k))) = true then A3.setRow T j j v₄ else T

/-- the rows the pass for the pair `(i, j)` is responsible for -/
def pairRows (i j : ℕ) (p : ℕ × ℕ) : Prop := p = (i, j) ∨ p = (j, i) ∨ p = (i, i) ∨ p = (j, j)

theorem Fill.pair {V T : A3 ℝ} (hT : Part V T) (n i j : ℕ) {v₁ v₂ v₃ v₄ : ℕ → Cx ℝ}
    (h₁ : v₁ = V i j) (h₂ : v₂ = V j i) (h₃ : v₃ = V i i) (h₄ : v₄ = V j j) :
    Part V (pairPass n i j v₁ v₂ v₃ v₄ T) ∧
      ∀ p : ℕ × ℕ, T p.1 p.2 = V p.1 p.2 ∨ pairRows i j p → pairPass n i j v₁ v₂ v₃ v₄ T p.1 p.2 = V p.1 p.2 := by
  subst h₁ h₂ h₃ h₄
  have f1 := Fill.setRow V T i j
  have f2 := Fill.setRow V (A3.setRow T i j (V i j)) j i
  obtain ⟨f3, d3⟩ := Fill.diag (hT.trans (f1.trans f2)) n i
  obtain ⟨f4, d4⟩ := Fill.diag (hT.trans (f1.trans (f2.trans f3))) n j
  refine ⟨hT.trans (f1.trans (f2.trans (f3.trans f4))), ?_⟩
  rintro p (h | rfl | rfl | rfl | rfl)
  · exact (f1.trans (f2.trans (f3.trans f4))).keep h
  · exact (f2.trans (f3.trans f4)).keep (setRow_same T i j _)
  · exact (f3.trans f4).keep (setRow_same _ j i _)
  · exact f4.keep d3
  · exact d4

variable (q : ℕ) (ltf : Ltf ℝ) (la : LinAlg ℝ) (A : Chan → ℕ → ℝ)

/-- every two-channel analysis reports, as its `Gxx` / `Gyy`, the auto-spectrum `A` of its first / second channel (C01/C05: one plan for
    all calls, `XX` is the mean of `|X|²` of the first channel whatever the second one is) -/
def AutoCons (ltf : Ltf ℝ) (A : Chan → ℕ → ℝ) : Prop :=
  ∀ a b k, Gen.Cross.Gxx ((ltf.cross a b).bin k) = A a k ∧ Gen.Cross.Gyy ((ltf.cross a b).bin k) = A b k

/-- what `Tmat[i, j, :]` holds when the per-bin systems are solved -/
noncomputable def NTval (ltf : Ltf ℝ) (A : Chan → ℕ → ℝ) (i j k : ℕ) : Cx ℝ :=
  if i = j then Cx.ofReal (A (Chan.inp i) k)
  else if i < j then Gen.Cross.Gxy ((ltf.cross (Chan.inp i) (Chan.inp j)).bin k)
  else Cx.conj (Gen.Cross.Gxy ((ltf.cross (Chan.inp j) (Chan.inp i)).bin k))

theorem NTval_lt {i j : ℕ} (h : i < j) :
    NTval ltf A i j = fun k => Gen.Cross.Gxy ((ltf.cross (Chan.inp i) (Chan.inp j)).bin k) := by
  funext k; rw [NTval, if_neg (Nat.ne_of_lt h), if_pos h]

theorem NTval_gt {i j : ℕ} (h : i < j) :
    NTval ltf A j i = fun k => Cx.conj (Gen.Cross.Gxy ((ltf.cross (Chan.inp i) (Chan.inp j)).bin k)) := by
  funext k; rw [NTval, if_neg (Nat.ne_of_gt h), if_neg (Nat.lt_asymm h)]

variable {ltf A}

/-- both ways in which the source obtains a diagonal row: `Gxx` of a pair with `i` first, `Gyy` of a pair with `i` second -/
theorem AutoCons.diag (hA : AutoCons ltf A) (i : ℕ) (a b : Chan) :
    (NTval ltf A i i = fun k => Cx.ofReal (Gen.Cross.Gxx ((ltf.cross (Chan.inp i) b).bin k))) ∧
    NTval ltf A i i = fun k => Cx.ofReal (Gen.Cross.Gyy ((ltf.cross a (Chan.inp i)).bin k)) := by
  constructor <;> funext k
  · rw [NTval, if_pos rfl, (hA _ _ k).1]
  · rw [NTval, if_pos rfl, (hA _ _ k).2]

variable (ltf A)

def TInv (st : Spec ℝ × Cache ℝ × A3 ℝ) : Prop := Coh ltf st.2.1 ∧ Part (NTval ltf A) st.2.2

def TDone (p : ℕ × ℕ) (st : Spec ℝ × Cache ℝ × A3 ℝ) : Prop := st.2.2 p.1 p.2 = NTval ltf A p.1 p.2

theorem n_loop2 (hA : AutoCons ltf A) (nf i : ℕ) (st : Spec ℝ × Cache ℝ × A3 ℝ) (h : TInv ltf A st) :
    let st' := Gen.MISO_numeric_optimal_spectral_analysis.loop2 q ltf la st.2.1 st.1 nf st.2.2 i
    TInv ltf A st' ∧ ∀ p, TDone ltf A p st ∨ (∃ j, i + 1 ≤ j ∧ j < q ∧ pairRows i j p) → TDone ltf A p st' := by
  refine forRangeFrom_items (TInv ltf A) (TDone ltf A) (pairRows i) (i + 1) q _ ?_ st h
  rintro j st hij hj ⟨hC, hT⟩
  have hm := memo_coh (.T i j) hC
  -- the generated body acts on `Tmat` as `pairPass` (by unfolding only)
  show TInv ltf A (_, _, pairPass nf i j _ _ _ _ st.2.2) ∧ ∀ p, _ → TDone ltf A p (_, _, pairPass nf i j _ _ _ _ st.2.2)
  simp only [NTkey_def, hm.1]
  have hp := Fill.pair hT nf i j (NTval_lt ltf A hij).symm (NTval_gt ltf A hij).symm
    (AutoCons.diag hA i (Chan.inp i) (Chan.inp j)).1.symm (AutoCons.diag hA j (Chan.inp i) (Chan.inp j)).2.symm
  exact ⟨⟨hm.2, hp.1⟩, hp.2⟩

theorem n_loop1 (hA : AutoCons ltf A) (nf : ℕ) (st : Spec ℝ × Cache ℝ × A3 ℝ) (h : TInv ltf A st) :
    let st' := Gen.MISO_numeric_optimal_spectral_analysis.loop1 q ltf la st.2.1 st.1 nf st.2.2
    TInv ltf A st' ∧ ∀ p, TDone ltf A p st ∨ (∃ i, i < q ∧ ∃ j, i + 1 ≤ j ∧ j < q ∧ pairRows i j p) → TDone ltf A p st' :=
  forRange_items (TInv ltf A) (TDone ltf A) (fun i p => ∃ j, i + 1 ≤ j ∧ j < q ∧ pairRows i j p) q _
    (fun i st _ h => n_loop2 q ltf la A hA nf i st h) st h

theorem stage0_facts :
    let s := Gen.MISO_numeric_optimal_spectral_analysis.stage0 q ltf la
    Coh ltf s.result ∧ s.nf = (ltf.auto Chan.out).nf ∧ s.S00 = fun k => Gen.Auto.Gxx ((ltf.auto Chan.out).bin k) := by
  intro s
  have hm := memo_coh .S00 (coh_empty ltf)
  simp only [s, Gen.MISO_numeric_optimal_spectral_analysis.stage0, S00key_def, hm.1]
  exact ⟨hm.2, trivial, trivial⟩

/-- `Tmat` after stage 2 (the pair loops and the `q == 1` case) -/
theorem numeric_Tmat (hA : AutoCons ltf A) :
    (∀ i j, i < q → j < q → (Gen.MISO_numeric_optimal_spectral_analysis.stage2 q ltf la).Tmat i j = NTval ltf A i j) ∧
    Coh ltf (Gen.MISO_numeric_optimal_spectral_analysis.stage2 q ltf la).result := by
  obtain ⟨⟨hC, _⟩, hT⟩ := n_loop1 q ltf la A hA (Gen.MISO_numeric_optimal_spectral_analysis.stage0 q ltf la).nf
    ((Gen.MISO_numeric_optimal_spectral_analysis.stage0 q ltf la).obj, (Gen.MISO_numeric_optimal_spectral_analysis.stage0 q ltf la).result,
      (Gen.MISO_numeric_optimal_spectral_analysis.stage0 q ltf la).Tmat) ⟨(stage0_facts q ltf la).1, Fill.refl _ _⟩
  by_cases h1 : q = 1
  · -- single input: no pairs, the diagonal comes from ltf([x0, x0]).Gxx
    subst h1
    have hm := memo_coh .T11 hC
    simp only [Gen.MISO_numeric_optimal_spectral_analysis.stage2, Gen.MISO_numeric_optimal_spectral_analysis.stage1, decide_true,
      if_true, T11key_def, hm.1]
    refine ⟨fun i j hi hj => ?_, hm.2⟩
    obtain rfl : i = 0 := by omega
    obtain rfl : j = 0 := by omega
    rw [setRow_same, (AutoCons.diag hA 0 (Chan.inp 0) (Chan.inp 0)).1]
  · simp only [Gen.MISO_numeric_optimal_spectral_analysis.stage2, Gen.MISO_numeric_optimal_spectral_analysis.stage1, decide_eq_false h1]
    refine ⟨fun i j hi hj => hT (i, j) (Or.inr ?_), hC⟩
    rcases Nat.lt_trichotomy i j with hij | rfl | hij
    · exact ⟨i, hi, j, hij, hj, Or.inl rfl⟩
    · rcases Nat.eq_zero_or_pos i with rfl | h0
      · exact ⟨0, hi, 1, le_rfl, by omega, Or.inr (Or.inr (Or.inl rfl))⟩
      · exact ⟨0, by omega, i, h0, hi, Or.inr (Or.inr (Or.inr rfl))⟩
    · exact ⟨j, hj, i, hij, hi, Or.inr (Or.inl rfl)⟩

theorem n_loop3 {result : Cache ℝ} {obj : Spec ℝ} {Svec : A2 ℝ} (hc : Coh ltf result) (i : ℕ) (hi : i < q) :
    (Gen.MISO_numeric_optimal_spectral_analysis.loop3 q ltf la result obj Svec).2.2 i = fun k => Sval ltf i k := by
  refine (forRange_items (fun st : Spec ℝ × Cache ℝ × A2 ℝ => Coh ltf st.2.1) (fun a st => st.2.2 a = fun k => Sval ltf a k)
    (fun n a => a = n) q _ ?_ (obj, result, Svec) hc).2 i (Or.inr ⟨i, hi, rfl⟩)
  intro n st _ hC
  have hm := memo_coh (.S n) hC
  simp only [Skey_def, hm.1]
  refine ⟨hm.2, fun a h => ?_⟩
  rw [setRow2_apply]
  split_ifs with e
  · rw [e]; rfl
  · exact h.resolve_right e

theorem numeric_assembly (hq1 : 1 ≤ q) (hA : AutoCons ltf A) :
    let s := Gen.MISO_numeric_optimal_spectral_analysis.stage3 q ltf la
    (∀ i j k, i < q → j < q → s.Tmat i j k = NTval ltf A i j k) ∧ (∀ i k, i < q → s.Svec i k = Sval ltf i k) ∧
    (∀ k, s.S00 k = Gen.Auto.Gxx ((ltf.auto Chan.out).bin k)) ∧ s.nf = (ltf.auto Chan.out).nf := by
  intro s
  have _ := hq1  -- not needed: without inputs every `i < q` is vacuous
  obtain ⟨_, n0, s0⟩ := stage0_facts q ltf la
  obtain ⟨hT, hC⟩ := numeric_Tmat q ltf la A hA
  exact ⟨fun i j k hi hj => congrFun (hT i j hi hj) k, fun i k hi => congrFun (n_loop3 q ltf la hC i hi) k,
    fun k => congrFun s0 k, n0⟩

/-- `H` solves the normal equations `Σ_j T_ij H_j = S_i` (i < q) -/
def SolvesAt (q : ℕ) (T : ℕ → ℕ → Cx ℝ) (S H : ℕ → Cx ℝ) : Prop :=
  ∀ i, i < q → ∑ j ∈ range q, Cx.toC (T i j) * Cx.toC (H j) = Cx.toC (S i)

/-- CONTRACT of `np.linalg.solve` / `np.linalg.pinv` (trusted base): on a solvable system `T H = S`, what `solve(T, S)` returns (if it
    does not raise) and `pinv(T) @ S` are solutions.  (`cond` only selects the branch.) -/
def LinAlgSound (la : LinAlg ℝ) (q : ℕ) : Prop :=
  ∀ T S, (∃ H0, SolvesAt q T S H0) →
    (∀ H, la.solve q T S = some H → SolvesAt q T S H) ∧ SolvesAt q T S (matVec q (la.pinv q T) S)

theorem setCol_apply (H : A2 ℝ) (k : ℕ) (v : ℕ → Cx ℝ) (a k' : ℕ) : A2.setCol H k v a k' = if k' = k then v a else H a k' := rfl

/-- the per-bin solve loop hands `Tmat[:, :, k]` (in that index order) and `Svec[:, k]` to the solver; under the solver contract column
    `k` of `Hvec` solves the normal equations of bin `k` -/
theorem numeric_H_solves (hla : LinAlgSound la q) (nf : ℕ) (Tmat : A3 ℝ) (Svec Hvec : A2 ℝ)
    (hcons : ∀ k, k < nf → ∃ H0, SolvesAt q (fun a b => Tmat a b k) (fun a => Svec a k) H0) (k : ℕ) (hk : k < nf) :
    SolvesAt q (fun a b => Tmat a b k) (fun a => Svec a k)
      (fun a => Gen.MISO_numeric_optimal_spectral_analysis.loop4 q ltf la nf Tmat Svec Hvec a k) := by
  refine (forRange_items (fun _ : A2 ℝ => True)
    (fun k' H => SolvesAt q (fun a b => Tmat a b k') (fun a => Svec a k') (fun a => H a k')) (fun n k' => k' = n) nf _ ?_ Hvec trivial).2
    k (Or.inr ⟨k, hk, rfl⟩)
  intro n H hn _
  obtain ⟨hsolve, hpinv⟩ := hla (fun a b => Tmat a b n) (fun a => Svec a n) (hcons n hn)
  refine ⟨trivial, ?_⟩
  -- whichever branch is taken, column n receives a solution and the other columns are kept
  have hcol : ∀ v, SolvesAt q (fun a b => Tmat a b n) (fun a => Svec a n) v →
      ∀ k', SolvesAt q (fun a b => Tmat a b k') (fun a => Svec a k') (fun a => H a k') ∨ k' = n →
        SolvesAt q (fun a b => Tmat a b k') (fun a => Svec a k') (fun a => A2.setCol H n v a k') := by
    intro v hv k' h
    by_cases e : k' = n
    · subst e; simpa only [setCol_apply, if_true] using hv
    · simpa only [setCol_apply, if_neg e] using h.resolve_right e
  dsimp only
  rcases hc : la.cond q (fun a b => Tmat a b n) with _ | cnd
  · exact hcol _ hpinv
  · dsimp only  -- `match some cnd with …`, so that the `if` is in sight
    split_ifs
    · exact hcol _ hpinv
    · rcases hs : la.solve q (fun a b => Tmat a b n) (fun a => Svec a n) with _ | sol
      · exact hcol _ hpinv
      · exact hcol _ (hsolve sol hs)

variable (Hsol : ℕ → ℕ → Cx ℝ)

/-- CONTRACT of `sp.solve` + `lambdify` (trusted base): the values stored under the unknowns' names satisfy, at bin `k`, the equations
    that the source built symbolically (`Gen.….eqns`, translated from the source), evaluated at the arrays stored under the symbols'
    names -/
def AnalyticSolved (q : ℕ) (ltf : Ltf ℝ) (Hsol : ℕ → ℕ → Cx ℝ) (k : ℕ) : Prop :=
  ∀ i, i < q → Cx.toC (Gen.MISO_analytic_optimal_spectral_analysis.eqns q (fun key => aDict q ltf Hsol key k) i) = 0

theorem analytic_eqns_toC (q : ℕ) (ltf : Ltf ℝ) (Hsol : ℕ → ℕ → Cx ℝ) (hq : q ≤ 9) (k i : ℕ) (hi : i < q) :
    Cx.toC (Gen.MISO_analytic_optimal_spectral_analysis.eqns q (fun key => aDict q ltf Hsol key k) i)
      = Cx.toC (Sval ltf i k) - ∑ j ∈ range q, Cx.toC (Tval ltf i j k) * Cx.toC (Hsol j k) := by
  unfold Gen.MISO_analytic_optimal_spectral_analysis.eqns
  simp only [Cx.toC_sub, pySum_toC, Cx.toC_mul, Skey_def', Tkey_def, Hkey_def']
  rw [(analytic_S q ltf Hsol hq i hi).1]
  congr 1
  exact Finset.sum_congr rfl fun j hj => by
    rw [analytic_T q ltf Hsol hq i j hi (Finset.mem_range.mp hj), analytic_H q ltf Hsol hq j (Finset.mem_range.mp hj)]

/-- the symbolic system of the analytic solver is `Σ_j T_ij H_j = S_i0` with `T_ij`, `S_i0` the stored spectra: not transposed, not
    conjugated -/
theorem analytic_H_solves (hq : q ≤ 9) (k : ℕ) (hsol : AnalyticSolved q ltf Hsol k) :
    SolvesAt q (fun i j => Tval ltf i j k) (fun i => Sval ltf i k) (fun i => Hsol i k) := fun i hi =>
  (sub_eq_zero.mp ((analytic_eqns_toC q ltf Hsol hq k i hi).symm.trans (hsol i hi))).symm

end MisoGen

namespace MisoGen
open ComplexConjugate

/-- C01/C05 at bin `k`: every `ltf` call of one systems function runs the same plan (same `fs, **kwargs`, equal-length records), so its
    base estimates are means over the SAME `K` segments of products of the per-segment windowed DFTs `Z chan s`:
    `XY` of `ltf([a, b])` is the mean of `Z_a · conj Z_b` (Props/C01 `ref_cross_is_X_conjY`), `XX` / `YY` the mean squared moduli of the
    first / second channel, `S2` and `fs` are common. -/
structure GramLtf (ltf : Ltf ℝ) (k K : ℕ) (fs S2 : ℝ) (Z : Chan → ℕ → ℂ) : Prop where
  cXY : ∀ a b, Cx.toC ((ltf.cross a b).bin k).XY = (1 / (K : ℂ)) * ∑ s ∈ range K, Z a s * conj (Z b s)
  cXX : ∀ a b, ((ltf.cross a b).bin k).XX = (1 / (K : ℝ)) * ∑ s ∈ range K, Complex.normSq (Z a s)
  cYY : ∀ a b, ((ltf.cross a b).bin k).YY = (1 / (K : ℝ)) * ∑ s ∈ range K, Complex.normSq (Z b s)
  cfs : ∀ a b, ((ltf.cross a b).bin k).fs = fs
  cS2 : ∀ a b, ((ltf.cross a b).bin k).S2 = S2
  aXX : ∀ a, ((ltf.auto a).bin k).XX = (1 / (K : ℝ)) * ∑ s ∈ range K, Complex.normSq (Z a s)
  afs : ∀ a, ((ltf.auto a).bin k).fs = fs
  aS2 : ∀ a, ((ltf.auto a).bin k).S2 = S2

variable {ltf : Ltf ℝ} {k K : ℕ} {fs S2 : ℝ} {Z : Chan → ℕ → ℂ}

/-- the one-sided density `2·mean|Z_a|²/(fs·S2)` that every call reports for channel `a` -/
noncomputable def autoOf (K : ℕ) (fs S2 : ℝ) (Z : Chan → ℕ → ℂ) (a : Chan) : ℝ :=
  2 * ((1 / (K : ℝ)) * ∑ s ∈ range K, Complex.normSq (Z a s)) / (fs * S2)

theorem gram_Gxy (h : GramLtf ltf k K fs S2 Z) (a b : Chan) :
    Cx.toC (Gen.Cross.Gxy ((ltf.cross a b).bin k)) = Miso.mp K (2 / (fs * S2)) (Z a) (Z b) := by
  rw [AttrsA.cGxy, h.cXY, h.cfs, h.cS2, Miso.mp]; push_cast; ring

theorem gram_cGxx (h : GramLtf ltf k K fs S2 Z) (a b : Chan) :
    Gen.Cross.Gxx ((ltf.cross a b).bin k) = autoOf K fs S2 Z a ∧ Gen.Cross.Gyy ((ltf.cross a b).bin k) = autoOf K fs S2 Z b := by
  rw [AttrsA.cGxx, AttrsA.cGyy, h.cXX, h.cYY, h.cfs, h.cS2]; exact ⟨rfl, rfl⟩

theorem gram_aGxx (h : GramLtf ltf k K fs S2 Z) (a : Chan) :
    Gen.Auto.Gxx ((ltf.auto a).bin k) = autoOf K fs S2 Z a := by
  rw [AttrsA.aGxx, h.aXX, h.afs, h.aS2]; rfl

theorem autoOf_cast (a : Chan) : ((autoOf K fs S2 Z a : ℝ) : ℂ) = Miso.mp K (2 / (fs * S2)) (Z a) (Z a) := by
  rw [Miso.mp_self, autoOf]; congr 1; ring

def Xof (Z : Chan → ℕ → ℂ) (i s : ℕ) : ℂ := Z (Chan.inp i) s
def Yof (Z : Chan → ℕ → ℂ) (s : ℕ) : ℂ := Z Chan.out s

theorem gram_NTval (h : GramLtf ltf k K fs S2 Z) (A : Chan → ℕ → ℝ) (hA : ∀ a, A a k = autoOf K fs S2 Z a) (i j : ℕ) :
    Cx.toC (NTval ltf A i j k) = Miso.T K (2 / (fs * S2)) (Xof Z) i j := by
  unfold NTval
  split_ifs with h1 h2
  · subst h1; rw [Cx.toC_ofReal, hA, autoOf_cast]; rfl
  · rw [gram_Gxy h]; rfl
  · rw [Cx.toC_conj, gram_Gxy h, Miso.mp_conj]; rfl

/-- the analytic solver's `T` is the numeric one's with the diagonal taken from the single-channel calls -/
theorem gram_Tval (h : GramLtf ltf k K fs S2 Z) (i j : ℕ) :
    Cx.toC (Tval ltf i j k) = Miso.T K (2 / (fs * S2)) (Xof Z) i j :=
  gram_NTval h (fun a k => Gen.Auto.Gxx ((ltf.auto a).bin k)) (gram_aGxx h) i j

theorem gram_Sval (h : GramLtf ltf k K fs S2 Z) (i : ℕ) :
    Cx.toC (Sval ltf i k) = Miso.S K (2 / (fs * S2)) (Xof Z) (Yof Z) i := by
  unfold Sval; rw [gram_Gxy h]; rfl

theorem gram_S00 (h : GramLtf ltf k K fs S2 Z) :
    Gen.Auto.Gxx ((ltf.auto Chan.out).bin k) = Miso.S00 K (2 / (fs * S2)) (Yof Z) := by
  rw [gram_aGxx h]; simp only [autoOf, Miso.S00, Yof]; ring

theorem gram_CS (h : GramLtf ltf k K fs S2 Z) (a b : Chan) :
    CS ((ltf.cross a b).bin k) := by
  have hm : ∀ c, 0 ≤ (1 / (K : ℝ)) * ∑ s ∈ range K, Complex.normSq (Z c s) := fun c =>
    mul_nonneg (by positivity) (Finset.sum_nonneg fun s _ => Complex.normSq_nonneg _)
  refine ⟨h.cXX a b ▸ hm a, h.cYY a b ▸ hm b, ?_⟩
  · rw [Cx.normSq_eq, h.cXY, h.cXX, h.cYY, Complex.normSq_mul, mul_mul_mul_comm]
    refine mul_le_mul (le_of_eq ?_) (cross_cs_complex K (Z a) (Z b)) (Complex.normSq_nonneg _) (by positivity)
    rw [show (1 / (K : ℂ)) = ((1 / (K : ℝ) : ℝ) : ℂ) by push_cast; rfl, Complex.normSq_ofReal]

/-- `1 − coherence` without the division; Cauchy–Schwarz covers the corner `YY = 0` -/
theorem one_sub_coh {d : Gen.BinData ℝ} (h : CS d) (hx : d.XX ≠ 0) :
    d.XX * d.YY * (1 - Gen.Cross.coh d) = d.XX * d.YY - Cx.normSq d.XY := by
  rw [AttrsA.ccoh]
  rcases eq_or_ne d.YY 0 with hy | hy
  · have hn := h.2.2
    rw [hy, mul_zero] at hn ⊢
    rw [le_antisymm hn (Cx.normSq_nonneg _), zero_mul, sub_zero]
  · rw [mul_sub, mul_one, mul_div_cancel₀ _ (mul_ne_zero hx hy)]

end MisoGen

/-- normal equations of bin `k` in Gram form (`Lemmas/MisoResidual` spells them out as hypotheses) -/
def NormalEq (q K : ℕ) (c : ℝ) (X : ℕ → ℕ → ℂ) (Y : ℕ → ℂ) (H : ℕ → ℂ) : Prop :=
  ∀ i, i < q → ∑ j ∈ range q, Miso.T K c X i j * H j = Miso.S K c X Y i

namespace MisoGen

def ofC (z : ℂ) : Cx ℝ := ⟨z.re, z.im⟩
@[simp] theorem toC_ofC (z : ℂ) : Cx.toC (ofC z) = z := rfl

section
variable {q K : ℕ} {c : ℝ} {X : ℕ → ℕ → ℂ} {Y : ℕ → ℂ} {S : ℕ → Cx ℝ} {T : ℕ → ℕ → Cx ℝ}
  (hT : ∀ i j, i < q → j < q → Cx.toC (T i j) = Miso.T K c X i j) (hS : ∀ i, i < q → Cx.toC (S i) = Miso.S K c X Y i)
include hT hS

theorem model_eq_resid {S00 : ℝ} (h00 : S00 = Miso.S00 K c Y) {H : ℕ → Cx ℝ} :
    Cx.toC (Model.misoResidual q S00 S T H) = Miso.resid q K c X Y (fun j => Cx.toC (H j)) := by
  rw [model_misoResidual_toC, Miso.resid, h00]
  refine congrArg₂ _ (congrArg₂ _ (congrArg _ ?_) ?_) ?_
  · exact Finset.sum_congr rfl fun i hi => by rw [hS i (Finset.mem_range.mp hi)]
  · exact Finset.sum_congr rfl fun i hi => by rw [hS i (Finset.mem_range.mp hi)]
  · exact Finset.sum_congr rfl fun i hi => Finset.sum_congr rfl fun j hj => by
      rw [hT j i (Finset.mem_range.mp hj) (Finset.mem_range.mp hi)]

theorem solvesAt_iff (H : ℕ → Cx ℝ) : SolvesAt q T S H ↔ NormalEq q K c X Y fun j => Cx.toC (H j) := by
  refine forall_congr' fun i => forall_congr' fun hi => ?_
  rw [hS i hi, Finset.sum_congr rfl fun j hj => by rw [hT i j hi (Finset.mem_range.mp hj)]]

end

theorem abs_of_resid {q K : ℕ} {c : ℝ} (hc : 0 ≤ c) {X : ℕ → ℕ → ℂ} {Y : ℕ → ℂ} {z : Cx ℝ} {H : ℕ → ℂ}
    (hz : Cx.toC z = Miso.resid q K c X Y H) : Cx.abs z = (Miso.resid q K c X Y H).re := by
  obtain ⟨him, hre⟩ := Miso.residual_real_nonneg q K c X Y hc H
  rw [Cx.abs_eq, hz, ← Complex.abs_re_eq_norm.mpr him, abs_of_nonneg hre]

end MisoGen

section numeric
variable (q : ℕ) (ltf : Ltf ℝ) (la : LinAlg ℝ) (K : ℕ → ℕ) (fs : ℝ) (S2 : ℕ → ℝ) (Z : ℕ → Chan → ℕ → ℂ)

noncomputable def numericH (k : ℕ) (j : ℕ) : ℂ := Cx.toC ((Gen.MISO_numeric_optimal_spectral_analysis.locals q ltf la).Hvec j k)

theorem numeric_nf : (Gen.MISO_numeric_optimal_spectral_analysis.locals q ltf la).nf = (ltf.auto Chan.out).nf :=
  (stage0_facts q ltf la).2.1

theorem numeric_arrays (hq1 : 1 ≤ q) (hG : ∀ k, GramLtf ltf k (K k) fs (S2 k) (Z k)) (k : ℕ) :
    let L := Gen.MISO_numeric_optimal_spectral_analysis.locals q ltf la
    (∀ i j, i < q → j < q → Cx.toC (L.Tmat i j k) = Miso.T (K k) (2 / (fs * S2 k)) (Xof (Z k)) i j) ∧
    (∀ i, i < q → Cx.toC (L.Svec i k) = Miso.S (K k) (2 / (fs * S2 k)) (Xof (Z k)) (Yof (Z k)) i) ∧
    L.S00 k = Miso.S00 (K k) (2 / (fs * S2 k)) (Yof (Z k)) := by
  have hA : AutoCons ltf (fun a k => autoOf (K k) fs (S2 k) (Z k) a) := fun a b k => gram_cGxx (hG k) a b
  obtain ⟨hT, hS, h00, _⟩ := numeric_assembly q ltf la _ hq1 hA
  exact ⟨fun i j hi hj => (congrArg Cx.toC (hT i j k hi hj)).trans (gram_NTval (hG k) _ (fun a => rfl) i j),
    fun i hi => (congrArg Cx.toC (hS i k hi)).trans (gram_Sval (hG k) i), (h00 k).trans (gram_S00 (hG k))⟩

/-- **numeric solver = `Miso.resid`** at its own `Hvec`, WHATEVER the external solver produced: with the Gram structure of the `ltf`
    results the value returned is real and non-negative (`Miso.residual_is_norm`) -/
theorem gen_numeric_eq_resid (hq1 : 1 ≤ q) (hG : ∀ k, GramLtf ltf k (K k) fs (S2 k) (Z k)) (k : ℕ)
    (hc : 0 ≤ 2 / (fs * S2 k)) :
    Gen.MISO_numeric_optimal_spectral_analysis q ltf la k
      = Real.sqrt (Miso.resid q (K k) (2 / (fs * S2 k)) (Xof (Z k)) (Yof (Z k)) (numericH q ltf la k)).re := by
  obtain ⟨hT, hS, h00⟩ := numeric_arrays q ltf la K fs S2 Z hq1 hG k
  rw [gen_numeric_eq_model]
  congr 1
  exact abs_of_resid hc (model_eq_resid hT hS h00)

theorem gen_numeric_is_norm (hq1 : 1 ≤ q) (hG : ∀ k, GramLtf ltf k (K k) fs (S2 k) (Z k)) (k : ℕ)
    (hc : 0 ≤ 2 / (fs * S2 k)) :
    Gen.MISO_numeric_optimal_spectral_analysis q ltf la k
      = Real.sqrt (2 / (fs * S2 k) * ((1 / (K k : ℝ)) * ∑ s ∈ range (K k),
          Complex.normSq (Yof (Z k) s - ∑ j ∈ range q, (starRingEnd ℂ) (numericH q ltf la k j) * Xof (Z k) j s))) := by
  rw [gen_numeric_eq_resid q ltf la K fs S2 Z hq1 hG k hc, Miso.resid_re]; rfl

/-- under the solver contract the numeric `Hvec[:, k]` solves the normal equations of bin `k`.  `hcons` always holds of a Gram system (the
    projection of `Y` on the span of the `X_i` solves it); that is not proved here, hence the hypothesis -/
theorem gen_numeric_normal_eq (hq1 : 1 ≤ q) (hG : ∀ k, GramLtf ltf k (K k) fs (S2 k) (Z k)) (hla : LinAlgSound la q)
    (hcons : ∀ k, k < (ltf.auto Chan.out).nf → ∃ H0, NormalEq q (K k) (2 / (fs * S2 k)) (Xof (Z k)) (Yof (Z k)) H0)
    (k : ℕ) (hk : k < (ltf.auto Chan.out).nf) :
    NormalEq q (K k) (2 / (fs * S2 k)) (Xof (Z k)) (Yof (Z k)) (numericH q ltf la k) := by
  set L := Gen.MISO_numeric_optimal_spectral_analysis.locals q ltf la
  have arr := numeric_arrays q ltf la K fs S2 Z hq1 hG
  have hnf : L.nf = (ltf.auto Chan.out).nf := numeric_nf q ltf la
  have iff := fun k' => solvesAt_iff (arr k').1 (arr k').2.1
  refine (iff k _).mp (numeric_H_solves q ltf la hla L.nf L.Tmat L.Svec (Gen.MISO_numeric_optimal_spectral_analysis.stage3 q ltf la).Hvec
    (fun k' hk' => ?_) k (hnf ▸ hk))
  obtain ⟨H0, hH0⟩ := hcons k' (hnf ▸ hk')
  exact ⟨fun j => ofC (H0 j), (iff k' _).mpr hH0⟩

/-- the numeric solver returns at most `√Gxx` of `ltf(output)`, the output's own ASD -/
theorem gen_numeric_le_output (hq1 : 1 ≤ q) (hG : ∀ k, GramLtf ltf k (K k) fs (S2 k) (Z k)) (hla : LinAlgSound la q)
    (hcons : ∀ k, k < (ltf.auto Chan.out).nf → ∃ H0, NormalEq q (K k) (2 / (fs * S2 k)) (Xof (Z k)) (Yof (Z k)) H0)
    (k : ℕ) (hk : k < (ltf.auto Chan.out).nf) (hc : 0 ≤ 2 / (fs * S2 k)) :
    Gen.MISO_numeric_optimal_spectral_analysis q ltf la k ≤ Real.sqrt (Gen.Auto.Gxx ((ltf.auto Chan.out).bin k)) := by
  rw [gen_numeric_eq_resid q ltf la K fs S2 Z hq1 hG k hc, gram_S00 (hG k)]
  exact Real.sqrt_le_sqrt (Miso.residual_le_output q (K k) _ _ _ hc _
    (gen_numeric_normal_eq q ltf la K fs S2 Z hq1 hG hla hcons k hk))

/-- `y = Σ a_j x_j` in every segment ⇒ the numeric solver returns 0 -/
theorem gen_numeric_exact_combination_zero (hq1 : 1 ≤ q) (hG : ∀ k, GramLtf ltf k (K k) fs (S2 k) (Z k))
    (hla : LinAlgSound la q)
    (hcons : ∀ k, k < (ltf.auto Chan.out).nf → ∃ H0, NormalEq q (K k) (2 / (fs * S2 k)) (Xof (Z k)) (Yof (Z k)) H0)
    (k : ℕ) (hk : k < (ltf.auto Chan.out).nf) (hc : 0 ≤ 2 / (fs * S2 k))
    (a : ℕ → ℂ) (hY : ∀ s, s < K k → Yof (Z k) s = ∑ j ∈ range q, a j * Xof (Z k) j s) :
    Gen.MISO_numeric_optimal_spectral_analysis q ltf la k = 0 := by
  rw [gen_numeric_eq_resid q ltf la K fs S2 Z hq1 hG k hc,
    Miso.exact_combination_zero q (K k) _ _ _ hc a hY _ (gen_numeric_normal_eq q ltf la K fs S2 Z hq1 hG hla hcons k hk)]
  exact Real.sqrt_zero

end numeric

/-- the numeric solver's value is the least the formula can give: ≤ the residual form at ANY other transfer vector `H'`;
    no invertibility of `T` assumed -/
theorem gen_numeric_minimises (q : ℕ) (ltf : Ltf ℝ) (la : LinAlg ℝ) (K : ℕ → ℕ) (fs : ℝ) (S2 : ℕ → ℝ) (Z : ℕ → Chan → ℕ → ℂ)
    (hq1 : 1 ≤ q) (hG : ∀ k, GramLtf ltf k (K k) fs (S2 k) (Z k)) (hla : LinAlgSound la q)
    (hcons : ∀ k, k < (ltf.auto Chan.out).nf → ∃ H0, NormalEq q (K k) (2 / (fs * S2 k)) (Xof (Z k)) (Yof (Z k)) H0)
    (k : ℕ) (hk : k < (ltf.auto Chan.out).nf) (hc : 0 ≤ 2 / (fs * S2 k)) (H' : ℕ → ℂ) :
    Gen.MISO_numeric_optimal_spectral_analysis q ltf la k
      ≤ Real.sqrt (Miso.resid q (K k) (2 / (fs * S2 k)) (Xof (Z k)) (Yof (Z k)) H').re := by
  rw [gen_numeric_eq_resid q ltf la K fs S2 Z hq1 hG k hc]
  exact Real.sqrt_le_sqrt (Miso.normal_eq_minimises q (K k) _ _ _ hc _ H'
    (gen_numeric_normal_eq q ltf la K fs S2 Z hq1 hG hla hcons k hk))

/-- re-mixing the inputs by an invertible matrix (permutations included) does not change what the numeric solver returns -/
theorem gen_numeric_remix_invariant (q : ℕ) (ltf ltf' : Ltf ℝ) (la la' : LinAlg ℝ) (K : ℕ → ℕ) (fs : ℝ) (S2 : ℕ → ℝ)
    (Z Z' : ℕ → Chan → ℕ → ℂ) (hq1 : 1 ≤ q)
    (hG : ∀ k, GramLtf ltf k (K k) fs (S2 k) (Z k)) (hG' : ∀ k, GramLtf ltf' k (K k) fs (S2 k) (Z' k))
    (hla : LinAlgSound la q) (hla' : LinAlgSound la' q)
    (hcons : ∀ k, k < (ltf.auto Chan.out).nf → ∃ H0, NormalEq q (K k) (2 / (fs * S2 k)) (Xof (Z k)) (Yof (Z k)) H0)
    (hcons' : ∀ k, k < (ltf'.auto Chan.out).nf → ∃ H0, NormalEq q (K k) (2 / (fs * S2 k)) (Xof (Z' k)) (Yof (Z' k)) H0)
    (k : ℕ) (hk : k < (ltf.auto Chan.out).nf) (hk' : k < (ltf'.auto Chan.out).nf) (hc : 0 ≤ 2 / (fs * S2 k))
    (A B : ℕ → ℕ → ℂ) (hY : ∀ s, Yof (Z' k) s = Yof (Z k) s)
    (hX' : ∀ i, i < q → ∀ s, s < K k → Xof (Z' k) i s = ∑ j ∈ range q, A i j * Xof (Z k) j s)
    (hB : ∀ j, j < q → ∀ s, s < K k → Xof (Z k) j s = ∑ i ∈ range q, B j i * Xof (Z' k) i s) :
    Gen.MISO_numeric_optimal_spectral_analysis q ltf la k = Gen.MISO_numeric_optimal_spectral_analysis q ltf' la' k := by
  rw [gen_numeric_eq_resid q ltf la K fs S2 Z hq1 hG k hc, gen_numeric_eq_resid q ltf' la' K fs S2 Z' hq1 hG' k hc]
  have hYf : Yof (Z' k) = Yof (Z k) := funext hY
  have h' := gen_numeric_normal_eq q ltf' la' K fs S2 Z' hq1 hG' hla' hcons' k hk'
  rw [hYf] at h' ⊢
  rw [Miso.remix_invariant q (K k) _ (Xof (Z k)) (Yof (Z k)) hc A B (Xof (Z' k)) hX' hB _ _
    (gen_numeric_normal_eq q ltf la K fs S2 Z hq1 hG hla hcons k hk) h']

section analytic
variable (q : ℕ) (ltf : Ltf ℝ) (Hsol : ℕ → ℕ → Cx ℝ) (k K : ℕ) (fs S2 : ℝ) (Z : Chan → ℕ → ℂ)

noncomputable def analyticH (j : ℕ) : ℂ := Cx.toC (Hsol j k)

/-- **analytic solver = `Miso.resid`** (any stored solution; Gram structure needed at bin `k` only) -/
theorem gen_analytic_eq_resid (hq : q ≤ 9) (hG : GramLtf ltf k K fs S2 Z) (hc : 0 ≤ 2 / (fs * S2)) :
    Gen.MISO_analytic_optimal_spectral_analysis q ltf Hsol k
      = Real.sqrt (Miso.resid q K (2 / (fs * S2)) (Xof Z) (Yof Z) (analyticH Hsol k)).re := by
  rw [gen_analytic_eq_model q ltf Hsol hq k]
  congr 1
  exact abs_of_resid hc (model_eq_resid (fun i j _ _ => gram_Tval hG i j) (fun i _ => gram_Sval hG i) (gram_S00 hG))

/-- under the SymPy contract the stored solution solves the normal equations (the source's symbolic system is `T H = S`) -/
theorem gen_analytic_normal_eq (hq : q ≤ 9) (hG : GramLtf ltf k K fs S2 Z) (hsol : AnalyticSolved q ltf Hsol k) :
    NormalEq q K (2 / (fs * S2)) (Xof Z) (Yof Z) (analyticH Hsol k) :=
  (solvesAt_iff (fun i j _ _ => gram_Tval hG i j) (fun i _ => gram_Sval hG i) _).mp (analytic_H_solves q ltf Hsol hq k hsol)

theorem gen_analytic_le_output (hq : q ≤ 9) (hG : GramLtf ltf k K fs S2 Z) (hc : 0 ≤ 2 / (fs * S2))
    (hsol : AnalyticSolved q ltf Hsol k) :
    Gen.MISO_analytic_optimal_spectral_analysis q ltf Hsol k ≤ Real.sqrt (Gen.Auto.Gxx ((ltf.auto Chan.out).bin k)) := by
  rw [gen_analytic_eq_resid q ltf Hsol k K fs S2 Z hq hG hc, gram_S00 hG]
  exact Real.sqrt_le_sqrt (Miso.residual_le_output q K _ _ _ hc _ (gen_analytic_normal_eq q ltf Hsol k K fs S2 Z hq hG hsol))

theorem gen_analytic_exact_combination_zero (hq : q ≤ 9) (hG : GramLtf ltf k K fs S2 Z) (hc : 0 ≤ 2 / (fs * S2))
    (hsol : AnalyticSolved q ltf Hsol k) (a : ℕ → ℂ) (hY : ∀ s, s < K → Yof Z s = ∑ j ∈ range q, a j * Xof Z j s) :
    Gen.MISO_analytic_optimal_spectral_analysis q ltf Hsol k = 0 := by
  rw [gen_analytic_eq_resid q ltf Hsol k K fs S2 Z hq hG hc,
    Miso.exact_combination_zero q K _ _ _ hc a hY _ (gen_analytic_normal_eq q ltf Hsol k K fs S2 Z hq hG hsol)]
  exact Real.sqrt_zero

/-- re-mixing the inputs by an invertible matrix (permutations included) does not change what the analytic solver returns -/
theorem gen_analytic_remix_invariant (hq : q ≤ 9) (hc : 0 ≤ 2 / (fs * S2))
    (ltf' : Ltf ℝ) (Hsol' : ℕ → ℕ → Cx ℝ) (Z' : Chan → ℕ → ℂ)
    (hG : GramLtf ltf k K fs S2 Z) (hG' : GramLtf ltf' k K fs S2 Z')
    (A B : ℕ → ℕ → ℂ) (hY : ∀ s, Yof Z' s = Yof Z s)
    (hX' : ∀ i, i < q → ∀ s, s < K → Xof Z' i s = ∑ j ∈ range q, A i j * Xof Z j s)
    (hB : ∀ j, j < q → ∀ s, s < K → Xof Z j s = ∑ i ∈ range q, B j i * Xof Z' i s)
    (hsol : AnalyticSolved q ltf Hsol k) (hsol' : AnalyticSolved q ltf' Hsol' k) :
    Gen.MISO_analytic_optimal_spectral_analysis q ltf Hsol k = Gen.MISO_analytic_optimal_spectral_analysis q ltf' Hsol' k := by
  rw [gen_analytic_eq_resid q ltf Hsol k K fs S2 Z hq hG hc, gen_analytic_eq_resid q ltf' Hsol' k K fs S2 Z' hq hG' hc]
  have hYf : Yof Z' = Yof Z := funext hY
  have h' := gen_analytic_normal_eq q ltf' Hsol' k K fs S2 Z' hq hG' hsol'
  rw [hYf] at h' ⊢
  rw [Miso.remix_invariant q K _ (Xof Z) (Yof Z) hc A B (Xof Z') hX' hB _ _
    (gen_analytic_normal_eq q ltf Hsol k K fs S2 Z hq hG hsol) h']

end analytic

/-- **analytic = numeric**: both solvers return the same value at every bin (any two solutions of the normal equations give the same
    residual, singular `T` included) -/
theorem gen_solvers_agree (q : ℕ) (ltf : Ltf ℝ) (la : LinAlg ℝ) (Hsol : ℕ → ℕ → Cx ℝ) (K : ℕ → ℕ) (fs : ℝ) (S2 : ℕ → ℝ)
    (Z : ℕ → Chan → ℕ → ℂ) (hq : q ≤ 9) (hq1 : 1 ≤ q) (hG : ∀ k, GramLtf ltf k (K k) fs (S2 k) (Z k)) (hla : LinAlgSound la q)
    (hcons : ∀ k, k < (ltf.auto Chan.out).nf → ∃ H0, NormalEq q (K k) (2 / (fs * S2 k)) (Xof (Z k)) (Yof (Z k)) H0)
    (k : ℕ) (hk : k < (ltf.auto Chan.out).nf) (hc : 0 ≤ 2 / (fs * S2 k)) (hsol : AnalyticSolved q ltf Hsol k) :
    Gen.MISO_numeric_optimal_spectral_analysis q ltf la k = Gen.MISO_analytic_optimal_spectral_analysis q ltf Hsol k := by
  rw [gen_numeric_eq_resid q ltf la K fs S2 Z hq1 hG k hc, gen_analytic_eq_resid q ltf Hsol k (K k) fs (S2 k) (Z k) hq (hG k) hc,
    Miso.solvers_agree q (K k) _ _ _ hc _ _ (gen_numeric_normal_eq q ltf la K fs S2 Z hq1 hG hla hcons k hk)
      (gen_analytic_normal_eq q ltf Hsol k (K k) fs (S2 k) (Z k) hq (hG k) hsol)]

/-- `SISO_optimal_spectral_analysis` calls `ltf([input, output])` (that order) and returns `sqrt(Gyy·(1 − coherence))` of it, for every complex
    cross-spectrum (the source returns `sqrt(GyySx)`, which is that by `residual_identity'`) -/
theorem gen_siso_eq_GyyRx (ltf : Ltf ℝ) (k K : ℕ) (fs S2 : ℝ) (Z : Chan → ℕ → ℂ) (hG : GramLtf ltf k K fs S2 Z)
    (hfs : 0 < fs) (hS2 : 0 ≤ S2) :
    Gen.SISO_optimal_spectral_analysis ltf k
      = Real.sqrt (Gen.Cross.Gyy ((ltf.cross (Chan.inp 0) Chan.out).bin k) * (1 - Gen.Cross.coh ((ltf.cross (Chan.inp 0) Chan.out).bin k))) := by
  simp only [Gen.SISO_optimal_spectral_analysis, Gen.SISO_optimal_spectral_analysis.locals, RL.sqrt_eq]
  congr 1
  exact residual_identity' _ (gram_CS hG _ _) (by rw [hG.cfs]; exact hfs) (by rw [hG.cS2]; exact hS2)

/-- single input: the SISO function and ANY solution of the one-dimensional normal equation give the same value, whenever the input's
    spectrum does not vanish at the bin -/
theorem gen_siso_eq_miso_q1 (ltf : Ltf ℝ) (k K : ℕ) (fs S2 : ℝ) (Z : Chan → ℕ → ℂ) (hG : GramLtf ltf k K fs S2 Z)
    (hfs : 0 < fs) (hS2 : 0 < S2) (hX : (Miso.T K (2 / (fs * S2)) (Xof Z) 0 0).re ≠ 0)
    (H : ℕ → ℂ) (hH : NormalEq 1 K (2 / (fs * S2)) (Xof Z) (Yof Z) H) :
    Gen.SISO_optimal_spectral_analysis ltf k = Real.sqrt (Miso.resid 1 K (2 / (fs * S2)) (Xof Z) (Yof Z) H).re := by
  have hc : (0 : ℝ) ≤ 2 / (fs * S2) := by positivity
  rw [gen_siso_eq_GyyRx ltf k K fs S2 Z hG hfs hS2.le]
  congr 1
  have hs := Miso.siso_case K (2 / (fs * S2)) (Xof Z) (Yof Z) hc H ((Finset.sum_range_one _).symm.trans (hH 0 Nat.one_pos))
  -- `T₀₀`, `S00`, `S₀` in the base estimates of `ltf([input, output])`
  set d := (ltf.cross (Chan.inp 0) Chan.out).bin k
  have eT : (Miso.T K (2 / (fs * S2)) (Xof Z) 0 0).re = 2 / (fs * S2) * d.XX := by
    rw [Miso.T_eq_mp, Miso.mp_self, Complex.ofReal_re, hG.cXX]; rfl
  have e00 : Miso.S00 K (2 / (fs * S2)) (Yof Z) = 2 / (fs * S2) * d.YY := by
    rw [hG.cYY]; rfl
  have eS : Complex.normSq (Miso.S K (2 / (fs * S2)) (Xof Z) (Yof Z) 0) = (2 / (fs * S2)) ^ 2 * Cx.normSq d.XY := by
    rw [Cx.normSq_eq, hG.cXY, Miso.S, Complex.normSq_mul, Complex.normSq_ofReal]; simp only [Xof, Yof]; ring
  rw [eT, e00, eS] at hs
  rw [eT] at hX
  apply mul_left_cancel₀ hX
  rw [hs, AttrsA.cGyy, hG.cfs, hG.cS2]
  linear_combination (2 / (fs * S2)) ^ 2 * one_sub_coh (gram_CS hG _ _) (right_ne_zero_of_mul hX)

namespace MisoGen
open ComplexConjugate

/-- an `ltf` whose results have the Gram structure of given per-segment DFTs (any number of bins / segments) -/
noncomputable def ltfOf (nf : ℕ) (K : ℕ → ℕ) (fs : ℝ) (S2 : ℕ → ℝ) (Z : ℕ → Chan → ℕ → ℂ) : Ltf ℝ where
  auto a := ⟨nf, fun k =>
    { XX := (1 / (K k : ℝ)) * ∑ s ∈ range (K k), Complex.normSq (Z k a s),
      YY := (1 / (K k : ℝ)) * ∑ s ∈ range (K k), Complex.normSq (Z k a s),
      XY := ofC ((1 / (K k : ℂ)) * ∑ s ∈ range (K k), Z k a s * conj (Z k a s)),
      S12 := 1, S2 := S2 k, M2 := 0, navg := K k, fs := fs }⟩
  cross a b := ⟨nf, fun k =>
    { XX := (1 / (K k : ℝ)) * ∑ s ∈ range (K k), Complex.normSq (Z k a s),
      YY := (1 / (K k : ℝ)) * ∑ s ∈ range (K k), Complex.normSq (Z k b s),
      XY := ofC ((1 / (K k : ℂ)) * ∑ s ∈ range (K k), Z k a s * conj (Z k b s)),
      S12 := 1, S2 := S2 k, M2 := 0, navg := K k, fs := fs }⟩

theorem ltfOf_gram (nf : ℕ) (K : ℕ → ℕ) (fs : ℝ) (S2 : ℕ → ℝ) (Z : ℕ → Chan → ℕ → ℂ) (k : ℕ) :
    GramLtf (ltfOf nf K fs S2 Z) k (K k) fs (S2 k) (Z k) :=
  ⟨fun _ _ => rfl, fun _ _ => rfl, fun _ _ => rfl, fun _ _ => rfl, fun _ _ => rfl, fun _ => rfl, fun _ => rfl, fun _ => rfl⟩

/-- two inputs, three segments, complex DFT values with a phase between input 0 and the output -/
def Z0 : ℕ → Chan → ℕ → ℂ := fun k c s =>
  match c with
  | Chan.inp i => ⟨(i : ℝ) + s + 1, (k : ℝ) - s⟩
  | Chan.out => ⟨2 * s + 1, (s : ℝ) + k⟩

example : (∀ k, GramLtf (ltfOf 5 (fun _ => 3) 2 (fun _ => 3) Z0) k 3 2 3 (Z0 k)) ∧ (0 : ℝ) ≤ 2 / (2 * 3) :=
  ⟨fun k => ltfOf_gram 5 (fun _ => 3) 2 (fun _ => 3) Z0 k, by norm_num⟩

/-- a `np.linalg` that satisfies the contract for one input: `solve` raises, `pinv(T) = 1/T` (0 if `T = 0`) -/
noncomputable def la1 : LinAlg ℝ where
  cond _ _ := none
  pinv _ T := fun _ _ => ofC ((Cx.toC (T 0 0))⁻¹)
  solve _ _ _ := none

example : LinAlgSound la1 1 := by
  intro T S ⟨H0, hH0⟩
  refine ⟨fun H h => by simp [la1] at h, fun i hi => ?_⟩
  obtain rfl : i = 0 := by omega
  have h0 := hH0 0 hi
  rw [Finset.sum_range_one] at h0 ⊢
  rw [matVec_toC, Finset.sum_range_one]
  by_cases hT : Cx.toC (T 0 0) = 0
  · rw [← h0, hT, zero_mul, zero_mul]
  · exact mul_inv_cancel_left₀ hT _

/-- one input, one segment, X = 1, Y = 2, fs = 1, S2 = 2 (c = 1): T = 1, S = 2; the stored solution H = 2 satisfies the SymPy contract,
    and the normal equation is solvable -/
def Z1 : ℕ → Chan → ℕ → ℂ := fun _ c _ => match c with | Chan.inp _ => 1 | Chan.out => 2

example : AnalyticSolved 1 (ltfOf 1 (fun _ => 1) 1 (fun _ => 2) Z1) (fun _ _ => ofC 2) 0
    ∧ NormalEq 1 1 (2 / (1 * 2)) (Xof (Z1 0)) (Yof (Z1 0)) (fun _ => 2) := by
  have hG := ltfOf_gram 1 (fun _ => 1) 1 (fun _ => 2) Z1 0
  have hN : Miso.T 1 (2 / (1 * 2)) (Xof (Z1 0)) 0 0 * 2 = Miso.S 1 (2 / (1 * 2)) (Xof (Z1 0)) (Yof (Z1 0)) 0 := by
    simp only [Miso.S, Miso.T, Xof, Yof, Z1, Finset.sum_range_one, map_one, map_ofNat, one_mul, mul_one, mul_assoc]
  refine ⟨fun i hi => ?_, fun i hi => ?_⟩ <;> obtain rfl : i = 0 := by omega
  · rw [analytic_eqns_toC 1 _ _ (by omega) 0 0 hi, Finset.sum_range_one, gram_Sval hG, gram_Tval hG]
    exact sub_eq_zero.mpr hN.symm
  · rw [Finset.sum_range_one]; exact hN

end MisoGen


/-- the ANALYTIC solver's key scheme `f"T{i+1}{j+1}"` (the translated key function, `MisoGen.Tkey_def`) is ambiguous from eleven inputs
    on: `T{1}{11}` and `T{11}{1}` are both the string `"T111"`.  (SymPy cannot run at q ≥ 11, so this cannot be exhibited on the real code;
    the analytic theorems are stated for q ≤ 9.) -/
theorem analytic_key_collision :
    MisoGen.Tkey 0 10 = MisoGen.Tkey 10 0 ∧ MisoGen.Tkey 0 10 = ['T', '1', '1', '1'] ∧ ((0 : ℕ), (10 : ℕ)) ≠ (10, 0) :=
  ⟨by decide, by decide, by decide⟩

/-- what the translated code does with it: with 11 inputs the row loop of input 1 stores `Gxy` under `"T111"` and immediately
    overwrites it with `conj(Gxy)` (the store meant for `T{11}{1}`), so the entry read as `T_{1,11}` holds the conjugate -/
theorem analytic_T_1_11_holds_conjugate (ltf : Ltf ℝ) (Hsol : ℕ → ℕ → Cx ℝ) (d : Dict ℝ) :
    Gen.MISO_analytic_optimal_spectral_analysis.loop3 11 ltf Hsol d 0 (MisoGen.Tkey 0 10)
      = fun k => Cx.conj (Gen.Cross.Gxy ((ltf.cross (Chan.inp 0) (Chan.inp 10)).bin k)) := by
  unfold Gen.MISO_analytic_optimal_spectral_analysis.loop3 forRangeFrom
  rw [show 11 - (0 + 1) = 9 + 1 from rfl, forRange_succ]
  simp only [MisoGen.Tkey_def]
  have e : MisoGen.Tkey 0 10 = MisoGen.Tkey (0 + 1 + 9) 0 := by decide
  rw [e]
  exact MisoGen.dict_set_same _ _ _

/-- `f"T{i+1}{j+1}"` as memoisation key of the pairs i < j (the numeric solver before speckit a8eaa1b): the pairs (1,112) and (11,12)
    share the key `"T1112"`, so from 112 inputs on `get_ltf_result` returned the spectrum of another pair (defect D14).  With the
    separator the key determines the pair for ALL indices: `MisoGen.NTkey_inj`. -/
theorem old_numeric_key_collision :
    MisoGen.Tkey 0 111 = MisoGen.Tkey 10 11 ∧ (0 : ℕ) < 111 ∧ (10 : ℕ) < 11 ∧ ((0 : ℕ), (111 : ℕ)) ≠ (10, 11) :=
  ⟨by decide, by decide, by decide, by decide⟩

#print axioms gen_numeric_eq_model
#print axioms gen_analytic_eq_model
#print axioms MisoGen.numeric_assembly
#print axioms MisoGen.analytic_T
#print axioms MisoGen.analytic_S
#print axioms MisoGen.analytic_S00
#print axioms MisoGen.analytic_H
#print axioms MisoGen.numeric_H_solves
#print axioms MisoGen.analytic_H_solves
#print axioms gen_numeric_eq_resid
#print axioms gen_numeric_is_norm
#print axioms gen_numeric_normal_eq
#print axioms gen_numeric_le_output
#print axioms gen_numeric_minimises
#print axioms gen_numeric_exact_combination_zero
#print axioms gen_numeric_remix_invariant
#print axioms gen_analytic_eq_resid
#print axioms gen_analytic_normal_eq
#print axioms gen_analytic_le_output
#print axioms gen_analytic_exact_combination_zero
#print axioms gen_analytic_remix_invariant
#print axioms gen_solvers_agree
#print axioms gen_siso_eq_GyyRx
#print axioms gen_siso_eq_miso_q1
#print axioms MisoGen.abs_csqrt
#print axioms MisoGen.NTkey_inj
#print axioms MisoGen.Skey_inj'
#print axioms analytic_key_collision
#print axioms analytic_T_1_11_holds_conjugate
#print axioms old_numeric_key_collision
