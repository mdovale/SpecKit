/-
  SpecKitV.Props.C02 — every plan segments the record safely and completely.

  For each of the four schedulers of `Model/Sched.lean` (at `α := ℝ`) every bin of the plan has
  `max 1 Lmin ≤ L ≤ N`, `1 ≤ K = navg = #D`, first start `0`, last start `N − L`, strictly
  increasing starts that all fit in the record, and `K = 1 → L = N`; the plan is not empty (not stated for
  the vectorised one).  The analyzer's validation of a plan accepts every such bin.

  Each plan is a map over its walk, so what holds of the bin made at every state of the walk
  holds of every bin of the plan (`ltfPlan_forall`, `newPlan_forall`, `vecPlan_forall`); the
  per-bin record proved that way is `BinFull`, which also has the even spreading of the starts
  and the reported overlap of C04.
-/
import SpecKitV.Lemmas.SchedNewVec

/-- what the property demands of one bin (LminEff = Lmin, or 1 for lpsd) -/
def BinSafe (N LminEff : ℕ) (b : Model.Bin ℝ) : Prop :=
  max 1 LminEff ≤ b.L ∧ b.L ≤ N ∧ 1 ≤ b.K ∧ b.navg = b.K ∧ b.D.length = b.K.toNat ∧ b.D.head? = some 0 ∧
  b.D.getLast? = some ((N : ℤ) - b.L) ∧ b.D.Pairwise (· < ·) ∧ (∀ d ∈ b.D, 0 ≤ d ∧ d + b.L ≤ N) ∧ (b.K = 1 → b.L = N)

def BinFull (N LminEff : ℕ) (b : Model.Bin ℝ) : Prop :=
  BinSafe N LminEff b ∧
  (2 ≤ b.K → ∀ i (hi : i < b.D.length),
      |((b.D.get ⟨i, hi⟩ : ℤ) : ℝ) - i * (((N : ℝ) - b.L) / ((b.K : ℝ) - 1))| ≤ 1 / 2) ∧
  b.O = Model.overlapMean (α := ℝ) b.L b.D ∧ (b.K = 1 → b.O = 0) ∧
  (2 ≤ b.K → b.O = ((b.L : ℝ) - ((N : ℝ) - b.L) / ((b.K : ℝ) - 1)) / b.L)

theorem BinFull.safe {N m : ℕ} {b : Model.Bin ℝ} (h : BinFull N m b) : BinSafe N m b := h.1

theorem BinFull.O_eq {N m : ℕ} {b : Model.Bin ℝ} (h : BinFull N m b) : b.O = Model.overlapMean (α := ℝ) b.L b.D := h.2.2.1

namespace PlanC02
open Model Sched

/-- the configuration `lpsd_plan` hands to `ltf_plan` is admissible (`RealLike.one` as in `Model.lpsdPlan`; `lpsd_is_ltf`
    has the numeral) -/
theorem adm_lpsd {c : Cfg ℝ} (h : Adm c) : Adm { c with bmin := RealLike.one, Lmin := 1 } := by
  have hN : (8 : ℝ) ≤ (c.N : ℝ) := by exact_mod_cast h.hN
  refine ⟨h.hN, h.hfs, h.holap0, h.holap1, RL.one_eq.ge, ?_, le_refl _,
    (by norm_num : 1 ≤ 8).trans h.hN, h.hJ, h.hK⟩
  show (RealLike.one : ℝ) < (c.N : ℝ) / 2
  rw [RL.one_eq]
  linarith

/-- a bin whose `r, L, K` are as every scheduler guarantees and whose starts are `[0]` for one
    segment and otherwise the ideal positions `i·(N−L)/(K−1)` rounded to a nearest integer -/
theorem binFull_of {rd : ℝ → ℤ} (h : Nearest rd) {c : Cfg ℝ} {r : ℝ} {L : ℕ} {K : ℤ}
    (o : BinOK c r L K) (f bb : ℝ) {D : List ℤ} (hD1 : K = 1 → D = [0])
    (hD2 : 2 ≤ K → D = (List.range K.toNat).map
      (fun i : ℕ => rd ((i : ℝ) * (((c.N : ℝ) - L) / ((K : ℝ) - 1))))) :
    BinFull c.N c.Lmin
      { f := f, r := r, b := bb, L := L, K := K, navg := K, D := D, O := overlapMean L D } := by
  by_cases hK : K = 1
  · subst hK
    obtain rfl := o.K_one rfl
    obtain rfl := hD1 rfl
    have h21 : ¬ (2 : ℤ) ≤ 1 := by decide
    refine ⟨⟨o.L_ge, o.L_le, o.K_ge, rfl, rfl, rfl, ?_, List.pairwise_singleton _ _, ?_, fun _ => rfl⟩,
      fun h2 => absurd h2 h21, rfl, fun _ => overlapMean_single c.N 0, fun h2 => absurd h2 h21⟩
    · show [(0 : ℤ)].getLast? = some ((c.N : ℤ) - (c.N : ℤ))
      rw [sub_self]
      rfl
    · intro d hd
      obtain rfl := List.mem_singleton.mp hd
      exact ⟨le_rfl, (zero_add _).le⟩
  · have hK2 : 2 ≤ K := by have := o.K_ge; omega
    obtain ⟨hlen, hhead, hlast, hlt, hfit, hspread⟩ :=
      starts_safe_gen h hK2 o.K_le (hD2 hK2)
    have ho := overlapMean_eq_of_safe o.one_le_L hK2 hlen hhead hlast
    exact ⟨⟨o.L_ge, o.L_le, o.K_ge, rfl, hlen, hhead, hlast, hlt, hfit, fun e => absurd e hK⟩,
      fun _ => hspread, rfl, fun e => absurd e hK, fun _ => ho.trans (overlapClosed_eq c.N L K hK2)⟩

theorem binFull_accum {c : Cfg ℝ} {r : ℝ} {L : ℕ} {K : ℤ} (o : BinOK c r L K) (f bb : ℝ) :
    BinFull c.N c.Lmin
      { f := f, r := r, b := bb, L := L, K := K, navg := K,
        D := startsAccum (α := ℝ) c.N L K, O := overlapMean L (startsAccum (α := ℝ) c.N L K) } :=
  binFull_of roundHalfUp_nearest o f bb (fun hK => hK ▸ startsAccum_one c.N L)
    (fun hK2 => startsAccum_eq c.N L K hK2 o.K_le)

/-- the overlap `new_ltf_plan` / `vectorized_ltf_plan` report in closed form is the realised one -/
theorem overlapClosed_eq_mean {c : Cfg ℝ} {r : ℝ} {L : ℕ} {K : ℤ} (o : BinOK c r L K) :
    overlapClosed (α := ℝ) c.N L K = overlapMean L (startsEven (α := ℝ) c.N L K) := by
  by_cases hK : K = 1
  · rw [hK, overlapClosed_one, startsEven_one, overlapMean_single]
  · exact (overlapMean_eq_closed c.N L K o.one_le_L o.L_le (by have := o.K_ge; omega) o.K_le).symm

theorem binFull_even {c : Cfg ℝ} {r : ℝ} {L : ℕ} {K : ℤ} (o : BinOK c r L K) (f bb : ℝ) :
    BinFull c.N c.Lmin
      { f := f, r := r, b := bb, L := L, K := K, navg := K,
        D := startsEven (α := ℝ) c.N L K, O := overlapClosed (α := ℝ) c.N L K } := by
  rw [overlapClosed_eq_mean o]
  exact binFull_of roundEven_nearest o f bb (fun hK => hK ▸ startsEven_one c.N L)
    (fun hK2 => startsEven_eq c.N L K hK2)

/-- the bin each plan records for one walk entry: `mkLtf`, `mkNew`, `mkVec` -/
noncomputable def mkLtf (c : Cfg ℝ) (e : ℝ × ℝ × ℝ × ℕ × ℤ) : Bin ℝ :=
  { f := e.1, r := e.2.1, b := e.2.2.1, L := e.2.2.2.1, K := e.2.2.2.2, navg := e.2.2.2.2,
    D := startsAccum (α := ℝ) c.N e.2.2.2.1 e.2.2.2.2,
    O := overlapMean e.2.2.2.1 (startsAccum (α := ℝ) c.N e.2.2.2.1 e.2.2.2.2) }

theorem ltfPlan_map (c : Cfg ℝ) (fuel : ℕ) :
    ltfPlan c fuel =
      (walk fuel (consts c).fmax (ltfStep c (consts c)) (consts c).fmin).map (mkLtf c) := rfl

noncomputable def mkNew (c : Cfg ℝ) (e : ℝ × ℝ × ℝ × ℕ × ℤ) : Bin ℝ :=
  { f := e.1, r := e.2.1, b := e.2.2.1, L := e.2.2.2.1, K := e.2.2.2.2, navg := e.2.2.2.2,
    D := startsEven (α := ℝ) c.N e.2.2.2.1 e.2.2.2.2,
    O := overlapClosed (α := ℝ) c.N e.2.2.2.1 e.2.2.2.2 }

noncomputable def newS0 (c : Cfg ℝ) : NewState ℝ :=
  { fi := (consts c).fmin, j := 0, stage2 := false, stage3 := false,
    alpha := RealLike.zero, kStage2 := 0, crossover := 0 }

theorem newPlan_map (c : Cfg ℝ) (fuel : ℕ) :
    newPlan c fuel = (newWalk fuel c (consts c) (newS0 c)).map (mkNew c) := rfl

noncomputable def mkVec (c : Cfg ℝ) (e : ℝ × ℝ × ℕ × ℤ) : Bin ℝ :=
  { f := e.1, r := e.2.1, b := e.1 / e.2.1, L := e.2.2.1, K := e.2.2.2, navg := e.2.2.2,
    D := startsEven (α := ℝ) c.N e.2.2.1 e.2.2.2,
    O := overlapClosed (α := ℝ) c.N e.2.2.1 e.2.2.2 }

/-- the parameter map of `vectorized_ltf_plan` on its own log grid -/
noncomputable def vecMap (c : Cfg ℝ) (i : ℕ) : ℝ × ℕ × ℤ :=
  vecGridPoint c (RealLike.one - c.olap) (c.fs / RealLike.ofNat c.N)
    (c.fs / RealLike.ofNat c.N * (RealLike.one + (RealLike.one - c.olap) * (RealLike.ofNat c.Kdes - RealLike.one)))
    (RealLike.pow (RealLike.ofNat c.N / RealLike.two) (RealLike.one / RealLike.ofNat c.Jdes) - RealLike.one)
    (vecGrid c i)

/-- the constants of `vecPlanCore` are those of `consts c` -/
theorem vecMap_consts (c : Cfg ℝ) (i : ℕ) :
    vecMap c i = vecGridPoint c (consts c).xov (consts c).fresmin (consts c).freslim
      (consts c).logfact (vecGrid c i) := rfl

noncomputable def vecEntries (c : Cfg ℝ) (fuel : ℕ) : List (ℝ × ℝ × ℕ × ℤ) :=
  vecWalk fuel (c.fs / RealLike.two) (vecGrid c) (10 * c.Jdes) (vecMap c)
    (c.bmin * c.fs / RealLike.ofNat c.N)

theorem vecPlan_map (c : Cfg ℝ) (fuel : ℕ) :
    vecPlan c fuel = (vecEntries c fuel).map (mkVec c) := rfl

theorem ltfPlan_forall {c : Cfg ℝ} (h : Adm c) {Q : Bin ℝ → Prop}
    (hQ : ∀ f, (consts c).fmin ≤ f → f < (consts c).fmax →
      Q (mkLtf c (f, ltfStep c (consts c) f))) (fuel : ℕ) :
    ∀ b ∈ ltfPlan c fuel, Q b := by
  rw [ltfPlan_map, List.forall_mem_map]
  exact SchedLtf.walk_forall h hQ fuel

theorem newPlan_forall {c : Cfg ℝ} (h : Adm c) {Q : Bin ℝ → Prop}
    (hQ : ∀ s : NewState ℝ, (consts c).fmin ≤ s.fi → s.fi < (consts c).fmax →
      Q (mkNew c (s.fi, (newStep c (consts c) s).1))) (fuel : ℕ) :
    ∀ b ∈ newPlan c fuel, Q b := by
  rw [newPlan_map, List.forall_mem_map]
  exact SchedNV.newWalk_forall h hQ fuel (newS0 c) le_rfl

theorem vecPlan_forall (c : Cfg ℝ) {Q : Bin ℝ → Prop}
    (hQ : ∀ (f : ℝ) (i : ℕ), i < 10 * c.Jdes → f < c.fs / 2 →
      i = searchLeft (vecGrid c) (10 * c.Jdes) f → Q (mkVec c (f, vecMap c i))) (fuel : ℕ) :
    ∀ b ∈ vecPlan c fuel, Q b := by
  rw [vecPlan_map, List.forall_mem_map]
  intro e he
  obtain ⟨i, hi, hm, hs⟩ := SchedNV.vecWalk_entry_from_map _ _ _ _ _ _ e he
  have hlt := SchedNV.vecWalk_below _ _ _ _ _ _ e he
  rw [RL.two_eq] at hlt
  rw [show e = (e.1, vecMap c i) from Prod.ext rfl hm]
  exact hQ e.1 i hi hlt hs

theorem vecMap_ok {c : Cfg ℝ} (h : Adm c) (i : ℕ) :
    BinOK c (vecMap c i).1 (vecMap c i).2.1 (vecMap c i).2.2 := by
  rw [vecMap_consts]
  exact SchedNV.vecGridPoint_ok h (xov_pos h)

theorem ltfPlan_full {c : Cfg ℝ} (h : Adm c) (extra : ℕ) :
    ltfPlan c (c.N + extra) ≠ [] ∧ ∀ b ∈ ltfPlan c (c.N + extra), BinFull c.N c.Lmin b := by
  refine ⟨?_, ltfPlan_forall h (fun f _ _ => binFull_accum (ltfStep_ok h f) f _) _⟩
  rw [ltfPlan_map, ltf_walk_fuel c h extra]
  exact fun hnil => ltf_walk_nonempty c h (List.map_eq_nil_iff.mp hnil)

theorem lpsdPlan_full {c : Cfg ℝ} (h : Adm c) (extra : ℕ) :
    lpsdPlan c (c.N + extra) ≠ [] ∧ ∀ b ∈ lpsdPlan c (c.N + extra), BinFull c.N 1 b :=
  ltfPlan_full (adm_lpsd h) extra

theorem newPlan_full {c : Cfg ℝ} (h : Adm c) (extra : ℕ) :
    newPlan c (c.N + extra) ≠ [] ∧ ∀ b ∈ newPlan c (c.N + extra), BinFull c.N c.Lmin b := by
  refine ⟨?_, newPlan_forall h (fun s _ _ => binFull_even (SchedNV.newStep_ok h s) s.fi _) _⟩
  obtain ⟨n, hn⟩ : ∃ n, c.N + extra = n + 1 := ⟨c.N + extra - 1, by have := h.hN; omega⟩
  have hlt : RealLike.lt (newS0 c).fi (consts c).fmax = true := decide_eq_true (fmin_lt_fmax h)
  rw [newPlan_map, hn, SchedNV.newWalk_succ, if_pos hlt]
  exact fun hnil => List.cons_ne_nil _ _ (List.map_eq_nil_iff.mp hnil)

theorem vecPlan_full {c : Cfg ℝ} (h : Adm c) (fuel : ℕ) :
    ∀ b ∈ vecPlan c fuel, BinFull c.N c.Lmin b :=
  vecPlan_forall c (fun f i _ _ _ => binFull_even (vecMap_ok h i) f _) fuel

end PlanC02

open PlanC02

theorem ltfPlan_safe (c : Model.Cfg ℝ) (h : Adm c) (extra : ℕ) :
    Model.ltfPlan c (c.N + extra) ≠ [] ∧ ∀ b ∈ Model.ltfPlan c (c.N + extra), BinSafe c.N c.Lmin b :=
  ⟨(ltfPlan_full h extra).1, fun b hb => ((ltfPlan_full h extra).2 b hb).safe⟩

theorem lpsdPlan_safe (c : Model.Cfg ℝ) (h : Adm c) (extra : ℕ) :
    Model.lpsdPlan c (c.N + extra) ≠ [] ∧ ∀ b ∈ Model.lpsdPlan c (c.N + extra), BinSafe c.N 1 b :=
  ⟨(lpsdPlan_full h extra).1, fun b hb => ((lpsdPlan_full h extra).2 b hb).safe⟩

theorem newPlan_safe (c : Model.Cfg ℝ) (h : Adm c) (extra : ℕ) :
    Model.newPlan c (c.N + extra) ≠ [] ∧ ∀ b ∈ Model.newPlan c (c.N + extra), BinSafe c.N c.Lmin b :=
  ⟨(newPlan_full h extra).1, fun b hb => ((newPlan_full h extra).2 b hb).safe⟩

theorem vecPlan_safe (c : Model.Cfg ℝ) (h : Adm c) (fuel : ℕ) :
    ∀ b ∈ Model.vecPlan c fuel, BinSafe c.N c.Lmin b :=
  fun b hb => (vecPlan_full h fuel b hb).safe

/-- the tests `SpectrumAnalyzer.plan()` applies to each bin of a scheduler's output (analysis.py:474-498; it raises when
    one fails); tied to the translation by `binInvalid_eq_not_planValid` (Props/LpsdLoopGen) -/
def planValid (N Lmin : ℕ) (isLpsd : Bool) (b : Model.Bin ℝ) : Bool :=
  !((decide (b.L < Lmin) && !isLpsd) || decide (b.L < 1)) && !b.D.isEmpty &&
  b.D.all (fun d => decide (0 ≤ d) && decide (d ≤ (N : ℤ) - b.L)) && decide (b.K = (b.D.length : ℤ))

theorem planValid_of {N m Lmin : ℕ} {isLpsd : Bool} {b : Model.Bin ℝ} (hb : BinSafe N m b)
    (hm : isLpsd = true ∨ Lmin ≤ m) : planValid N Lmin isLpsd b = true := by
  obtain ⟨hLm, -, hK1, -, hlen, -, -, -, hall, -⟩ := hb
  have hL1 : 1 ≤ b.L := (le_max_left _ _).trans hLm
  replace hLm : m ≤ b.L := (le_max_right _ _).trans hLm
  have hlen' : b.K = (b.D.length : ℤ) := by rw [hlen]; omega
  have hne : b.D.isEmpty = false := by
    cases hD : b.D with
    | nil => rw [hD, List.length_nil] at hlen'; omega
    | cons a t => rfl
  have hbounds : b.D.all (fun d => decide (0 ≤ d) && decide (d ≤ (N : ℤ) - b.L)) = true :=
    List.all_eq_true.mpr fun d hd => by
      have := hall d hd
      simp only [Bool.and_eq_true, decide_eq_true_eq]
      omega
  have hmin : (decide (b.L < Lmin) && !isLpsd) = false := by
    rcases hm with hm | hm
    · rw [hm, Bool.not_true, Bool.and_false]
    · rw [decide_eq_false (by omega), Bool.false_and]
  unfold planValid
  rw [hmin, decide_eq_false (by omega : ¬ b.L < 1), hne, hbounds, decide_eq_true hlen']
  rfl

theorem planValidate_ok (N Lmin : ℕ) (b : Model.Bin ℝ) (hb : BinSafe N Lmin b) : planValid N Lmin false b = true :=
  planValid_of hb (Or.inr le_rfl)

theorem planValidate_ok_lpsd (N Lmin : ℕ) (b : Model.Bin ℝ) (hb : BinSafe N 1 b) : planValid N Lmin true b = true :=
  planValid_of hb (Or.inl rfl)

example : ∃ b, b ∈ Model.ltfPlan (α := ℝ) { N := 1000, fs := 2, olap := 1/2, bmin := 1, Lmin := 1, Jdes := 100, Kdes := 10 } (1000 + 8)
    ∧ BinSafe 1000 1 b := by
  have hA : Adm { N := 1000, fs := 2, olap := 1/2, bmin := 1, Lmin := 1, Jdes := 100, Kdes := 10 } := by
    constructor <;> norm_num
  obtain ⟨hne, hall⟩ := ltfPlan_safe _ hA 8
  obtain ⟨b, hb⟩ := List.exists_mem_of_ne_nil _ hne
  exact ⟨b, hb, hall b hb⟩

#print axioms ltfPlan_safe
#print axioms lpsdPlan_safe
#print axioms newPlan_safe
#print axioms vecPlan_safe
#print axioms planValidate_ok
#print axioms planValidate_ok_lpsd
#print axioms PlanC02.ltfPlan_full
#print axioms PlanC02.lpsdPlan_full
#print axioms PlanC02.newPlan_full
#print axioms PlanC02.vecPlan_full
