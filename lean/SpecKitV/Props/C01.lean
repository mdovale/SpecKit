/-
  SpecKitV.Props.C01 — the translated Numba kernels and CUDA host functions of speckit (`Gen.CoreKernels`, `Gen.CudaKernels`) equal the
  reference estimator `Model.refStats` / `Model.refStatsAuto` at `α := ℝ`: Goertzel recurrence = direct windowed DFT up to a unit factor
  that cancels in `|X|²` and `X · conj Y`; streamed detrending = `Model.detr`; translated reducer = `Model.reduceStats`.  After unfolding
  and `forRange_goertzel` a Numba kernel is `goertzel_csd_eq_ref` / `goertzel_auto_eq_ref` at its sample streams; a CUDA host function is
  its Numba kernel (the same text after inlining, also at `K = 0`), hence the reference as well.
-/
import SpecKitV.Lemmas.Goertzel
import SpecKitV.Lemmas.Detrend
import SpecKitV.Gen.CoreKernels
import SpecKitV.Gen.CudaKernels
import SpecKitV.Model.Ref
open Finset

theorem reduce_mk {K : ℕ} (hK : 0 < K) {xx yy xyr xyi : ℕ → ℝ} :
    Gen._reduce_stats_nb ⟨K, xx⟩ ⟨K, yy⟩ ⟨K, xyr⟩ ⟨K, xyi⟩ = Model.reduceStats K xx yy xyr xyi := by
  unfold Gen._reduce_stats_nb Model.reduceStats
  simp only [Arr.mean, Arr.subS, Arr.add, Arr.mul, decide_eq_true_eq, RL.lit_zero, RL.zero_eq]
  rw [if_neg hK.ne']

theorem reduce_nil {xx yy xyr xyi : Arr ℝ} (h : xx.n = 0) : Gen._reduce_stats_nb xx yy xyr xyi
    = (RealLike.ofSci 0 true 1, RealLike.ofSci 0 true 1, RealLike.ofSci 0 true 1, RealLike.ofSci 0 true 1, RealLike.ofSci 0 true 1) := by
  rw [Gen._reduce_stats_nb, if_pos (by simpa using h)]

theorem reduce_spec (xx yy xyr xyi : Arr ℝ) (hK : 0 < xx.n) (h1 : yy.n = xx.n) (h2 : xyr.n = xx.n) (h3 : xyi.n = xx.n) :
    Gen._reduce_stats_nb xx yy xyr xyi = Model.reduceStats xx.n xx.get yy.get xyr.get xyi.get := by
  obtain ⟨K, gxx⟩ := xx
  obtain ⟨K1, gyy⟩ := yy
  obtain ⟨K2, gxyr⟩ := xyr
  obtain ⟨K3, gxyi⟩ := xyi
  subst h1 h2 h3
  exact reduce_mk hK

/-- M2 is the mean squared scatter about the mean for EVERY K ≥ 1 (the K ≥ 2 guard agrees with the formula at K = 1) -/
theorem reduce_M2_all_K (K : ℕ) (hK : 0 < K) (xx yy xyr xyi : ℕ → ℝ) :
    (Model.reduceStats K xx yy xyr xyi).2.2.2.2
      = (∑ j ∈ Finset.range K, ((xyr j - (∑ i ∈ Finset.range K, xyr i) / K) ^ 2 + (xyi j - (∑ i ∈ Finset.range K, xyi i) / K) ^ 2)) / K := by
  unfold Model.reduceStats
  simp only [sumRange_eq_sum, RL.ofNat_eq, RL.zero_eq]
  by_cases h2 : K ≥ 2
  · rw [if_pos h2]
    congr 1
    apply Finset.sum_congr rfl
    intro j _
    ring
  · rw [if_neg h2]
    have : K = 1 := by omega
    subst this
    simp

theorem reduce_M2_nonneg (K : ℕ) (hK : 0 < K) (xx yy xyr xyi : ℕ → ℝ) :
    0 ≤ (Model.reduceStats K xx yy xyr xyi).2.2.2.2 := by
  rw [reduce_M2_all_K K hK]
  exact div_nonneg (Finset.sum_nonneg fun j _ => by positivity) (Nat.cast_nonneg K)

theorem reduce_M2_one (xx yy xyr xyi : ℕ → ℝ) : (Model.reduceStats 1 xx yy xyr xyi).2.2.2.2 = 0 := by
  simp [Model.reduceStats]

/-- a cross kernel with sample streams `v1 j`, `v2 j` for segment `j`: Goertzel on each stream, then the reducer -/
theorem goertzel_csd_eq_ref {K : ℕ} (hK : 0 < K) {L : ℕ} {ω : ℝ} {v1 v2 : ℕ → ℕ → ℝ}
    {order : ℤ} {Q : ℕ → ℕ → ℝ} {x y : ℕ → ℝ} {starts : ℕ → ℕ} {w : ℕ → ℝ}
    (h1 : ∀ j, ∀ n < L, v1 j n = Model.detr order Q x (starts j) L n * w n)
    (h2 : ∀ j, ∀ n < L, v2 j n = Model.detr order Q y (starts j) L n * w n) :
    let a := fun j => goertzelRI ω (v1 j) L
    let b := fun j => goertzelRI ω (v2 j) L
    Gen._reduce_stats_nb ⟨K, fun j => (a j).1 * (a j).1 + (a j).2 * (a j).2⟩ ⟨K, fun j => (b j).1 * (b j).1 + (b j).2 * (b j).2⟩
      ⟨K, fun j => (a j).1 * (b j).1 + (a j).2 * (b j).2⟩ ⟨K, fun j => (a j).2 * (b j).1 - (a j).1 * (b j).2⟩
      = Model.refStats order Q x y starts K L w ω := by
  have h := fun j => goertzel_pair_segDFT ω order Q x y (starts j) L w (v1 j) (v2 j) (h1 j) (h2 j)
  simp only [reduce_mk hK, Model.refStats, fun j => (h j).1, fun j => (h j).2.1, fun j => (h j).2.2.1, fun j => (h j).2.2.2]

/-- auto: one stream per segment -/
theorem goertzel_auto_eq_ref {K : ℕ} (hK : 0 < K) {L : ℕ} {ω : ℝ} {v : ℕ → ℕ → ℝ}
    {order : ℤ} {Q : ℕ → ℕ → ℝ} {x : ℕ → ℝ} {starts : ℕ → ℕ} {w : ℕ → ℝ}
    (h : ∀ j, ∀ n < L, v j n = Model.detr order Q x (starts j) L n * w n) :
    let p := fun j => (goertzelRI ω (v j) L).1 * (goertzelRI ω (v j) L).1 + (goertzelRI ω (v j) L).2 * (goertzelRI ω (v j) L).2
    Gen._reduce_stats_nb ⟨K, p⟩ ⟨K, p⟩ ⟨K, p⟩ ⟨K, fun _ => 0⟩ = Model.refStatsAuto order Q x starts K L w ω := by
  simp only [reduce_mk hK, Model.refStatsAuto, fun j => goertzel_auto_segDFT ω (h j), RL.zero_eq]

theorem detrend0_mean_eq (x : Arr ℝ) (s L : ℕ) :
    Gen._apply_detrend0_inplace_nb_mean x s L = (∑ n ∈ range L, x.get (s + n)) / (L : ℝ) := by
  simp only [Gen._apply_detrend0_inplace_nb_mean, RL.lit_zero, forRange_acc_sum, RL.ofNat_eq]

/-- the projection of the segment onto the `Q.m` columns, at sample `n` -/
theorem poly_rowdot_alpha_eq (x : Arr ℝ) (Q : Arr2 ℝ) (s L n : ℕ) :
    Gen._apply_poly_detrend_inplace_nb_rowdot Q n (Gen._apply_poly_detrend_inplace_nb_alpha x Q s L)
      = ∑ k ∈ range Q.m, Q.get n k * ∑ m ∈ range L, Q.get m k * x.get (s + m) := by
  simp only [Gen._apply_poly_detrend_inplace_nb_rowdot, Gen._apply_poly_detrend_inplace_nb_alpha, RL.lit_zero, forRange_acc_sum]

theorem stats_win_only_csd_eq_ref (x1 x2 : Arr ℝ) (starts : Arr ℕ) (hK : 0 < starts.n) (L : ℕ) (w : Arr ℝ) (ω : ℝ) (Q : ℕ → ℕ → ℝ) :
    Gen._stats_win_only_csd x1 x2 starts L w ω = Model.refStats (-1) Q x1.get x2.get starts.get starts.n L w.get ω := by
  unfold Gen._stats_win_only_csd
  -- closes up to unfolding `goertzelRI`; a changed Python loop body no longer matches `forRange_goertzel` and fails here, as a type mismatch
  simp only [RL.lit_zero, RL.lit_two, RL.cos_eq, RL.sin_eq, forRange_goertzel]
  exact goertzel_csd_eq_ref hK (fun j n _ => by rw [detr_neg_one]) (fun j n _ => by rw [detr_neg_one])

theorem stats_win_only_auto_eq_ref (x : Arr ℝ) (starts : Arr ℕ) (hK : 0 < starts.n) (L : ℕ) (w : Arr ℝ) (ω : ℝ) (Q : ℕ → ℕ → ℝ) :
    Gen._stats_win_only_auto x starts L w ω = Model.refStatsAuto (-1) Q x.get starts.get starts.n L w.get ω := by
  unfold Gen._stats_win_only_auto
  simp only [RL.lit_zero, RL.lit_two, RL.cos_eq, RL.sin_eq, forRange_goertzel]
  exact goertzel_auto_eq_ref hK (fun j n _ => by rw [detr_neg_one])

theorem stats_detrend0_csd_eq_ref (x1 x2 : Arr ℝ) (starts : Arr ℕ) (hK : 0 < starts.n) (L : ℕ) (w : Arr ℝ) (ω : ℝ) (Q : ℕ → ℕ → ℝ) :
    Gen._stats_detrend0_csd x1 x2 starts L w ω = Model.refStats 0 Q x1.get x2.get starts.get starts.n L w.get ω := by
  unfold Gen._stats_detrend0_csd
  simp only [RL.lit_zero, RL.lit_two, RL.cos_eq, RL.sin_eq, forRange_goertzel, Gen._apply_detrend0_inplace_nb_val, detrend0_mean_eq]
  exact goertzel_csd_eq_ref hK (fun j n _ => by rw [detr0_eq]) (fun j n _ => by rw [detr0_eq])

theorem stats_detrend0_auto_eq_ref (x : Arr ℝ) (starts : Arr ℕ) (hK : 0 < starts.n) (L : ℕ) (w : Arr ℝ) (ω : ℝ) (Q : ℕ → ℕ → ℝ) :
    Gen._stats_detrend0_auto x starts L w ω = Model.refStatsAuto 0 Q x.get starts.get starts.n L w.get ω := by
  unfold Gen._stats_detrend0_auto
  simp only [RL.lit_zero, RL.lit_two, RL.cos_eq, RL.sin_eq, forRange_goertzel, Gen._apply_detrend0_inplace_nb_val, detrend0_mean_eq]
  exact goertzel_auto_eq_ref hK (fun j n _ => by rw [detr0_eq])

/-- the polynomial kernels remove the projection onto the `Qa.m` columns that exist, whatever their number: they are the reference of any
    `(order, Q')` that does the same on segments of length `L` -/
theorem stats_poly_csd_eq_ref_of {x1 x2 : Arr ℝ} {starts : Arr ℕ} (hK : 0 < starts.n) {L : ℕ} {w : Arr ℝ} {ω : ℝ}
    {Qa : Arr2 ℝ} {order : ℤ} {Q' : ℕ → ℕ → ℝ} (hd : DetrIsProj order Q' Qa L) :
    Gen._stats_poly_csd x1 x2 starts L w ω Qa = Model.refStats order Q' x1.get x2.get starts.get starts.n L w.get ω := by
  unfold Gen._stats_poly_csd
  simp only [RL.lit_zero, RL.lit_two, RL.cos_eq, RL.sin_eq, forRange_goertzel, poly_rowdot_alpha_eq]
  exact goertzel_csd_eq_ref hK (fun j n hn => by rw [hd _ _ n hn]) (fun j n hn => by rw [hd _ _ n hn])

theorem stats_poly_auto_eq_ref_of {x : Arr ℝ} {starts : Arr ℕ} (hK : 0 < starts.n) {L : ℕ} {w : Arr ℝ} {ω : ℝ}
    {Qa : Arr2 ℝ} {order : ℤ} {Q' : ℕ → ℕ → ℝ} (hd : DetrIsProj order Q' Qa L) :
    Gen._stats_poly_auto x starts L w ω Qa = Model.refStatsAuto order Q' x.get starts.get starts.n L w.get ω := by
  unfold Gen._stats_poly_auto
  simp only [RL.lit_zero, RL.lit_two, RL.cos_eq, RL.sin_eq, forRange_goertzel, poly_rowdot_alpha_eq]
  exact goertzel_auto_eq_ref hK (fun j n hn => by rw [hd _ _ n hn])

theorem stats_poly_csd_eq_ref (x1 x2 : Arr ℝ) (starts : Arr ℕ) (hK : 0 < starts.n) (L : ℕ) (w : Arr ℝ) (ω : ℝ)
    (Qa : Arr2 ℝ) (p : ℕ) (hp : 1 ≤ p) (hQ : Qa.m = p + 1) :
    Gen._stats_poly_csd x1 x2 starts L w ω Qa = Model.refStats (p : ℤ) Qa.get x1.get x2.get starts.get starts.n L w.get ω :=
  stats_poly_csd_eq_ref_of hK (detrIsProj_poly Qa p hp hQ L)

theorem stats_poly_auto_eq_ref (x : Arr ℝ) (starts : Arr ℕ) (hK : 0 < starts.n) (L : ℕ) (w : Arr ℝ) (ω : ℝ)
    (Qa : Arr2 ℝ) (p : ℕ) (hp : 1 ≤ p) (hQ : Qa.m = p + 1) :
    Gen._stats_poly_auto x starts L w ω Qa = Model.refStatsAuto (p : ℤ) Qa.get x.get starts.get starts.n L w.get ω :=
  stats_poly_auto_eq_ref_of hK (detrIsProj_poly Qa p hp hQ L)

/-- the host functions test `K = 0` themselves before they launch; the reducer returns the same zeros -/
theorem host_K0 {K : ℕ} {xx yy xyr xyi : Arr ℝ} (h : xx.n = K) :
    (if decide (K = 0) then
        (RealLike.ofSci 0 true 1, RealLike.ofSci 0 true 1, RealLike.ofSci 0 true 1, RealLike.ofSci 0 true 1, RealLike.ofSci 0 true 1)
      else Gen._reduce_stats_nb xx yy xyr xyi) = Gen._reduce_stats_nb xx yy xyr xyi := by
  split_ifs with h0
  · exact (reduce_nil (h.trans (by simpa using h0))).symm
  · rfl

theorem numba_cuda_agree_win_only_csd (x1 x2 : Arr ℝ) (starts : Arr ℕ) (L : ℕ) (w : Arr ℝ) (ω : ℝ) :
    Gen._stats_win_only_csd_cuda x1 x2 starts L w ω = Gen._stats_win_only_csd x1 x2 starts L w ω := by
  unfold Gen._stats_win_only_csd_cuda Gen._stats_win_only_csd
  exact host_K0 rfl

theorem numba_cuda_agree_win_only_auto (x : Arr ℝ) (starts : Arr ℕ) (L : ℕ) (w : Arr ℝ) (ω : ℝ) :
    Gen._stats_win_only_auto_cuda x starts L w ω = Gen._stats_win_only_auto x starts L w ω := by
  unfold Gen._stats_win_only_auto_cuda Gen._stats_win_only_auto
  exact host_K0 rfl

/-- not the Numba text after inlining: the CUDA kernel sums both segment means in one loop (`forRange_acc_sum2`) -/
theorem numba_cuda_agree_detrend0_csd (x1 x2 : Arr ℝ) (starts : Arr ℕ) (L : ℕ) (w : Arr ℝ) (ω : ℝ) :
    Gen._stats_detrend0_csd_cuda x1 x2 starts L w ω = Gen._stats_detrend0_csd x1 x2 starts L w ω := by
  unfold Gen._stats_detrend0_csd_cuda Gen._stats_detrend0_csd
  refine (host_K0 (K := starts.n) rfl).trans ?_
  simp only [Gen._stats_detrend0_csd_cuda_kernel, Gen._apply_detrend0_inplace_nb_mean, Gen._apply_detrend0_inplace_nb_val, forRange_acc_sum2,
    RL.lit_zero, forRange_acc_sum]

theorem numba_cuda_agree_detrend0_auto (x : Arr ℝ) (starts : Arr ℕ) (L : ℕ) (w : Arr ℝ) (ω : ℝ) :
    Gen._stats_detrend0_auto_cuda x starts L w ω = Gen._stats_detrend0_auto x starts L w ω := by
  unfold Gen._stats_detrend0_auto_cuda Gen._stats_detrend0_auto
  exact host_K0 rfl

/-- for the polynomial kernels the agreement needs no hypothesis on `Q` at all: after inlining the two helper functions the CUDA kernel
    body is the Numba loop body -/
theorem numba_cuda_agree_poly_csd (x1 x2 : Arr ℝ) (starts : Arr ℕ) (L : ℕ) (w : Arr ℝ) (ω : ℝ) (Qa : Arr2 ℝ) :
    Gen._stats_poly_csd_cuda x1 x2 starts L w ω Qa = Gen._stats_poly_csd x1 x2 starts L w ω Qa := by
  unfold Gen._stats_poly_csd_cuda Gen._stats_poly_csd
  exact host_K0 rfl

theorem numba_cuda_agree_poly_auto (x : Arr ℝ) (starts : Arr ℕ) (L : ℕ) (w : Arr ℝ) (ω : ℝ) (Qa : Arr2 ℝ) :
    Gen._stats_poly_auto_cuda x starts L w ω Qa = Gen._stats_poly_auto x starts L w ω Qa := by
  unfold Gen._stats_poly_auto_cuda Gen._stats_poly_auto
  exact host_K0 rfl

theorem stats_win_only_csd_cuda_eq_ref (x1 x2 : Arr ℝ) (starts : Arr ℕ) (hK : 0 < starts.n) (L : ℕ) (w : Arr ℝ) (ω : ℝ) (Q : ℕ → ℕ → ℝ) :
    Gen._stats_win_only_csd_cuda x1 x2 starts L w ω = Model.refStats (-1) Q x1.get x2.get starts.get starts.n L w.get ω :=
  (numba_cuda_agree_win_only_csd x1 x2 starts L w ω).trans (stats_win_only_csd_eq_ref x1 x2 starts hK L w ω Q)

theorem stats_win_only_auto_cuda_eq_ref (x : Arr ℝ) (starts : Arr ℕ) (hK : 0 < starts.n) (L : ℕ) (w : Arr ℝ) (ω : ℝ) (Q : ℕ → ℕ → ℝ) :
    Gen._stats_win_only_auto_cuda x starts L w ω = Model.refStatsAuto (-1) Q x.get starts.get starts.n L w.get ω :=
  (numba_cuda_agree_win_only_auto x starts L w ω).trans (stats_win_only_auto_eq_ref x starts hK L w ω Q)

theorem stats_detrend0_csd_cuda_eq_ref (x1 x2 : Arr ℝ) (starts : Arr ℕ) (hK : 0 < starts.n) (L : ℕ) (w : Arr ℝ) (ω : ℝ) (Q : ℕ → ℕ → ℝ) :
    Gen._stats_detrend0_csd_cuda x1 x2 starts L w ω = Model.refStats 0 Q x1.get x2.get starts.get starts.n L w.get ω :=
  (numba_cuda_agree_detrend0_csd x1 x2 starts L w ω).trans (stats_detrend0_csd_eq_ref x1 x2 starts hK L w ω Q)

theorem stats_detrend0_auto_cuda_eq_ref (x : Arr ℝ) (starts : Arr ℕ) (hK : 0 < starts.n) (L : ℕ) (w : Arr ℝ) (ω : ℝ) (Q : ℕ → ℕ → ℝ) :
    Gen._stats_detrend0_auto_cuda x starts L w ω = Model.refStatsAuto 0 Q x.get starts.get starts.n L w.get ω :=
  (numba_cuda_agree_detrend0_auto x starts L w ω).trans (stats_detrend0_auto_eq_ref x starts hK L w ω Q)

theorem stats_poly_csd_cuda_eq_ref (x1 x2 : Arr ℝ) (starts : Arr ℕ) (hK : 0 < starts.n) (L : ℕ) (w : Arr ℝ) (ω : ℝ)
    (Qa : Arr2 ℝ) (p : ℕ) (hp : 1 ≤ p) (hQ : Qa.m = p + 1) :
    Gen._stats_poly_csd_cuda x1 x2 starts L w ω Qa = Model.refStats (p : ℤ) Qa.get x1.get x2.get starts.get starts.n L w.get ω :=
  (numba_cuda_agree_poly_csd x1 x2 starts L w ω Qa).trans (stats_poly_csd_eq_ref x1 x2 starts hK L w ω Qa p hp hQ)

theorem stats_poly_auto_cuda_eq_ref (x : Arr ℝ) (starts : Arr ℕ) (hK : 0 < starts.n) (L : ℕ) (w : Arr ℝ) (ω : ℝ)
    (Qa : Arr2 ℝ) (p : ℕ) (hp : 1 ≤ p) (hQ : Qa.m = p + 1) :
    Gen._stats_poly_auto_cuda x starts L w ω Qa = Model.refStatsAuto (p : ℤ) Qa.get x.get starts.get starts.n L w.get ω :=
  (numba_cuda_agree_poly_auto x starts L w ω Qa).trans (stats_poly_auto_eq_ref x starts hK L w ω Qa p hp hQ)

set_option linter.unusedVariables false in -- `hK` not used; the checks list this statement (`vk/props/C01.py`)
/-- auto mode is the diagonal: MYY = MXX = mu_r and mu_i = 0 -/
theorem auto_is_diag (order : ℤ) (Q : ℕ → ℕ → ℝ) (x : ℕ → ℝ) (starts : ℕ → ℕ) (K L : ℕ) (hK : 0 < K) (w : ℕ → ℝ) (ω : ℝ) :
    let r := Model.refStatsAuto order Q x starts K L w ω
    r.2.1 = r.1 ∧ r.2.2.1 = r.1 ∧ r.2.2.2.1 = 0 := by
  intro r
  refine ⟨rfl, rfl, ?_⟩
  simp [r, Model.refStatsAuto, Model.reduceStats, sumRange_eq_sum]

theorem refStatsAuto_neg_omega (order : ℤ) (Q : ℕ → ℕ → ℝ) (x : ℕ → ℝ) (starts : ℕ → ℕ) (K L : ℕ) (w : ℕ → ℝ) (ω : ℝ) :
    Model.refStatsAuto order Q x starts K L w (-ω) = Model.refStatsAuto order Q x starts K L w ω := by
  simp only [Model.refStatsAuto, segDFT_neg_omega, Cx.normSq_conj]

/-- sign convention pinned: the imaginary part of the cross term is Im(X · conj Y) -/
theorem ref_cross_is_X_conjY (order : ℤ) (Q : ℕ → ℕ → ℝ) (x y : ℕ → ℝ) (starts : ℕ → ℕ) (L : ℕ) (w : ℕ → ℝ) (ω : ℝ) :
    let r := Model.refStats order Q x y starts 1 L w ω
    (⟨r.2.2.1, r.2.2.2.1⟩ : ℂ) = Cx.toC (Model.segDFT order Q x (starts 0) L w ω) * (starRingEnd ℂ) (Cx.toC (Model.segDFT order Q y (starts 0) L w ω)) := by
  intro r
  rw [← Cx.toC_conj, ← Cx.toC_mul]
  simp [r, Model.refStats, Model.reduceStats, sumRange_eq_sum, Cx.toC]

/-- non-vacuity: concrete numbers, L = 3, two (repeated) starts: X = 1 + 2 + 3 = 6, |X|² = 36 -/
example : (Gen._stats_win_only_csd (α := ℝ) ⟨5, fun n => (n : ℝ)⟩ ⟨5, fun n => (n : ℝ) ^ 2⟩ ⟨2, fun _ => 1⟩ 3 ⟨3, fun _ => 1⟩ 0).1 = 36 := by
  rw [stats_win_only_csd_eq_ref _ _ ⟨2, fun _ => 1⟩ (by decide) _ _ _ (fun _ _ => 0)]
  simp only [Model.refStats, Model.reduceStats, Model.segDFT, detr_neg_one, Cx.normSq, sumRange_eq_sum, sum_range_succ, sum_range_zero,
    RL.cos_eq, RL.sin_eq, RL.ofNat_eq, RL.zero_eq, zero_mul, Real.cos_zero, Real.sin_zero]
  norm_num

#print axioms reduce_spec
#print axioms reduce_M2_all_K
#print axioms reduce_M2_nonneg
#print axioms reduce_M2_one
#print axioms stats_win_only_csd_eq_ref
#print axioms stats_win_only_auto_eq_ref
#print axioms stats_detrend0_csd_eq_ref
#print axioms stats_detrend0_auto_eq_ref
#print axioms stats_poly_csd_eq_ref
#print axioms stats_poly_auto_eq_ref
#print axioms stats_win_only_csd_cuda_eq_ref
#print axioms stats_win_only_auto_cuda_eq_ref
#print axioms stats_detrend0_csd_cuda_eq_ref
#print axioms stats_detrend0_auto_cuda_eq_ref
#print axioms stats_poly_csd_cuda_eq_ref
#print axioms stats_poly_auto_cuda_eq_ref
#print axioms numba_cuda_agree_win_only_csd
#print axioms numba_cuda_agree_win_only_auto
#print axioms numba_cuda_agree_detrend0_csd
#print axioms numba_cuda_agree_detrend0_auto
#print axioms numba_cuda_agree_poly_csd
#print axioms numba_cuda_agree_poly_auto
#print axioms auto_is_diag
#print axioms ref_cross_is_X_conjY
