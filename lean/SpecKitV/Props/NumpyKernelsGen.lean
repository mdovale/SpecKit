/-
  Props/NumpyKernelsGen — the translated NumPy fallback kernels of speckit/core.py (`Gen/NumpyKernels.lean`: `_gather_segments` and
  `_stats_{win_only,detrend0,poly}_{auto,csd}_np`, whole-array semantics through the contracts of `Np/NumpyKernels.lean`) equal the
  reference estimator `Model.refStats` / `Model.refStatsAuto` over ℝ: for every start vector of length K ≥ 1 (repeats, any order), every
  chunk size `_chunk ≥ 1` (Python's `range` raises for step 0) and whatever `np.empty` returned.

  The chunk loop and the statements after it are the same in every kernel of a mode: `auto_fill`, `auto_tail` / `csd_fill`, `csd_tail` reduce a
  kernel to "the vector `(d * w) @ e` computed for chunk `it` holds the DFTs of the chunk's segments" (`ChunkHolds`), which `chunk_dft` gives
  when the rows of `d` are the detrended segments and the phase of `e` is `-(θ n)`.  A csd kernel needs `θ = ω`: the sign of the exponent
  and the side of the conjugate are pinned by `Im (X · conj Y)`; an auto kernel needs `θ = ±ω` only, the auto statistics being even in ω
  (the source has `exp(+iωn)` there).  Where the source may commute operands without changing a value, the proofs do not look: the phase
  and the summand of `M2` are compared by `ring`, the other three places are rewritten to one spelling first (`rowMul_eq` ff.).

  The end of the file keeps a second route as tactics (`np_auto_proof`, `np_csd_proof`), for a kernel whose chunk body does not fit
  `chunk_dft`.  NOTHING invokes them: a macro is elaborated where it is used, so the build does not check them.
-/
import SpecKitV.RealInst
import SpecKitV.Lemmas.CxC
import SpecKitV.Lemmas.Detrend
import SpecKitV.Model.Ref
import SpecKitV.Gen.NumpyKernels
import SpecKitV.Props.C01
open Finset

namespace NpK

theorem sliceBound_natCast (n k : ℕ) : Np.sliceBound n (k : ℤ) = min k n := by
  rw [Np.sliceBound, if_neg (by omega), Int.toNat_natCast]

theorem rangeLen_mul_ge (K c : ℕ) (hc : 1 ≤ c) : K ≤ Np.rangeLen 0 K c * c := by
  have h := Nat.lt_div_mul_add (a := K + c - 1) hc
  rw [Np.rangeLen, Nat.sub_zero]
  omega

def Holds {β : Type} (n : ℕ) (f : ℕ → β) (v : Arr β) : Prop := v.n = n ∧ ∀ i < n, v.get i = f i

theorem Holds.map₂ {β γ : Type} {n : ℕ} {f f' : ℕ → β} {v v' : Arr β} (h : Holds n f v) (h' : Holds n f' v') (g : β → β → γ) :
    Holds n (fun i => g (f i) (f' i)) ⟨v.n, fun i => g (v.get i) (v'.get i)⟩ :=
  ⟨h.1, fun i hi => congrArg₂ g (h.2 i hi) (h'.2 i hi)⟩

theorem mean_eq_of {a : Arr ℝ} {K : ℕ} (hn : a.n = K) {p : ℕ → ℝ} (h : ∀ j, j < K → a.get j = p j) :
    Arr.mean a = (∑ j ∈ range K, p j) / (K : ℝ) := by
  rw [Arr.mean, hn, sumRange_eq_sum, RL.ofNat_eq, sum_congr rfl (fun j hj => h j (mem_range.1 hj))]

/-- the vector computed for chunk `it` (size `c`, axis of length `K`) holds `f` at the chunk's global positions -/
def ChunkHolds {β : Type} (K c it : ℕ) (f : ℕ → β) (v : Arr β) : Prop :=
  Holds (min (it * c + c) K - it * c) (fun i => f (it * c + i)) v

/-- invariant of the chunk loop -/
def Filled (K c it : ℕ) (f : ℕ → ℝ) (a : Arr ℝ) : Prop := a.n = K ∧ ∀ j, j < min (it * c) K → a.get j = f j

theorem filled_zero (K c : ℕ) (f : ℕ → ℝ) (g : ℕ → ℝ) : Filled K c 0 f (Np.empty K g) :=
  ⟨rfl, fun j hj => absurd hj (by simp)⟩

theorem filled_step {K c it : ℕ} {f : ℕ → ℝ} {a : Arr ℝ} (h : Filled K c it f a) (j0 j1 : ℕ)
    (hj0 : j0 = it * c) (hj1 : j1 = min (it * c + c) K) (v : Arr ℝ)
    (hvn : v.n = j1 - j0) (hv : ∀ i < j1 - j0, v.get i = f (j0 + i)) :
    Filled K c (it + 1) f (Np.setSlice a (j0 : ℤ) (j1 : ℤ) v) := by
  obtain ⟨hn, hg⟩ := h
  subst hj0 hj1
  refine ⟨hn, fun j hj => ?_⟩
  rw [Nat.succ_mul] at hj
  have hjK := lt_of_lt_of_le hj (min_le_right _ _)
  simp only [Np.setSlice, sliceBound_natCast, hn, min_eq_left (min_le_right _ K)]
  generalize it * c = j0 at *
  by_cases hlt : j < j0
  · rw [if_neg (fun h => absurd (lt_min hlt hjK) (not_lt.2 h.1))]
    exact hg j (lt_min hlt hjK)
  · rw [not_lt] at hlt
    rw [min_eq_left (hlt.trans hjK.le), if_pos ⟨hlt, hj⟩]
    -- a chunk of length 1 is stored by broadcasting: position 0 is the only one
    have hidx : (if v.n = 1 then 0 else j - j0) = j - j0 := by
      split_ifs <;> omega
    rw [hidx, hv (j - j0) (by omega), Nat.add_sub_cancel' hlt]

theorem filled_final {K c : ℕ} (hc : 1 ≤ c) {f : ℕ → ℝ} {a : Arr ℝ} (h : Filled K c (Np.rangeLen 0 K c) f a) : Holds K f a :=
  ⟨h.1, fun j hj => h.2 j (lt_min (lt_of_lt_of_le hj (rangeLen_mul_ge K c hc)) hj)⟩

/-- the chunk loop `for j0 in range(0, K, c): a[j0:j1] = v`, seen through a component `π` of the loop state that evolves on its own -/
theorem chunks_fill {σ : Type} (π : σ → Arr ℝ) {F : ℕ → σ → σ} {s0 : σ} {K c : ℕ} (hc : 1 ≤ c) {v : ℕ → Arr ℝ} {f g : ℕ → ℝ}
    (hF : ∀ it s, π (F it s) = Np.setSlice (π s) ((0 + it * c : ℕ) : ℤ) ((min (0 + it * c + c) K : ℕ) : ℤ) (v it))
    (h0 : π s0 = Np.empty K g) (hv : ∀ it, ChunkHolds K c it f (v it)) :
    Holds K f (π (forRange (Np.rangeLen 0 K c) s0 F)) := by
  simp only [Nat.zero_add] at hF
  refine filled_final hc (forRange_inv (fun it s => Filled K c it f (π s)) _ _ _ (h0 ▸ filled_zero K c f g) ?_)
  intro it s _ h
  rw [hF]
  exact filled_step h _ _ rfl rfl _ (hv it).1 (hv it).2

/-- the chunk loop of an auto kernel, when the vector `X it` computed for chunk `it` holds the spectra of the chunk's segments at some
    `θ = ±ω` (`θ * θ = ω * ω`: `|X|²` is even in ω, so either sign of the exponent will do): the array holds the `|X|²` at `ω`.
    The loop is the translated one (`0 + it * c`: the translator's `range(0, K, c)`); the kernel theorems close against it by `exact` up
    to unfolding `Cx.normSq`, so a changed Python text fails there as a type mismatch. -/
theorem auto_fill {K c : ℕ} (hc : 1 ≤ c) {u : ℕ → ℝ} {X : ℕ → Arr (Cx ℝ)} {order : ℤ} {Q : ℕ → ℕ → ℝ} {x : ℕ → ℝ} {starts : ℕ → ℕ}
    {L : ℕ} {w : ℕ → ℝ} {θ ω : ℝ} (hX : ∀ it, ChunkHolds K c it (fun j => Model.segDFT order Q x (starts j) L w θ) (X it))
    (hθ : θ * θ = ω * ω) :
    Holds K (fun j => Cx.normSq (Model.segDFT order Q x (starts j) L w ω))
      (forRange (Np.rangeLen 0 K c) (Np.empty K u) (fun it p =>
        let j0 := 0 + it * c
        Np.setSlice p (j0 : ℤ) (min (j0 + c) K : ℕ) ⟨(X it).n, fun i => Cx.normSq ((X it).get i)⟩)) := by
  have e (j : ℕ) : Cx.normSq (Model.segDFT order Q x (starts j) L w ω) = Cx.normSq (Model.segDFT order Q x (starts j) L w θ) := by
    rcases mul_self_eq_mul_self_iff.1 hθ with rfl | rfl
    · rfl
    · rw [segDFT_neg_omega, Cx.normSq_conj]
  simp only [e]
  exact chunks_fill id hc (fun _ _ => rfl) rfl (fun it => (hX it).map₂ (hX it) (fun a _ => Cx.normSq a))

/-- the statements after the loop of an auto kernel, about the array itself; the summand of `M2` is compared by `ring` -/
theorem auto_tail {K : ℕ} {f : ℕ → ℝ} {p : Arr ℝ} (h : Holds K f p) {n : ℕ} {g : ℕ → ℝ} (hn : n = p.n)
    (hg : ∀ i, g i = (p.get i - Arr.mean p) * (p.get i - Arr.mean p)) :
    (Arr.mean p, Arr.mean p, Arr.mean p, (RealLike.ofSci 0 true 1 : ℝ),
      if decide (K ≥ 2) then Arr.mean ⟨n, g⟩ else RealLike.ofSci 0 true 1) = Model.reduceStats K f f f (fun _ => RealLike.zero) := by
  have hM := h.map₂ h (fun a _ => (a - Arr.mean p) * (a - Arr.mean p))
  rw [mean_eq_of (a := ⟨n, g⟩) (hn.trans h.1) (fun j hj => (hg j).trans (hM.2 j hj))]
  simp only [Model.reduceStats, mean_eq_of h.1 h.2, sumRange_eq_sum, RL.ofNat_eq, RL.zero_eq, RL.lit_zero, decide_eq_true_eq,
    sum_const_zero, zero_div, sub_self, mul_zero, add_zero]

/-- the chunk loop of a csd kernel: the four arrays of the loop state hold the per-segment series that `Model.refStats` reduces -/
theorem csd_fill {K c : ℕ} (hc : 1 ≤ c) {u : ℕ → ℕ → ℝ} {X Y : ℕ → Arr (Cx ℝ)} {S1 S2 : ℕ → Cx ℝ}
    (hX : ∀ it, ChunkHolds K c it S1 (X it)) (hY : ∀ it, ChunkHolds K c it S2 (Y it)) :
    let st := forRange (Np.rangeLen 0 K c) (Np.empty K (u 0), Np.empty K (u 1), Np.empty K (u 2), Np.empty K (u 3)) (fun it st =>
        let j0 := 0 + it * c
        let j1 := min (j0 + c) K
        (Np.setSlice st.1 (j0 : ℤ) (j1 : ℤ) ⟨(X it).n, fun i => Cx.normSq ((X it).get i)⟩,
         Np.setSlice st.2.1 (j0 : ℤ) (j1 : ℤ) ⟨(Y it).n, fun i => Cx.normSq ((Y it).get i)⟩,
         Np.setSlice st.2.2.1 (j0 : ℤ) (j1 : ℤ) ⟨(X it).n, fun i => ((X it).get i * Cx.conj ((Y it).get i)).re⟩,
         Np.setSlice st.2.2.2 (j0 : ℤ) (j1 : ℤ) ⟨(X it).n, fun i => ((X it).get i * Cx.conj ((Y it).get i)).im⟩))
    Holds K (fun j => Cx.normSq (S1 j)) st.1 ∧ Holds K (fun j => Cx.normSq (S2 j)) st.2.1
      ∧ Holds K (fun j => (S1 j * Cx.conj (S2 j)).re) st.2.2.1 ∧ Holds K (fun j => (S1 j * Cx.conj (S2 j)).im) st.2.2.2 :=
  ⟨chunks_fill Prod.fst hc (fun _ _ => rfl) rfl (fun it => (hX it).map₂ (hX it) (fun a _ => Cx.normSq a)),
    chunks_fill (Prod.fst ∘ Prod.snd) hc (fun _ _ => rfl) rfl (fun it => (hY it).map₂ (hY it) (fun a _ => Cx.normSq a)),
    chunks_fill (Prod.fst ∘ Prod.snd ∘ Prod.snd) hc (fun _ _ => rfl) rfl (fun it => (hX it).map₂ (hY it) (fun a b => (a * Cx.conj b).re)),
    chunks_fill (Prod.snd ∘ Prod.snd ∘ Prod.snd) hc (fun _ _ => rfl) rfl (fun it => (hX it).map₂ (hY it) (fun a b => (a * Cx.conj b).im))⟩

/-- the statements after the loop of a csd kernel, about the arrays themselves (so that `zr`, `zi` below are the kernel's own terms).
    The vector whose mean is `M2` is left open up to its length (`zr`'s or `zi`'s: NumPy takes it from the left operand) and the order of
    its two squares. -/
theorem csd_tail {K : ℕ} {f1 f2 f3 f4 : ℕ → ℝ} {p1 p2 zr zi : Arr ℝ}
    (h : Holds K f1 p1 ∧ Holds K f2 p2 ∧ Holds K f3 zr ∧ Holds K f4 zi) {n : ℕ} {g : ℕ → ℝ} (hn : n = zr.n ∨ n = zi.n)
    (hg : ∀ i, g i = (zr.get i - Arr.mean zr) * (zr.get i - Arr.mean zr) + (zi.get i - Arr.mean zi) * (zi.get i - Arr.mean zi)) :
    (Arr.mean p1, Arr.mean p2, Arr.mean zr, Arr.mean zi, if decide (K ≥ 2) then Arr.mean ⟨n, g⟩ else RealLike.ofSci 0 true 1)
      = Model.reduceStats K f1 f2 f3 f4 := by
  obtain ⟨h1, h2, h3, h4⟩ := h
  have hM := h3.map₂ h4 (fun a b => (a - Arr.mean zr) * (a - Arr.mean zr) + (b - Arr.mean zi) * (b - Arr.mean zi))
  rw [mean_eq_of (a := ⟨n, g⟩) (hn.elim (·.trans h3.1) (·.trans h4.1)) (fun j hj => (hg j).trans (hM.2 j hj))]
  simp only [Model.reduceStats, mean_eq_of h1.1 h1.2, mean_eq_of h2.1 h2.2, mean_eq_of h3.1 h3.2, mean_eq_of h4.1 h4.2, sumRange_eq_sum,
    RL.ofNat_eq, RL.zero_eq, RL.lit_zero, decide_eq_true_eq]

/-- `e = np.exp(1j * t)` with the phase `t n = -(θ n)`, however the source multiplies `∓1j`, `omega` and `n` together -/
theorem chunk_dft {c it L N : ℕ} {θ : ℝ} {t : ℕ → ℝ} {order : ℤ} {Q : ℕ → ℕ → ℝ} (x : Arr ℝ) (starts : Arr ℕ) (w : Arr ℝ) {d : Arr2 ℝ}
    (ht : ∀ n, t n = -(θ * n))
    (hn : d.n = (Np.slice starts ((0 + it * c : ℕ) : ℤ) (min (0 + it * c + c) starts.n : ℕ)).n) (hm : d.m = L)
    (hd : ∀ i, ∀ n < L, d.get i n
      = Model.detr order Q x.get ((Np.slice starts ((0 + it * c : ℕ) : ℤ) (min (0 + it * c + c) starts.n : ℕ)).get i) L n) :
    ChunkHolds starts.n c it (fun j => Model.segDFT order Q x.get (starts.get j) L w.get θ)
      (Np.matvecC (Np.mulRow d w) ⟨N, fun n => Np.expI (t n)⟩) := by
  simp only [Np.slice, sliceBound_natCast, Nat.zero_add] at hn hd
  refine ⟨hn.trans (by omega), fun i hi => ?_⟩
  simp only [Np.matvecC, Np.mulRow, segDFT_eq, hm, Np.expI, ht, RL.cos_eq, RL.sin_eq, Real.cos_neg, Real.sin_neg, sumRange_eq_sum,
    Cx.mk.injEq, ← sum_neg_distrib]
  have hd' : ∀ n ∈ range L, d.get i n = Model.detr order Q x.get (starts.get (it * c + i)) L n := fun n hn' => by
    rw [hd i n (mem_range.1 hn'), min_eq_left (by omega)]
  exact ⟨sum_congr rfl (fun n hn' => by rw [hd' n hn']; ring), sum_congr rfl (fun n hn' => by rw [hd' n hn']; ring)⟩

/-- a phase linear in the sample index, in the form `chunk_dft` takes it: `θ = -(t 1)` -/
theorem phase_lin {t : ℕ → ℝ} (h : ∀ n, t n = t 1 * n) (n : ℕ) : t n = -(-(t 1) * n) := by
  rw [neg_mul, neg_neg]
  exact h n

/-- the other spelling of each commutative step of a chunk body, turned into the one the lemmas above are stated in:
    `(w * segs) @ e`, `X.imag**2 + X.real**2`, `np.conj(Y) * X` -/
theorem rowMul_eq (w : Arr ℝ) (a : Arr2 ℝ) : Np.rowMul w a = Np.mulRow a w :=
  congrArg (Arr2.mk a.n a.m) (funext₂ fun _ _ => mul_comm _ _)

theorem im_re_sq (z : Cx ℝ) : z.im * z.im + z.re * z.re = z.re * z.re + z.im * z.im := add_comm _ _

theorem conj_mul (a b : Cx ℝ) : Cx.conj b * a = a * Cx.conj b :=
  Cx.toC_injective (by rw [Cx.toC_mul, Cx.toC_mul, mul_comm])

/-- mean removal `segs - segs.mean(axis=1, keepdims=True)` on the gather of any start vector `ss` -/
theorem detrend0_row {x : Arr ℝ} {ss : Arr ℕ} {L i n : ℕ} {Q : ℕ → ℕ → ℝ} :
    (Np.subCol (Gen._gather_segments x ss L) (Np.rowMean (Gen._gather_segments x ss L))).get i n
      = Model.detr 0 Q x.get (ss.get i) L n := by
  simp only [detr0_eq, Np.subCol, Np.rowMean, Gen._gather_segments, Np.take2, Np.outerAdd, Np.arange, sumRange_eq_sum, RL.ofNat_eq]

/-- `segs - (segs @ Q) @ Q.T`: the projection onto the `Qa.m` columns is removed -/
theorem poly_row {x : Arr ℝ} {ss : Arr ℕ} {L i n : ℕ} {Qa : Arr2 ℝ} :
    (Np.sub2 (Gen._gather_segments x ss L) (Np.matmul (Np.matmul (Gen._gather_segments x ss L) Qa) (Np.transpose Qa))).get i n
      = x.get (ss.get i + n) - ∑ k ∈ range Qa.m, Qa.get n k * ∑ m ∈ range L, Qa.get m k * x.get (ss.get i + m) := by
  simp only [Np.sub2, Np.matmul, Np.transpose, Gen._gather_segments, Np.take2, Np.outerAdd, Np.arange, sumRange_eq_sum]
  congr 1
  exact sum_congr rfl (fun k _ => by rw [mul_comm]; congr 1; exact sum_congr rfl (fun m _ => mul_comm _ _))

end NpK

/-- the translated gather: row `r` of `_gather_segments x starts L` is the segment of `x` starting at `starts[r]` -/
theorem gen_gather_segments_spec (x : Arr ℝ) (starts : Arr ℕ) (L : ℕ) :
    (Gen._gather_segments x starts L).n = starts.n ∧ (Gen._gather_segments x starts L).m = L
      ∧ ∀ r n, (Gen._gather_segments x starts L).get r n = x.get (starts.get r + n) := by
  simp only [Gen._gather_segments, Np.take2, Np.outerAdd, Np.arange, true_and, implies_true]

set_option linter.unusedSimpArgs false   -- the spelling lemmas rewrite nothing in the source as it is

theorem gen_np_win_only_auto_eq_ref (x : Arr ℝ) (starts : Arr ℕ) (hK : 0 < starts.n) (L : ℕ) (w : Arr ℝ) (ω : ℝ) (Q : ℕ → ℕ → ℝ)
    (c : ℕ) (hc : 1 ≤ c) (u : ℕ → ℕ → ℝ) :
    Gen._stats_win_only_auto_np x starts L w ω c u = Model.refStatsAuto (-1) Q x.get starts.get starts.n L w.get ω := by
  unfold Gen._stats_win_only_auto_np
  rw [if_neg (by simpa using hK.ne')]
  simp only [NpK.rowMul_eq, NpK.im_re_sq]
  refine NpK.auto_tail ?_ rfl (fun i => by ring)
  exact NpK.auto_fill hc
    (fun it => NpK.chunk_dft x starts w (NpK.phase_lin fun n => by simp only [Np.arangeF, RL.ofNat_eq, RL.lit_one]; ring) rfl rfl
      (fun i n _ => (detr_neg_one Q x.get _ L n).symm))
    (by simp only [Np.arangeF, RL.ofNat_eq, RL.lit_one]; ring)

theorem gen_np_win_only_csd_eq_ref (x1 x2 : Arr ℝ) (starts : Arr ℕ) (hK : 0 < starts.n) (L : ℕ) (w : Arr ℝ) (ω : ℝ) (Q : ℕ → ℕ → ℝ)
    (c : ℕ) (hc : 1 ≤ c) (u : ℕ → ℕ → ℝ) :
    Gen._stats_win_only_csd_np x1 x2 starts L w ω c u = Model.refStats (-1) Q x1.get x2.get starts.get starts.n L w.get ω := by
  unfold Gen._stats_win_only_csd_np
  rw [if_neg (by simpa using hK.ne')]
  simp only [NpK.rowMul_eq, NpK.im_re_sq, NpK.conj_mul]
  refine NpK.csd_tail ?_ (by simp only [eq_self, true_or, or_true]) (fun i => by ring)
  exact NpK.csd_fill hc
    (fun it => NpK.chunk_dft x1 starts w (fun n => by simp only [Np.arangeF, RL.ofNat_eq, RL.lit_one]; ring) rfl rfl
      (fun i n _ => (detr_neg_one Q x1.get _ L n).symm))
    (fun it => NpK.chunk_dft x2 starts w (fun n => by simp only [Np.arangeF, RL.ofNat_eq, RL.lit_one]; ring) rfl rfl
      (fun i n _ => (detr_neg_one Q x2.get _ L n).symm))

theorem gen_np_detrend0_auto_eq_ref (x : Arr ℝ) (starts : Arr ℕ) (hK : 0 < starts.n) (L : ℕ) (w : Arr ℝ) (ω : ℝ) (Q : ℕ → ℕ → ℝ)
    (c : ℕ) (hc : 1 ≤ c) (u : ℕ → ℕ → ℝ) :
    Gen._stats_detrend0_auto_np x starts L w ω c u = Model.refStatsAuto 0 Q x.get starts.get starts.n L w.get ω := by
  unfold Gen._stats_detrend0_auto_np
  rw [if_neg (by simpa using hK.ne')]
  simp only [NpK.rowMul_eq, NpK.im_re_sq]
  refine NpK.auto_tail ?_ rfl (fun i => by ring)
  exact NpK.auto_fill hc
    (fun it => NpK.chunk_dft x starts w (NpK.phase_lin fun n => by simp only [Np.arangeF, RL.ofNat_eq, RL.lit_one]; ring) rfl rfl
      (fun _ _ _ => NpK.detrend0_row))
    (by simp only [Np.arangeF, RL.ofNat_eq, RL.lit_one]; ring)

theorem gen_np_detrend0_csd_eq_ref (x1 x2 : Arr ℝ) (starts : Arr ℕ) (hK : 0 < starts.n) (L : ℕ) (w : Arr ℝ) (ω : ℝ) (Q : ℕ → ℕ → ℝ)
    (c : ℕ) (hc : 1 ≤ c) (u : ℕ → ℕ → ℝ) :
    Gen._stats_detrend0_csd_np x1 x2 starts L w ω c u = Model.refStats 0 Q x1.get x2.get starts.get starts.n L w.get ω := by
  unfold Gen._stats_detrend0_csd_np
  rw [if_neg (by simpa using hK.ne')]
  simp only [NpK.rowMul_eq, NpK.im_re_sq, NpK.conj_mul]
  refine NpK.csd_tail ?_ (by simp only [eq_self, true_or, or_true]) (fun i => by ring)
  exact NpK.csd_fill hc
    (fun it => NpK.chunk_dft x1 starts w (fun n => by simp only [Np.arangeF, RL.ofNat_eq, RL.lit_one]; ring) rfl rfl
      (fun _ _ _ => NpK.detrend0_row))
    (fun it => NpK.chunk_dft x2 starts w (fun n => by simp only [Np.arangeF, RL.ofNat_eq, RL.lit_one]; ring) rfl rfl
      (fun _ _ _ => NpK.detrend0_row))

/-- the reference of any `(order, Q')` with `DetrIsProj`, as for the Numba kernels -/
theorem gen_np_poly_auto_eq_ref_of {x : Arr ℝ} {starts : Arr ℕ} (hK : 0 < starts.n) {L : ℕ} {w : Arr ℝ} {ω : ℝ}
    {Qa : Arr2 ℝ} {order : ℤ} {Q' : ℕ → ℕ → ℝ} (hd : DetrIsProj order Q' Qa L) {c : ℕ} (hc : 1 ≤ c) {u : ℕ → ℕ → ℝ} :
    Gen._stats_poly_auto_np x starts L w ω Qa c u = Model.refStatsAuto order Q' x.get starts.get starts.n L w.get ω := by
  unfold Gen._stats_poly_auto_np
  rw [if_neg (by simpa using hK.ne')]
  simp only [NpK.rowMul_eq, NpK.im_re_sq]
  refine NpK.auto_tail ?_ rfl (fun i => by ring)
  exact NpK.auto_fill hc
    (fun it => NpK.chunk_dft x starts w (NpK.phase_lin fun n => by simp only [Np.arangeF, RL.ofNat_eq, RL.lit_one]; ring) rfl rfl
      (fun _ n hn => NpK.poly_row.trans (hd _ _ n hn).symm))
    (by simp only [Np.arangeF, RL.ofNat_eq, RL.lit_one]; ring)

theorem gen_np_poly_csd_eq_ref_of {x1 x2 : Arr ℝ} {starts : Arr ℕ} (hK : 0 < starts.n) {L : ℕ} {w : Arr ℝ} {ω : ℝ}
    {Qa : Arr2 ℝ} {order : ℤ} {Q' : ℕ → ℕ → ℝ} (hd : DetrIsProj order Q' Qa L) {c : ℕ} (hc : 1 ≤ c) {u : ℕ → ℕ → ℝ} :
    Gen._stats_poly_csd_np x1 x2 starts L w ω Qa c u = Model.refStats order Q' x1.get x2.get starts.get starts.n L w.get ω := by
  unfold Gen._stats_poly_csd_np
  rw [if_neg (by simpa using hK.ne')]
  simp only [NpK.rowMul_eq, NpK.im_re_sq, NpK.conj_mul]
  refine NpK.csd_tail ?_ (by simp only [eq_self, true_or, or_true]) (fun i => by ring)
  exact NpK.csd_fill hc
    (fun it => NpK.chunk_dft x1 starts w (fun n => by simp only [Np.arangeF, RL.ofNat_eq, RL.lit_one]; ring) rfl rfl
      (fun _ n hn => NpK.poly_row.trans (hd _ _ n hn).symm))
    (fun it => NpK.chunk_dft x2 starts w (fun n => by simp only [Np.arangeF, RL.ofNat_eq, RL.lit_one]; ring) rfl rfl
      (fun _ n hn => NpK.poly_row.trans (hd _ _ n hn).symm))

theorem gen_np_poly_auto_eq_ref (x : Arr ℝ) (starts : Arr ℕ) (hK : 0 < starts.n) (L : ℕ) (w : Arr ℝ) (ω : ℝ)
    (Qa : Arr2 ℝ) (p : ℕ) (hp : 1 ≤ p) (hQ : Qa.m = p + 1) (c : ℕ) (hc : 1 ≤ c) (u : ℕ → ℕ → ℝ) :
    Gen._stats_poly_auto_np x starts L w ω Qa c u = Model.refStatsAuto (p : ℤ) Qa.get x.get starts.get starts.n L w.get ω :=
  gen_np_poly_auto_eq_ref_of hK (detrIsProj_poly Qa p hp hQ L) hc

theorem gen_np_poly_csd_eq_ref (x1 x2 : Arr ℝ) (starts : Arr ℕ) (hK : 0 < starts.n) (L : ℕ) (w : Arr ℝ) (ω : ℝ)
    (Qa : Arr2 ℝ) (p : ℕ) (hp : 1 ≤ p) (hQ : Qa.m = p + 1) (c : ℕ) (hc : 1 ≤ c) (u : ℕ → ℕ → ℝ) :
    Gen._stats_poly_csd_np x1 x2 starts L w ω Qa c u = Model.refStats (p : ℤ) Qa.get x1.get x2.get starts.get starts.n L w.get ω :=
  gen_np_poly_csd_eq_ref_of hK (detrIsProj_poly Qa p hp hQ L) hc

/-! two chunks of one segment; two chunks of sizes 2, 1 -/

example : Gen._stats_win_only_csd_np (α := ℝ) ⟨5, fun n => (n : ℝ)⟩ ⟨5, fun n => (n : ℝ) ^ 2⟩ ⟨2, fun j => j⟩ 3 ⟨3, fun _ => 1⟩ (1 / 2) 1 (fun _ _ => 7)
    = Model.refStats (-1) (fun _ _ => 0) (fun n => (n : ℝ)) (fun n => (n : ℝ) ^ 2) (fun j => j) 2 3 (fun _ => 1) (1 / 2) :=
  gen_np_win_only_csd_eq_ref _ _ ⟨2, fun j => j⟩ (by decide) _ _ _ _ 1 (by decide) _

example : Gen._stats_poly_auto_np (α := ℝ) ⟨7, fun n => (n : ℝ) ^ 2⟩ ⟨3, fun j => 2 * j⟩ 3 ⟨3, fun n => (n : ℝ) + 1⟩ 1 ⟨3, 2, fun n k => (n : ℝ) ^ k⟩ 2 (fun _ _ => 7)
    = Model.refStatsAuto ((1 : ℕ) : ℤ) (fun n k => (n : ℝ) ^ k) (fun n => (n : ℝ) ^ 2) (fun j => 2 * j) 3 3 (fun n => (n : ℝ) + 1) 1 :=
  gen_np_poly_auto_eq_ref _ ⟨3, fun j => 2 * j⟩ (by decide) _ _ _ ⟨3, 2, fun n k => (n : ℝ) ^ k⟩ 1 (by decide) rfl 2 (by decide) _

/-- concrete numbers through the chunk loop (chunk size 1, two chunks, repeated start 1): X = 1 + 2 + 3 = 6, |X|² = 36 -/
example : (Gen._stats_win_only_auto_np (α := ℝ) ⟨5, fun n => (n : ℝ)⟩ ⟨2, fun _ => 1⟩ 3 ⟨3, fun _ => 1⟩ 0 1 (fun _ _ => 7)).1 = 36 := by
  rw [gen_np_win_only_auto_eq_ref _ ⟨2, fun _ => 1⟩ (by decide) _ _ _ (fun _ _ => 0) 1 (by decide) _]
  simp [Model.refStatsAuto, Model.reduceStats, Model.segDFT, Model.detr, Cx.normSq, sumRange, forRange_succ, forRange_zero]
  norm_num

theorem gen_np_win_only_auto_K0 (x : Arr ℝ) (starts : Arr ℕ) (h : starts.n = 0) (L : ℕ) (w : Arr ℝ) (ω : ℝ) (c : ℕ) (u : ℕ → ℕ → ℝ) :
    Gen._stats_win_only_auto_np x starts L w ω c u = (0, 0, 0, 0, 0) := by
  unfold Gen._stats_win_only_auto_np; simp [h]
theorem gen_np_win_only_csd_K0 (x1 x2 : Arr ℝ) (starts : Arr ℕ) (h : starts.n = 0) (L : ℕ) (w : Arr ℝ) (ω : ℝ) (c : ℕ) (u : ℕ → ℕ → ℝ) :
    Gen._stats_win_only_csd_np x1 x2 starts L w ω c u = (0, 0, 0, 0, 0) := by
  unfold Gen._stats_win_only_csd_np; simp [h]
theorem gen_np_detrend0_auto_K0 (x : Arr ℝ) (starts : Arr ℕ) (h : starts.n = 0) (L : ℕ) (w : Arr ℝ) (ω : ℝ) (c : ℕ) (u : ℕ → ℕ → ℝ) :
    Gen._stats_detrend0_auto_np x starts L w ω c u = (0, 0, 0, 0, 0) := by
  unfold Gen._stats_detrend0_auto_np; simp [h]
theorem gen_np_detrend0_csd_K0 (x1 x2 : Arr ℝ) (starts : Arr ℕ) (h : starts.n = 0) (L : ℕ) (w : Arr ℝ) (ω : ℝ) (c : ℕ) (u : ℕ → ℕ → ℝ) :
    Gen._stats_detrend0_csd_np x1 x2 starts L w ω c u = (0, 0, 0, 0, 0) := by
  unfold Gen._stats_detrend0_csd_np; simp [h]
theorem gen_np_poly_auto_K0 (x : Arr ℝ) (starts : Arr ℕ) (h : starts.n = 0) (L : ℕ) (w : Arr ℝ) (ω : ℝ) (Qa : Arr2 ℝ) (c : ℕ) (u : ℕ → ℕ → ℝ) :
    Gen._stats_poly_auto_np x starts L w ω Qa c u = (0, 0, 0, 0, 0) := by
  unfold Gen._stats_poly_auto_np; simp [h]
theorem gen_np_poly_csd_K0 (x1 x2 : Arr ℝ) (starts : Arr ℕ) (h : starts.n = 0) (L : ℕ) (w : Arr ℝ) (ω : ℝ) (Qa : Arr2 ℝ) (c : ℕ) (u : ℕ → ℕ → ℝ) :
    Gen._stats_poly_csd_np x1 x2 starts L w ω Qa c u = (0, 0, 0, 0, 0) := by
  unfold Gen._stats_poly_csd_np; simp [h]

/-- the chunk sizes the code actually uses (the keyword defaults in the source) satisfy the hypothesis `1 ≤ _chunk` -/
theorem gen_np_default_chunks_pos :
    1 ≤ Gen._stats_win_only_auto_np_chunk_default ∧ 1 ≤ Gen._stats_win_only_csd_np_chunk_default
    ∧ 1 ≤ Gen._stats_detrend0_auto_np_chunk_default ∧ 1 ≤ Gen._stats_detrend0_csd_np_chunk_default
    ∧ 1 ≤ Gen._stats_poly_auto_np_chunk_default ∧ 1 ≤ Gen._stats_poly_csd_np_chunk_default := by
  decide

/-- NumPy fallback = Numba kernel (as translated), every K including 0, every chunk size -/
theorem np_numba_agree_win_only_auto (x : Arr ℝ) (starts : Arr ℕ) (L : ℕ) (w : Arr ℝ) (ω : ℝ) (c : ℕ) (hc : 1 ≤ c) (u : ℕ → ℕ → ℝ) :
    Gen._stats_win_only_auto_np x starts L w ω c u = Gen._stats_win_only_auto x starts L w ω := by
  rcases starts.n.eq_zero_or_pos with h | hK
  · rw [gen_np_win_only_auto_K0 x starts h]; unfold Gen._stats_win_only_auto Gen._reduce_stats_nb; simp [h]
  · rw [gen_np_win_only_auto_eq_ref x starts hK L w ω (fun _ _ => 0) c hc u, stats_win_only_auto_eq_ref x starts hK L w ω (fun _ _ => 0)]

theorem np_numba_agree_win_only_csd (x1 x2 : Arr ℝ) (starts : Arr ℕ) (L : ℕ) (w : Arr ℝ) (ω : ℝ) (c : ℕ) (hc : 1 ≤ c) (u : ℕ → ℕ → ℝ) :
    Gen._stats_win_only_csd_np x1 x2 starts L w ω c u = Gen._stats_win_only_csd x1 x2 starts L w ω := by
  rcases starts.n.eq_zero_or_pos with h | hK
  · rw [gen_np_win_only_csd_K0 x1 x2 starts h]; unfold Gen._stats_win_only_csd Gen._reduce_stats_nb; simp [h]
  · rw [gen_np_win_only_csd_eq_ref x1 x2 starts hK L w ω (fun _ _ => 0) c hc u, stats_win_only_csd_eq_ref x1 x2 starts hK L w ω (fun _ _ => 0)]

theorem np_numba_agree_detrend0_auto (x : Arr ℝ) (starts : Arr ℕ) (L : ℕ) (w : Arr ℝ) (ω : ℝ) (c : ℕ) (hc : 1 ≤ c) (u : ℕ → ℕ → ℝ) :
    Gen._stats_detrend0_auto_np x starts L w ω c u = Gen._stats_detrend0_auto x starts L w ω := by
  rcases starts.n.eq_zero_or_pos with h | hK
  · rw [gen_np_detrend0_auto_K0 x starts h]; unfold Gen._stats_detrend0_auto Gen._reduce_stats_nb; simp [h]
  · rw [gen_np_detrend0_auto_eq_ref x starts hK L w ω (fun _ _ => 0) c hc u, stats_detrend0_auto_eq_ref x starts hK L w ω (fun _ _ => 0)]

theorem np_numba_agree_detrend0_csd (x1 x2 : Arr ℝ) (starts : Arr ℕ) (L : ℕ) (w : Arr ℝ) (ω : ℝ) (c : ℕ) (hc : 1 ≤ c) (u : ℕ → ℕ → ℝ) :
    Gen._stats_detrend0_csd_np x1 x2 starts L w ω c u = Gen._stats_detrend0_csd x1 x2 starts L w ω := by
  rcases starts.n.eq_zero_or_pos with h | hK
  · rw [gen_np_detrend0_csd_K0 x1 x2 starts h]; unfold Gen._stats_detrend0_csd Gen._reduce_stats_nb; simp [h]
  · rw [gen_np_detrend0_csd_eq_ref x1 x2 starts hK L w ω (fun _ _ => 0) c hc u, stats_detrend0_csd_eq_ref x1 x2 starts hK L w ω (fun _ _ => 0)]

/-- for the polynomial kernels the agreement needs no hypothesis on the basis: both remove the projection onto the columns that exist -/
theorem np_eq_numba_poly_auto {x : Arr ℝ} {starts : Arr ℕ} {L : ℕ} {w : Arr ℝ} {ω : ℝ} {Qa : Arr2 ℝ} {c : ℕ} (hc : 1 ≤ c) {u : ℕ → ℕ → ℝ} :
    Gen._stats_poly_auto_np x starts L w ω Qa c u = Gen._stats_poly_auto x starts L w ω Qa := by
  rcases starts.n.eq_zero_or_pos with h | hK
  · rw [gen_np_poly_auto_K0 x starts h]; unfold Gen._stats_poly_auto Gen._reduce_stats_nb; simp [h]
  · obtain ⟨order, Q', hd⟩ := exists_detrIsProj Qa L
    rw [gen_np_poly_auto_eq_ref_of hK hd hc, stats_poly_auto_eq_ref_of hK hd]

theorem np_eq_numba_poly_csd {x1 x2 : Arr ℝ} {starts : Arr ℕ} {L : ℕ} {w : Arr ℝ} {ω : ℝ} {Qa : Arr2 ℝ} {c : ℕ} (hc : 1 ≤ c) {u : ℕ → ℕ → ℝ} :
    Gen._stats_poly_csd_np x1 x2 starts L w ω Qa c u = Gen._stats_poly_csd x1 x2 starts L w ω Qa := by
  rcases starts.n.eq_zero_or_pos with h | hK
  · rw [gen_np_poly_csd_K0 x1 x2 starts h]; unfold Gen._stats_poly_csd Gen._reduce_stats_nb; simp [h]
  · obtain ⟨order, Q', hd⟩ := exists_detrIsProj Qa L
    rw [gen_np_poly_csd_eq_ref_of hK hd hc, stats_poly_csd_eq_ref_of hK hd]

set_option linter.unusedVariables false in -- `hp`, `hQ` not used (also below); the checks list both statements (`vk/props/C01.py: THEOREMS`)
theorem np_numba_agree_poly_auto (x : Arr ℝ) (starts : Arr ℕ) (L : ℕ) (w : Arr ℝ) (ω : ℝ) (Qa : Arr2 ℝ) (p : ℕ) (hp : 1 ≤ p)
    (hQ : Qa.m = p + 1) (c : ℕ) (hc : 1 ≤ c) (u : ℕ → ℕ → ℝ) :
    Gen._stats_poly_auto_np x starts L w ω Qa c u = Gen._stats_poly_auto x starts L w ω Qa :=
  np_eq_numba_poly_auto hc

set_option linter.unusedVariables false in
theorem np_numba_agree_poly_csd (x1 x2 : Arr ℝ) (starts : Arr ℕ) (L : ℕ) (w : Arr ℝ) (ω : ℝ) (Qa : Arr2 ℝ) (p : ℕ) (hp : 1 ≤ p)
    (hQ : Qa.m = p + 1) (c : ℕ) (hc : 1 ≤ c) (u : ℕ → ℕ → ℝ) :
    Gen._stats_poly_csd_np x1 x2 starts L w ω Qa c u = Gen._stats_poly_csd x1 x2 starts L w ω Qa :=
  np_eq_numba_poly_csd hc

/-- more than one chunk, the last one short -/
example : ∃ (starts : Arr ℕ) (c : ℕ), 1 ≤ c ∧ 2 ≤ starts.n ∧ c < starts.n := ⟨⟨3, fun j => 2 * j⟩, 2, by decide, by decide, by decide⟩

/-- any two chunkings of the same bin give the same statistics (stated for the most general kernel) -/
theorem np_poly_csd_chunk_invariant (x1 x2 : Arr ℝ) (starts : Arr ℕ) (L : ℕ) (w : Arr ℝ) (ω : ℝ) (Qa : Arr2 ℝ) (p : ℕ) (hp : 1 ≤ p)
    (hQ : Qa.m = p + 1) (c c' : ℕ) (hc : 1 ≤ c) (hc' : 1 ≤ c') (u u' : ℕ → ℕ → ℝ) :
    Gen._stats_poly_csd_np x1 x2 starts L w ω Qa c u = Gen._stats_poly_csd_np x1 x2 starts L w ω Qa c' u' := by
  rw [np_numba_agree_poly_csd x1 x2 starts L w ω Qa p hp hQ c hc u, np_numba_agree_poly_csd x1 x2 starts L w ω Qa p hp hQ c' hc' u']

/-- auto mode is the diagonal for the translated NumPy auto kernels: MYY = MXX = mu_r, mu_i = 0 -/
theorem np_auto_is_diag_win_only (x : Arr ℝ) (starts : Arr ℕ) (hK : 0 < starts.n) (L : ℕ) (w : Arr ℝ) (ω : ℝ) (c : ℕ) (hc : 1 ≤ c) (u : ℕ → ℕ → ℝ) :
    let r := Gen._stats_win_only_auto_np x starts L w ω c u
    r.2.1 = r.1 ∧ r.2.2.1 = r.1 ∧ r.2.2.2.1 = 0 := by
  rw [gen_np_win_only_auto_eq_ref x starts hK L w ω (fun _ _ => 0) c hc u]
  exact auto_is_diag _ _ _ _ _ _ hK _ _

theorem np_auto_is_diag_detrend0 (x : Arr ℝ) (starts : Arr ℕ) (hK : 0 < starts.n) (L : ℕ) (w : Arr ℝ) (ω : ℝ) (c : ℕ) (hc : 1 ≤ c) (u : ℕ → ℕ → ℝ) :
    let r := Gen._stats_detrend0_auto_np x starts L w ω c u
    r.2.1 = r.1 ∧ r.2.2.1 = r.1 ∧ r.2.2.2.1 = 0 := by
  rw [gen_np_detrend0_auto_eq_ref x starts hK L w ω (fun _ _ => 0) c hc u]
  exact auto_is_diag _ _ _ _ _ _ hK _ _

theorem np_auto_is_diag_poly (x : Arr ℝ) (starts : Arr ℕ) (hK : 0 < starts.n) (L : ℕ) (w : Arr ℝ) (ω : ℝ) (Qa : Arr2 ℝ) (p : ℕ) (hp : 1 ≤ p)
    (hQ : Qa.m = p + 1) (c : ℕ) (hc : 1 ≤ c) (u : ℕ → ℕ → ℝ) :
    let r := Gen._stats_poly_auto_np x starts L w ω Qa c u
    r.2.1 = r.1 ∧ r.2.2.1 = r.1 ∧ r.2.2.2.1 = 0 := by
  rw [gen_np_poly_auto_eq_ref x starts hK L w ω Qa p hp hQ c hc u]
  exact auto_is_diag _ _ _ _ _ _ hK _ _

/-- sign convention pinned on the translated NumPy cross kernels (one segment): (mu_r, mu_i) = X · conj Y with the forward DFT -/
theorem np_cross_is_X_conjY_win_only (x1 x2 : Arr ℝ) (starts : Arr ℕ) (h1 : starts.n = 1) (L : ℕ) (w : Arr ℝ) (ω : ℝ) (c : ℕ) (hc : 1 ≤ c) (u : ℕ → ℕ → ℝ) :
    let r := Gen._stats_win_only_csd_np x1 x2 starts L w ω c u
    (⟨r.2.2.1, r.2.2.2.1⟩ : ℂ) = Cx.toC (Model.segDFT (-1) (fun _ _ => 0) x1.get (starts.get 0) L w.get ω)
      * (starRingEnd ℂ) (Cx.toC (Model.segDFT (-1) (fun _ _ => 0) x2.get (starts.get 0) L w.get ω)) := by
  rw [gen_np_win_only_csd_eq_ref x1 x2 starts (by omega) L w ω (fun _ _ => 0) c hc u, h1]
  exact ref_cross_is_X_conjY _ _ _ _ _ _ _ _

theorem np_cross_is_X_conjY_detrend0 (x1 x2 : Arr ℝ) (starts : Arr ℕ) (h1 : starts.n = 1) (L : ℕ) (w : Arr ℝ) (ω : ℝ) (c : ℕ) (hc : 1 ≤ c) (u : ℕ → ℕ → ℝ) :
    let r := Gen._stats_detrend0_csd_np x1 x2 starts L w ω c u
    (⟨r.2.2.1, r.2.2.2.1⟩ : ℂ) = Cx.toC (Model.segDFT 0 (fun _ _ => 0) x1.get (starts.get 0) L w.get ω)
      * (starRingEnd ℂ) (Cx.toC (Model.segDFT 0 (fun _ _ => 0) x2.get (starts.get 0) L w.get ω)) := by
  rw [gen_np_detrend0_csd_eq_ref x1 x2 starts (by omega) L w ω (fun _ _ => 0) c hc u, h1]
  exact ref_cross_is_X_conjY _ _ _ _ _ _ _ _

theorem np_cross_is_X_conjY_poly (x1 x2 : Arr ℝ) (starts : Arr ℕ) (h1 : starts.n = 1) (L : ℕ) (w : Arr ℝ) (ω : ℝ) (Qa : Arr2 ℝ) (p : ℕ) (hp : 1 ≤ p)
    (hQ : Qa.m = p + 1) (c : ℕ) (hc : 1 ≤ c) (u : ℕ → ℕ → ℝ) :
    let r := Gen._stats_poly_csd_np x1 x2 starts L w ω Qa c u
    (⟨r.2.2.1, r.2.2.2.1⟩ : ℂ) = Cx.toC (Model.segDFT (p : ℤ) Qa.get x1.get (starts.get 0) L w.get ω)
      * (starRingEnd ℂ) (Cx.toC (Model.segDFT (p : ℤ) Qa.get x2.get (starts.get 0) L w.get ω)) := by
  rw [gen_np_poly_csd_eq_ref x1 x2 starts (by omega) L w ω Qa p hp hQ c hc u, h1]
  exact ref_cross_is_X_conjY _ _ _ _ _ _ _ _

example : ∃ starts : Arr ℕ, starts.n = 1 := ⟨⟨1, fun _ => 4⟩, rfl⟩

/-- M2 of every translated NumPy fallback is non-negative (stated for the most general kernel) -/
theorem np_poly_csd_M2_nonneg (x1 x2 : Arr ℝ) (starts : Arr ℕ) (hK : 0 < starts.n) (L : ℕ) (w : Arr ℝ) (ω : ℝ) (Qa : Arr2 ℝ) (p : ℕ) (hp : 1 ≤ p)
    (hQ : Qa.m = p + 1) (c : ℕ) (hc : 1 ≤ c) (u : ℕ → ℕ → ℝ) :
    0 ≤ (Gen._stats_poly_csd_np x1 x2 starts L w ω Qa c u).2.2.2.2 := by
  rw [gen_np_poly_csd_eq_ref x1 x2 starts hK L w ω Qa p hp hQ c hc u]
  exact reduce_M2_nonneg _ hK _ _ _ _

/-! ### the second route (not invoked; see the file head): on the unfolded kernel alone, the chunk loop through `NpK.filled_step`, each row by
  unfolding every NumPy combinator to nested finite sums compared with the model's up to commutativity; far dearer to check -/

namespace NpK

/-- orientation of the phase argument: `cos (n·a) = cos (a·n)` for a sample index `n` (so `1j*n*omega` and `1j*omega*n` agree) -/
theorem cos_natCast_mul (n : ℕ) (a : ℝ) : Real.cos ((n : ℝ) * a) = Real.cos (a * n) := by rw [mul_comm]
theorem sin_natCast_mul (n : ℕ) (a : ℝ) : Real.sin ((n : ℝ) * a) = Real.sin (a * n) := by rw [mul_comm]

theorem cx_mul_re (a b : Cx ℝ) : (a * b).re = a.re * b.re - a.im * b.im := Cx.mul_re _ _
theorem cx_mul_im (a b : Cx ℝ) : (a * b).im = a.re * b.im + a.im * b.re := Cx.mul_im _ _

end NpK

open Lean Elab Tactic Meta in
/-- name the local definition whose value is a `forRange` loop (after `extract_lets`) -/
elab "name_loop " id:ident : tactic => withMainContext do
  for d in (← getLCtx) do
    if let some v := d.value? then
      if v.getAppFn.isConstOf ``forRange then
        let g ← getMainGoal
        replaceMainGoal [← g.rename d.fvarId id.getId]
        return
  throwError "no local definition is a forRange loop"

/-- equality of two expressions built from nested finite sums of products, up to commutativity inside the summands -/
syntax "sum_ring" : tactic
macro_rules
  | `(tactic| sum_ring) => `(tactic| first
      | ring1
      | (apply Finset.sum_congr rfl; intro _ _; sum_ring)
      | (apply congrArg Neg.neg; sum_ring)
      | (apply congrArg₂ HSub.hSub <;> sum_ring)
      | (apply congrArg₂ HAdd.hAdd <;> sum_ring))

/-- the length of the vector stored by one chunk is the length of the slice it is stored into -/
macro "len_tac" : tactic => `(tactic| (
  simp (config := {zetaDelta := true}) only [Np.matvecC, Np.mulRow, Np.rowMul, Np.sub2, Np.subCol, Np.matmul,
    Gen._gather_segments, Np.take2, Np.outerAdd, Np.slice, NpK.sliceBound_natCast]
  omega))

/-- row `i` of a chunk's `(segs ⋯ * w) @ e` is the model's segment DFT (or its conjugate); the first listed lemma rewrites the row's
    position in the slice into its global segment index -/
macro "row_eq" "[" ts:Lean.Parser.Tactic.simpLemma,* "]" : tactic => `(tactic| (
  apply Cx.ext <;>
  ( simp (config := {zetaDelta := true}) only [Np.matvecC, Np.mulRow, Np.rowMul, Np.sub2, Np.subCol, Np.rowMean, Np.matmul, Np.transpose,
      Gen._gather_segments, Np.take2, Np.outerAdd, Np.slice, Np.arange, Np.arangeF, Np.expI, NpK.sliceBound_natCast,
      sumRange_eq_sum, RL.cos_eq, RL.sin_eq, RL.ofNat_eq, RL.zero_eq, RL.lit_one, RL.lit_zero,
      Model.segDFT, Cx.conj, one_mul, mul_one, neg_mul, mul_neg, Real.cos_neg, Real.sin_neg, zero_sub, neg_neg,
      NpK.cos_natCast_mul, NpK.sin_natCast_mul, $ts,*]
    <;> simp (config := {failIfUnchanged := false}) only [$ts,*, Finset.mul_sum, Finset.sum_mul, sub_mul, mul_sub,
      Finset.sum_sub_distrib, Finset.sum_neg_distrib]
    <;> sum_ring)))

/-- identify the generalised row value `z` (with `hz : <row i of (⋯) @ e> = z`) as one of two candidate model values -/
macro "row_cases" z:ident hz:ident "[" a:term "," b:term "]" "[" ts:Lean.Parser.Tactic.simpLemma,* "]" : tactic => `(tactic| (
  first
    | (have hz' : $z = $a := by rw [← $hz]; row_eq [$ts,*])
    | (have hz' : $z = $b := by rw [← $hz]; row_eq [$ts,*])
  clear $hz
  subst hz'))

/-- the statements after the chunk loop: means of the filled arrays and the mean squared scatter, against `Model.reduceStats` -/
macro "np_tail" "[" ms:Lean.Parser.Tactic.simpLemma,* "]" "[" gs:Lean.Parser.Tactic.simpLemma,* "]" : tactic => `(tactic| (
  simp (config := {zetaDelta := true, zeta := true}) only [$ms,*, sumRange_eq_sum, RL.ofNat_eq, RL.zero_eq, RL.lit_zero,
    decide_eq_true_eq, Prod.mk.injEq]
  simp (config := {failIfUnchanged := false}) only [Finset.sum_const_zero, zero_div, true_and, and_true, sub_self, mul_zero, add_zero]
  split_ifs with h2
  · refine NpK.mean_eq_of (by assumption) (fun j hj => ?_)
    simp only [$gs,*, hj]
    all_goals ring1
  · trivial))

/-- the whole equality proof of an auto kernel, after `unfold Gen.<kernel>`: `S j` is the model's DFT of segment `j` -/
macro "np_auto_proof" S:term "," starts:term "," c:term "," hK:term "," hc:term "," "[" ts:Lean.Parser.Tactic.simpLemma,* "]" : tactic => `(tactic| (
  extract_lets K
  rw [if_neg (by simpa [K] using Nat.pos_iff_ne_zero.mp $hK)]
  name_loop st
  have hloop : NpK.Filled ($starts).n $c (Np.rangeLen 0 ($starts).n $c) (fun j => Cx.normSq ($S j)) st := by
    refine forRange_inv (fun it (s : Arr ℝ) => NpK.Filled ($starts).n $c it (fun j => Cx.normSq ($S j)) s) _ _ _ (NpK.filled_zero _ _ _ _) ?_
    intro it s _ h
    refine NpK.filled_step h _ _ (by omega) (by simp [K]) _ (by len_tac) ?_
    intro i hi
    have hm : min (0 + it * $c) ($starts).n = 0 + it * $c := by simp only [K] at hi; omega
    dsimp only
    generalize hz : (Np.matvecC (α := ℝ) _ _).get i = z
    row_cases z hz [$S (0 + it * $c + i), Cx.conj ($S (0 + it * $c + i))] [hm, $ts,*]
    simp only [Cx.normSq, Cx.conj]
    all_goals ring1
  obtain ⟨hn, hget⟩ := NpK.filled_final $hc hloop
  clear_value st
  have hmean := NpK.mean_eq_of hn hget
  unfold Model.refStatsAuto Model.reduceStats
  np_tail [hmean] [hget]))

/-- the whole equality proof of a csd kernel, after `unfold Gen.<kernel>`: `S1 j`, `S2 j` are the model's DFTs of segment `j` of the two
    channels; each stored row value must be exactly `S1`/`S2` (no conjugates) -/
macro "np_csd_proof" S1:term "," S2:term "," starts:term "," c:term "," hK:term "," hc:term "," "[" ts:Lean.Parser.Tactic.simpLemma,* "]" : tactic => `(tactic| (
  extract_lets K
  rw [if_neg (by simpa [K] using Nat.pos_iff_ne_zero.mp $hK)]
  name_loop st
  have hloop : NpK.Filled ($starts).n $c (Np.rangeLen 0 ($starts).n $c) (fun j => Cx.normSq ($S1 j)) st.1
      ∧ NpK.Filled ($starts).n $c (Np.rangeLen 0 ($starts).n $c) (fun j => Cx.normSq ($S2 j)) st.2.1
      ∧ NpK.Filled ($starts).n $c (Np.rangeLen 0 ($starts).n $c) (fun j => ($S1 j * Cx.conj ($S2 j)).re) st.2.2.1
      ∧ NpK.Filled ($starts).n $c (Np.rangeLen 0 ($starts).n $c) (fun j => ($S1 j * Cx.conj ($S2 j)).im) st.2.2.2 := by
    refine forRange_inv (fun it (s : Arr ℝ × Arr ℝ × Arr ℝ × Arr ℝ) =>
      NpK.Filled ($starts).n $c it (fun j => Cx.normSq ($S1 j)) s.1 ∧ NpK.Filled ($starts).n $c it (fun j => Cx.normSq ($S2 j)) s.2.1
      ∧ NpK.Filled ($starts).n $c it (fun j => ($S1 j * Cx.conj ($S2 j)).re) s.2.2.1
      ∧ NpK.Filled ($starts).n $c it (fun j => ($S1 j * Cx.conj ($S2 j)).im) s.2.2.2) _ _ _
      ⟨NpK.filled_zero _ _ _ _, NpK.filled_zero _ _ _ _, NpK.filled_zero _ _ _ _, NpK.filled_zero _ _ _ _⟩ ?_
    intro it s _ h
    obtain ⟨h1, h2, h3, h4⟩ := h
    refine ⟨NpK.filled_step h1 _ _ (by omega) (by simp [K]) _ (by len_tac) ?_, NpK.filled_step h2 _ _ (by omega) (by simp [K]) _ (by len_tac) ?_,
      NpK.filled_step h3 _ _ (by omega) (by simp [K]) _ (by len_tac) ?_, NpK.filled_step h4 _ _ (by omega) (by simp [K]) _ (by len_tac) ?_⟩
    all_goals
      intro i hi
      have hm : min (0 + it * $c) ($starts).n = 0 + it * $c := by simp only [K] at hi; omega
      dsimp only
      generalize hz : (Np.matvecC (α := ℝ) _ _).get i = z
      row_cases z hz [$S1 (0 + it * $c + i), $S2 (0 + it * $c + i)] [hm, $ts,*]
      try (generalize hz2 : (Np.matvecC (α := ℝ) _ _).get i = z2
           row_cases z2 hz2 [$S1 (0 + it * $c + i), $S2 (0 + it * $c + i)] [hm, $ts,*])
      first | rfl | (simp only [Cx.normSq, Cx.conj, NpK.cx_mul_re, NpK.cx_mul_im]; all_goals ring1)
  obtain ⟨⟨hn1, hg1⟩, ⟨hn2, hg2⟩, ⟨hn3, hg3⟩, ⟨hn4, hg4⟩⟩ :=
    And.intro (NpK.filled_final $hc hloop.1) (And.intro (NpK.filled_final $hc hloop.2.1)
      (And.intro (NpK.filled_final $hc hloop.2.2.1) (NpK.filled_final $hc hloop.2.2.2)))
  clear_value st
  have hm1 := NpK.mean_eq_of hn1 hg1
  have hm2 := NpK.mean_eq_of hn2 hg2
  have hm3 := NpK.mean_eq_of hn3 hg3
  have hm4 := NpK.mean_eq_of hn4 hg4
  unfold Model.refStats Model.reduceStats
  np_tail [hm1, hm2, hm3, hm4] [hg1, hg2, hg3, hg4]))

#print axioms gen_gather_segments_spec
#print axioms gen_np_win_only_auto_eq_ref
#print axioms gen_np_win_only_csd_eq_ref
#print axioms gen_np_detrend0_auto_eq_ref
#print axioms gen_np_detrend0_csd_eq_ref
#print axioms gen_np_poly_auto_eq_ref
#print axioms gen_np_poly_csd_eq_ref
#print axioms gen_np_win_only_auto_K0
#print axioms gen_np_win_only_csd_K0
#print axioms gen_np_detrend0_auto_K0
#print axioms gen_np_detrend0_csd_K0
#print axioms gen_np_poly_auto_K0
#print axioms gen_np_poly_csd_K0
#print axioms gen_np_default_chunks_pos
#print axioms np_numba_agree_win_only_auto
#print axioms np_numba_agree_win_only_csd
#print axioms np_numba_agree_detrend0_auto
#print axioms np_numba_agree_detrend0_csd
#print axioms np_numba_agree_poly_auto
#print axioms np_numba_agree_poly_csd
#print axioms np_poly_csd_chunk_invariant
#print axioms np_auto_is_diag_win_only
#print axioms np_auto_is_diag_detrend0
#print axioms np_auto_is_diag_poly
#print axioms np_cross_is_X_conjY_win_only
#print axioms np_cross_is_X_conjY_detrend0
#print axioms np_cross_is_X_conjY_poly
#print axioms np_poly_csd_M2_nonneg
