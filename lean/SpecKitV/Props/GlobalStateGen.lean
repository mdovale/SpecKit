/-
  SpecKitV.Props.GlobalStateGen — the library has no state that outlives a call beyond the audited constant tables, and exactly the audited decorators
  (region GlobalState, regenerated from /repo each run; see vk/regions/global_state.py for what is listed and why).  The right-hand sides are the lists of
  the pinned source, audited by hand: JIT decorators with their flags (`parallel=True` only on the six segment-parallel kernels,
  never on the reducer or the helpers), `__all__`, and the two constant tables of flattop.py.  No memoiser, no module- or class-level container, no mutable
  default argument, no `global`, no store to a class attribute, no `setattr` anywhere in core / analysis / schedulers / utils / noise / dsp / systems.
  Proofs are `rfl` on string lists: they re-check the CURRENT source.
-/
import SpecKitV.Gen.GlobalState

namespace GlobalStateGen

theorem gen_globalState_core : Gen.globalState_core =
    ["func:_apply_detrend0_inplace_nb_mean:decorator-_njit(cache=True, fastmath=True)",
     "func:_apply_detrend0_inplace_nb_val:decorator-_njit(cache=True, fastmath=True)",
     "func:_apply_poly_detrend_inplace_nb_alpha:decorator-_njit(cache=True, fastmath=True)",
     "func:_apply_poly_detrend_inplace_nb_rowdot:decorator-_njit(cache=True, fastmath=True)",
     "func:_goertzel_real_imag:decorator-_njit(cache=True, fastmath=True)",
     "func:_reduce_stats_nb:decorator-_njit(cache=True, fastmath=True)",
     "func:_stats_detrend0_auto:decorator-_njit(parallel=True, fastmath=True, cache=True)",
     "func:_stats_detrend0_csd:decorator-_njit(parallel=True, fastmath=True, cache=True)",
     "func:_stats_poly_auto:decorator-_njit(parallel=True, fastmath=True, cache=True)",
     "func:_stats_poly_csd:decorator-_njit(parallel=True, fastmath=True, cache=True)",
     "func:_stats_win_only_auto:decorator-_njit(parallel=True, fastmath=True, cache=True)",
     "func:_stats_win_only_csd:decorator-_njit(parallel=True, fastmath=True, cache=True)",
     "module:__all__:mutable-List"] := rfl

theorem gen_globalState_core_cuda : Gen.globalState_core_cuda =
    ["func:_stats_detrend0_auto_cuda_kernel:decorator-cuda.jit",
     "func:_stats_detrend0_csd_cuda_kernel:decorator-cuda.jit",
     "func:_stats_poly_auto_cuda_kernel:decorator-cuda.jit",
     "func:_stats_poly_csd_cuda_kernel:decorator-cuda.jit",
     "func:_stats_win_only_auto_cuda_kernel:decorator-cuda.jit",
     "func:_stats_win_only_csd_cuda_kernel:decorator-cuda.jit",
     "module:__all__:mutable-List"] := rfl

theorem gen_globalState_analysis : Gen.globalState_analysis =
    [] := rfl

theorem gen_globalState_flattop : Gen.globalState_flattop =
    ["module:olap_dict:mutable-Dict",
     "module:win_dict:mutable-Dict"] := rfl

theorem gen_globalState_schedulers : Gen.globalState_schedulers =
    [] := rfl

theorem gen_globalState_utils : Gen.globalState_utils =
    [] := rfl

theorem gen_globalState_noise : Gen.globalState_noise =
    ["func:_numba_lfilter_cascade:decorator-numba.jit(nopython=True, cache=True)",
     "func:alpha:decorator-property",
     "func:fmax:decorator-property",
     "func:fmin:decorator-property",
     "func:fs:decorator-property",
     "func:rms:decorator-property"] := rfl

theorem gen_globalState_dsp : Gen.globalState_dsp =
    [] := rfl

theorem gen_globalState_systems : Gen.globalState_systems =
    [] := rfl

theorem gen_globalState_init : Gen.globalState_init =
    [] := rfl

end GlobalStateGen

#print axioms GlobalStateGen.gen_globalState_core
#print axioms GlobalStateGen.gen_globalState_core_cuda
#print axioms GlobalStateGen.gen_globalState_analysis
#print axioms GlobalStateGen.gen_globalState_flattop
#print axioms GlobalStateGen.gen_globalState_schedulers
#print axioms GlobalStateGen.gen_globalState_utils
#print axioms GlobalStateGen.gen_globalState_noise
#print axioms GlobalStateGen.gen_globalState_dsp
#print axioms GlobalStateGen.gen_globalState_systems
#print axioms GlobalStateGen.gen_globalState_init
