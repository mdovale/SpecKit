/-
  Props/NoiseGensGen — the machine-translated generator CLASSES of speckit/noise.py (Gen/NoiseGens.lean: `white_noise`, `red_noise`,
  `alpha_noise`, `pink_noise` as state machines over the stream `xi` of standard-normal draws, regenerated from the source on every
  run) ARE the hand models of Model/Noise.lean (`whiteSeries`, `redSeries`, `alphaSeries`, `getSample`) and Model/NoiseGens.lean
  (`redInit`, `alphaInit`, `settleRequests`); the chunk-invariance theorems of Lemmas/Chunking.lean hold of the TRANSLATED methods.

  `*View` reads the model state off an object (RNG cursor; `_zi[0]`; the sections described by `_a_coeffs`, `_b_coeffs`,
  `_zi_states`), `*Step` is the translated `get_series` with the returned array read as a list (a step function in the sense of
  `Model.runRequests`), `*Frame` collects the attributes no request touches (the model's parameters are read off it).
-/
import SpecKitV.RealInst
import SpecKitV.Gen.NoiseGens
import SpecKitV.Model.Noise
import SpecKitV.Model.NoiseGens
import SpecKitV.Lemmas.Chunking
import SpecKitV.Props.NoiseGen

-- some simp sets hold lemmas that serve another spelling of the source than the present one (a product with its operands swapped)
set_option linter.unusedSimpArgs false

namespace NoiseGensGen
open Model
variable {α : Type} [RealLike α]

omit [RealLike α] in
theorem runRequests_append_state {σ : Type} (step : σ → ℕ → List α × σ) (s : σ) (l1 l2 : List ℕ) :
    (runRequests step s (l1 ++ l2)).2 = (runRequests step (runRequests step s l1).2 l2).2 := by
  induction l1 generalizing s with
  | nil => rfl
  | cons n l1 ih => rw [List.cons_append, runRequests_cons, runRequests_cons, ih]

omit [RealLike α] in
/-- a `for _ in range(k): self.get_series(N)` loop is `k` requests of `N` -/
theorem forRange_requests {σ : Type} (step : σ → ℕ → List α × σ) (s : σ) (N k : ℕ) :
    forRange k s (fun _ t => (step t N).2) = (runRequests step s (List.replicate k N)).2 := by
  induction k with
  | zero => rw [forRange_zero]; rfl
  | succ k ih =>
    rw [forRange_succ, ih, List.replicate_succ', runRequests_append_state]
    rfl

omit [RealLike α] in
/-- refinement over a request sequence: a step function on objects that is the model's step on `view`, the model's parameters
    being read off a `frame` that no request changes (on the frames satisfying `ok`) -/
theorem runRequests_refine {σ τ Φ : Type} (step : σ → ℕ → List α × σ) (mstep : Φ → τ → ℕ → List α × τ) (view : σ → τ)
    (frame : σ → Φ) (ok : Φ → Prop)
    (h : ∀ o n, ok (frame o) → ((step o n).1, view (step o n).2) = mstep (frame o) (view o) n ∧ frame (step o n).2 = frame o)
    (o : σ) (hok : ok (frame o)) (ns : List ℕ) :
    ((runRequests step o ns).1, view (runRequests step o ns).2) = runRequests (mstep (frame o)) (view o) ns ∧
    frame (runRequests step o ns).2 = frame o := by
  induction ns generalizing o with
  | nil => exact ⟨rfl, rfl⟩
  | cons n ns ih =>
    obtain ⟨h1, h2⟩ := h o n hok
    obtain ⟨i1, i2⟩ := ih (step o n).2 (h2 ▸ hok)
    rw [runRequests_cons, runRequests_cons, ← h1, ← h2, ← i1]
    exact ⟨rfl, i2⟩

/-- `_settle_filter_state` over any `get_series`: the requests of `Model.settleRequests` -/
theorem settle_requests {σ : Type} (gs : σ → ℕ → Arr ℝ × σ) (fs fmin : ℝ) (o : σ) :
    let req : ℤ := RealLike.ceil (RealLike.ofSci 20 true 1 * fs / fmin)
    (if decide (req ≤ ((150000000 : ℕ) : ℤ)) then (gs o req.toNat).2
      else forRange (RealLike.ceil ((RealLike.ofInt req : ℝ) / RealLike.ofNat 150000000)).toNat o
        (fun _ s => (gs s 150000000).2))
      = (runRequests (fun o n => ((gs o n).1.toList, (gs o n).2)) o (Model.settleRequests fs fmin)).2 := by
  intro req
  have hreq : req = RealLike.ceil (RealLike.two * fs / fmin) := by simp only [req, RL.lit_two, RL.two_eq]
  unfold Model.settleRequests
  simp only [← hreq, Nat.cast_ofNat, decide_eq_true_eq]
  split_ifs
  · rfl
  · exact forRange_requests (fun o n => ((gs o n).1.toList, (gs o n).2)) o 150000000 _

omit [RealLike α] in
theorem toList_n (a : Arr α) : a.toList.length = a.n := by
  unfold Arr.toList
  rw [List.length_map, List.length_range]

/-- `np.array` of a list, read back -/
theorem toList_ofArray (l : List α) :
    (⟨l.toArray.size, fun i => l.toArray.getD i RealLike.zero⟩ : Arr α).toList = l := by
  refine Eq.trans (List.map_congr_left fun i _ => ?_) (List.range_map_getD l RealLike.zero)
  simp only [Array.getD_eq_getD_getElem?, List.getElem?_toArray, List.getD_eq_getElem?_getD]

omit [RealLike α] in
theorem toList_map (a : Arr α) (f : α → α) :
    (⟨a.n, fun i => f (a.get i)⟩ : Arr α).toList = a.toList.map f := by
  unfold Arr.toList
  rw [List.map_map]
  rfl

omit [RealLike α] in
/-- a non-empty buffer read as a list: `buf[0]`, then `buf[1:]` -/
theorem toList_slice1 (a : Arr α) (h : a.n ≠ 0) :
    a.toList = a.get 0 :: (NpNG.pySlice a (some (1 : Int)) none).toList := by
  obtain ⟨n, get⟩ := a
  obtain ⟨m, rfl⟩ : ∃ m, n = m + 1 := ⟨n - 1, by simp only at h; omega⟩
  have h1 : NpNG.sliceBound (m + 1) 1 = 1 := by
    show min 1 (m + 1) = 1
    omega
  unfold Arr.toList NpNG.pySlice
  simp only [h1, Nat.add_sub_cancel, List.range_succ_eq_map, List.map_cons, List.map_map, Nat.add_comm 1]
  rfl

def whiteView (o : Gen.white_noise α) : WhiteSt := ⟨o._rng.cur⟩
def redView (o : Gen.red_noise α) : RedSt α := ⟨whiteView o._whitenoise, o._zi.get 0⟩
def alphaView (o : Gen.alpha_noise α) : AlphaSt α :=
  ⟨whiteView o._whitenoise, sectionsOf o._a_coeffs o._b_coeffs o._zi_states⟩

def whiteStep (xi : ℕ → α) (o : Gen.white_noise α) (n : ℕ) : List α × Gen.white_noise α :=
  ((Gen.white_noise.get_series xi o n).1.toList, (Gen.white_noise.get_series xi o n).2)
def redStep (xi : ℕ → α) (o : Gen.red_noise α) (n : ℕ) : List α × Gen.red_noise α :=
  ((Gen.red_noise.get_series xi o n).1.toList, (Gen.red_noise.get_series xi o n).2)
def alphaStep (xi : ℕ → α) (o : Gen.alpha_noise α) (n : ℕ) : List α × Gen.alpha_noise α :=
  ((Gen.alpha_noise.get_series xi o n).1.toList, (Gen.alpha_noise.get_series xi o n).2)

/-- the parameters of a red generator: what no method changes after `__init__` (everything but the white source's cursor, `_zi`
    and the `get_sample` buffer) -/
def redFrame (o : Gen.red_noise α) :=
  (o._whitenoise._rms, o._scaling, o._a, o._b, o._fs, o._fmin, o._whitenoise._fs, o._whitenoise._buffer)
/-- likewise for a 1/f^alpha generator (everything but the cursor, `_zi_states` and the buffer) -/
def alphaFrame (o : Gen.alpha_noise α) :=
  (o._whitenoise._rms, o._scaling, o._a_coeffs, o._b_coeffs, o._num_spectra, o._fs, o._alpha, o._whitenoise._fs,
   o._whitenoise._buffer, o._fmin, o._fmax)

end NoiseGensGen

open NoiseGensGen Model

/-- `white_noise.__init__`: rms = sqrt(psd fs), a fresh generator at draw 0, an empty buffer -/
theorem gen_white_init_eq_model (xi : ℕ → ℝ) (fs psd : ℝ) :
    Gen.white_noise.__init__ xi fs psd
      = { _fs := fs, _rms := Model.whiteRms fs psd, _rng := ⟨0⟩, _buffer := NpNG.emptyArr } := by
  -- `np.sqrt(psd * f_sample)`, whichever way the product is written
  have h : (Gen.white_noise.__init__ xi fs psd)._rms = Model.whiteRms fs psd := congrArg Real.sqrt (by ring)
  exact congrArg (fun r => ({ _fs := fs, _rms := r, _rng := ⟨0⟩, _buffer := NpNG.emptyArr } : Gen.white_noise ℝ)) h

/-- the translated `white_noise.get_series` explicitly: the next `n` draws scaled by `_rms`; only the cursor moves -/
theorem gen_white_get_series_explicit (xi : ℕ → ℝ) (o : Gen.white_noise ℝ) (n : ℕ) :
    (Gen.white_noise.get_series xi o n).1.toList = (List.range n).map (fun i => o._rms * xi (o._rng.cur + i)) ∧
    (Gen.white_noise.get_series xi o n).1.n = n ∧
    (Gen.white_noise.get_series xi o n).2 = { o with _rng := ⟨o._rng.cur + n⟩ } := by
  refine ⟨?_, rfl, rfl⟩
  show (List.range n).map (fun i => (RealLike.ofSci 0 true 1 : ℝ) + o._rms * xi (o._rng.cur + i)) = _
  apply List.map_congr_left
  intro i _
  rw [RL.lit_zero, zero_add]

theorem gen_white_get_series_eq_model (xi : ℕ → ℝ) (o : Gen.white_noise ℝ) (n : ℕ) :
    ((Gen.white_noise.get_series xi o n).1.toList, whiteView (Gen.white_noise.get_series xi o n).2)
      = Model.whiteSeries xi o._rms (whiteView o) n := by
  obtain ⟨h1, _, h3⟩ := gen_white_get_series_explicit xi o n
  rw [h1, h3]
  rfl

theorem gen_white_get_series_fst_snd (xi : ℕ → ℝ) (o : Gen.white_noise ℝ) (n : ℕ) :
    (Gen.white_noise.get_series xi o n).1.toList = (whiteSeries xi o._rms (whiteView o) n).1 ∧
    whiteView (Gen.white_noise.get_series xi o n).2 = (whiteSeries xi o._rms (whiteView o) n).2 :=
  Prod.ext_iff.1 (gen_white_get_series_eq_model xi o n)

theorem whiteStep_additive (xi : ℕ → ℝ) : AdditiveStep (whiteStep xi) := by
  refine ⟨fun _ => rfl, fun o n m => ?_⟩
  simp only [whiteStep, fun o n => (gen_white_get_series_explicit xi o n).1, fun o n => (gen_white_get_series_explicit xi o n).2.2,
    List.range_add, List.map_append, List.map_map, Nat.add_assoc]
  rfl

/-- chunk invariance of the TRANSLATED `white_noise.get_series`: any sequence of requests (zeros and ones included) returns the
    samples of one request of the total length and leaves the same object -/
theorem gen_white_chunking (xi : ℕ → ℝ) (o : Gen.white_noise ℝ) (ns : List ℕ) :
    runRequests (whiteStep xi) o ns = whiteStep xi o ns.sum :=
  runRequests_of_additive _ (whiteStep_additive xi) o ns

namespace NoiseGensGen
variable {α : Type} [RealLike α]
/-- the first-order section `lfilter` is handed by `red_noise.get_series`: numerator `_a`, denominator `_b`, normalised by `_b[0]` -/
def redCoef (o : Gen.red_noise α) : α × α × α :=
  (o._a.get 0 / o._b.get 0, (if 1 < o._a.n then o._a.get 1 / o._b.get 0 else RealLike.zero), o._b.get 1 / o._b.get 0)
/-- that section run from the stored state `_zi[0]` over the next `n` white samples -/
def redRun (xi : ℕ → α) (o : Gen.red_noise α) (n : ℕ) : List α × α :=
  Model.sectionRun (redCoef o).1 (redCoef o).2.1 (redCoef o).2.2 (o._zi.get 0)
    (Gen.white_noise.get_series xi o._whitenoise n).1.toList
/-- the object a non-empty request leaves behind: the white source's cursor advanced, the returned filter state stored in `_zi` -/
def redAfter (xi : ℕ → α) (o : Gen.red_noise α) (n : ℕ) : Gen.red_noise α :=
  { o with _whitenoise := { o._whitenoise with _rng := ⟨o._whitenoise._rng.cur + n⟩ },
           _zi := ⟨1, fun _ => (redRun xi o n).2⟩ }
end NoiseGensGen

theorem redStep_pos (xi : ℕ → ℝ) (o : Gen.red_noise ℝ) {n : ℕ} (hn : n ≠ 0) :
    redStep xi o n = ((redRun xi o n).1.map (fun y => y * o._scaling), redAfter xi o n) ∧
    (Gen.red_noise.get_series xi o n).1.n = n := by
  have hwn : (Gen.white_noise.get_series xi o._whitenoise n).1.n = n := rfl
  -- `lfilter` on a non-empty block: the outputs of `redRun` as an array, its final state
  have hlf : NpNG.lfilter o._a o._b (Gen.white_noise.get_series xi o._whitenoise n).1 o._zi
      = (⟨(redRun xi o n).1.toArray.size, fun i => (redRun xi o n).1.toArray.getD i RealLike.zero⟩, ⟨1, fun _ => (redRun xi o n).2⟩) := by
    unfold NpNG.lfilter
    simp only [hwn, hn, if_false]
    rfl
  -- `return samples * self._scaling`: the factor is written to the right, whichever side the source has it on
  have hg : Gen.red_noise.get_series xi o n
      = (⟨(NpNG.lfilter o._a o._b (Gen.white_noise.get_series xi o._whitenoise n).1 o._zi).1.n,
          fun i => (NpNG.lfilter o._a o._b (Gen.white_noise.get_series xi o._whitenoise n).1 o._zi).1.get i * o._scaling⟩,
         { o with _whitenoise := (Gen.white_noise.get_series xi o._whitenoise n).2,
                  _zi := (NpNG.lfilter o._a o._b (Gen.white_noise.get_series xi o._whitenoise n).1 o._zi).2 }) := by
    simp only [Gen.red_noise.get_series, decide_eq_false hn, Bool.false_eq_true, if_false, mul_comm o._scaling]
  unfold redStep
  rw [hg, hlf]
  refine ⟨Prod.ext ((toList_map _ (fun y => y * o._scaling)).trans (congrArg _ (toList_ofArray _))) rfl, ?_⟩
  unfold redRun
  rw [List.size_toArray, Model.sectionRun_length, toList_n]
  exact hwn

theorem redStep_additive (xi : ℕ → ℝ) : AdditiveStep (redStep xi) := by
  have h0 : ∀ o, redStep xi o 0 = ([], o) := fun _ => rfl
  refine ⟨h0, fun o n m => ?_⟩
  by_cases hn : n = 0
  · subst hn
    rw [Nat.zero_add, h0]
    rfl
  by_cases hm : m = 0
  · subst hm
    rw [Nat.add_zero, h0, List.append_nil]
  rw [(redStep_pos xi o (n := n + m) (by omega)).1, (redStep_pos xi o hn).1, (redStep_pos xi _ hm).1]
  -- the run over n + m white samples is the run over n, then over m from the returned state
  have hw : (Gen.white_noise.get_series xi o._whitenoise (n + m)).1.toList
      = (Gen.white_noise.get_series xi o._whitenoise n).1.toList
        ++ (Gen.white_noise.get_series xi (redAfter xi o n)._whitenoise m).1.toList :=
    congrArg Prod.fst ((whiteStep_additive xi).2 o._whitenoise n m)
  have hrun : redRun xi o (n + m)
      = ((redRun xi o n).1 ++ (redRun xi (redAfter xi o n) m).1, (redRun xi (redAfter xi o n) m).2) := by
    unfold redRun
    rw [hw, Model.sectionRun_append]
    rfl
  have hafter : redAfter xi o (n + m) = redAfter xi (redAfter xi o n) m := by
    unfold redAfter
    rw [hrun]
    simp only [Nat.add_assoc]
    rfl
  rw [hafter, hrun, List.map_append]
  rfl

theorem gen_red_chunking (xi : ℕ → ℝ) (o : Gen.red_noise ℝ) (ns : List ℕ) :
    runRequests (redStep xi) o ns = redStep xi o ns.sum :=
  runRequests_of_additive _ (redStep_additive xi) o ns

/-- the hypotheses `o._a.n = 1`, `o._b.get 0 = 1` of the red-generator theorems below are satisfiable by a non-trivial object (and are
    established by the translated constructor: `gen_red_init_eq_model`) -/
example : ∃ o : Gen.red_noise ℝ, o._a.n = 1 ∧ o._b.get 0 = 1 ∧ o._b.get 1 ≠ 0 ∧ o._zi.get 0 ≠ 0 :=
  ⟨{ _buffer := NpNG.emptyArr, _fs := 10, _fmin := 1, _whitenoise := ⟨10, 3, ⟨5⟩, NpNG.emptyArr⟩, _scaling := 2,
     _a := NpNG.arrayOfList [7], _b := NpNG.arrayOfList [1, -(1 / 2)], _zi := NpNG.arrayOfList [4] },
   rfl, rfl, by show -(1 / 2 : ℝ) ≠ 0; norm_num, by show (4 : ℝ) ≠ 0; norm_num⟩

/-- translated `red_noise.get_series` = `Model.redSeries`, for every object whose `lfilter` arrays have the shape `__init__` gives them
    (`_a` of length 1, `_b[0] = 1`): `c = _a[0]`, `e = -_b[1]` -/
theorem gen_red_get_series_eq_model (xi : ℕ → ℝ) (o : Gen.red_noise ℝ) (n : ℕ) (ha : o._a.n = 1) (hb : o._b.get 0 = 1) :
    ((redStep xi o n).1, redView (redStep xi o n).2)
        = Model.redSeries xi o._whitenoise._rms (o._a.get 0) (-(o._b.get 1)) o._scaling (redView o) n ∧
    redFrame (redStep xi o n).2 = redFrame o ∧ (redStep xi o n).2._buffer = o._buffer := by
  by_cases hn : n = 0
  · subst hn
    exact ⟨rfl, rfl, rfl⟩
  rw [(redStep_pos xi o hn).1, Model.redSeries_pos hn]
  refine ⟨?_, rfl, rfl⟩
  have hc : redCoef o = (o._a.get 0, RealLike.zero, RealLike.zero - -(o._b.get 1)) := by
    unfold redCoef
    rw [ha, hb]
    simp
  simp only [redAfter, redView, redRun, hc, (gen_white_get_series_fst_snd xi o._whitenoise n).1]
  rfl

theorem alphaStep_explicit (xi : ℕ → ℝ) (o : Gen.alpha_noise ℝ) (n : ℕ) :
    alphaStep xi o n
      = (((Gen._numba_lfilter_cascade (Gen.white_noise.get_series xi o._whitenoise n).1 o._a_coeffs o._b_coeffs o._zi_states).1.toList).map
            (fun y => y * o._scaling),
         { o with _whitenoise := (Gen.white_noise.get_series xi o._whitenoise n).2,
                  _zi_states := (Gen._numba_lfilter_cascade (Gen.white_noise.get_series xi o._whitenoise n).1
                                   o._a_coeffs o._b_coeffs o._zi_states).2 }) := by
  -- `return samples * self._scaling`: the factor is written to the right, whichever side the source has it on
  simp only [alphaStep, Gen.alpha_noise.get_series, mul_comm o._scaling]
  exact Prod.ext (toList_map _ (fun y => y * o._scaling)) rfl

/-- translated `alpha_noise.get_series` = `Model.alphaSeries` on the sections described by `_a_coeffs`, `_b_coeffs`, `_zi_states`
    (all objects, all sizes), and nothing but the white source's cursor and `_zi_states` changes -/
theorem gen_alpha_get_series_eq_model (xi : ℕ → ℝ) (o : Gen.alpha_noise ℝ) (n : ℕ) :
    ((alphaStep xi o n).1, alphaView (alphaStep xi o n).2)
        = Model.alphaSeries xi o._whitenoise._rms o._scaling (alphaView o) n ∧
    alphaFrame (alphaStep xi o n).2 = alphaFrame o ∧ (alphaStep xi o n).2._buffer = o._buffer := by
  rw [alphaStep_explicit, Model.alphaSeries_eq]
  obtain ⟨hwl, hws⟩ := gen_white_get_series_fst_snd xi o._whitenoise n
  obtain ⟨h1, _, h2⟩ := NoiseGen.cascade_core (Gen.white_noise.get_series xi o._whitenoise n).1 o._a_coeffs o._b_coeffs o._zi_states
  refine ⟨?_, rfl, rfl⟩
  rw [h1, hwl]
  simp only [alphaView, h2, hws, hwl]

theorem gen_alpha_requests_eq_model (xi : ℕ → ℝ) (o : Gen.alpha_noise ℝ) (ns : List ℕ) :
    (runRequests (alphaStep xi) o ns).1 = (runRequests (Model.alphaSeries xi o._whitenoise._rms o._scaling) (alphaView o) ns).1 ∧
    alphaView (runRequests (alphaStep xi) o ns).2
        = (runRequests (Model.alphaSeries xi o._whitenoise._rms o._scaling) (alphaView o) ns).2 ∧
    alphaFrame (runRequests (alphaStep xi) o ns).2 = alphaFrame o ∧ (runRequests (alphaStep xi) o ns).2._buffer = o._buffer := by
  obtain ⟨h1, h2⟩ := runRequests_refine (alphaStep xi) (fun φ => Model.alphaSeries xi φ.1.1 φ.1.2.1) alphaView
    (fun o => (alphaFrame o, o._buffer)) (fun _ => True)
    (fun o' n _ => by
      obtain ⟨e1, e2, e3⟩ := gen_alpha_get_series_eq_model xi o' n
      exact ⟨e1, Prod.ext e2 e3⟩)
    o trivial ns
  exact ⟨congrArg Prod.fst h1, congrArg Prod.snd h1, congrArg Prod.fst h2, congrArg Prod.snd h2⟩

/-- chunk invariance of the TRANSLATED `alpha_noise.get_series` (hence of `pink_noise`, which is the same definitions): the samples
    of any request sequence are those of one request of the total length, the filter states (sections) left behind coincide, and
    nothing else in the object differs -/
theorem gen_alpha_chunking (xi : ℕ → ℝ) (o : Gen.alpha_noise ℝ) (ns : List ℕ) :
    (runRequests (alphaStep xi) o ns).1 = (alphaStep xi o ns.sum).1 ∧
    alphaView (runRequests (alphaStep xi) o ns).2 = alphaView (alphaStep xi o ns.sum).2 ∧
    alphaFrame (runRequests (alphaStep xi) o ns).2 = alphaFrame (alphaStep xi o ns.sum).2 ∧
    (runRequests (alphaStep xi) o ns).2._buffer = (alphaStep xi o ns.sum).2._buffer := by
  obtain ⟨s1, s2, s3, s4⟩ := gen_alpha_requests_eq_model xi o ns
  obtain ⟨e1, e2, e3⟩ := gen_alpha_get_series_eq_model xi o ns.sum
  rw [Model.alpha_chunking] at s1 s2
  exact ⟨s1.trans (congrArg Prod.fst e1).symm, s2.trans (congrArg Prod.snd e1).symm, s3.trans e2.symm, s4.trans e3.symm⟩

namespace NoiseGensGen
variable {α : Type} [RealLike α]

/-- `k` successive calls of a translated `get_sample`: the returned samples and the object left behind -/
def genSampleRun {σ : Type} (gs : σ → α × σ) : ℕ → σ → List α × σ
  | 0, o => ([], o)
  | k + 1, o => ((gs o).1 :: (genSampleRun gs k (gs o).2).1, (genSampleRun gs k (gs o).2).2)

/-- the one body the translated `get_sample` methods share, over the class's refill (`get_series` at the buffer size) and its
    `_buffer` attribute: refill when empty, return `buffer[0]`, keep `buffer[1:]` -/
def getSampleOf {σ : Type} (series : σ → Arr α × σ) (buf : σ → Arr α) (setBuf : σ → Arr α → σ) (o : σ) : α × σ :=
  let o1 := if decide ((buf o).n = 0) then setBuf (series o).2 (series o).1 else o
  ((buf o1).get 0, setBuf o1 (NpNG.pySlice (buf o1) (some (1 : Int)) none))

omit [RealLike α] in
/-- it is `Model.getSample` on (model state, unread buffer), and leaves alone whatever (`frame`) the refill leaves alone -/
theorem getSampleOf_eq_model {σ τ Φ : Type} {B : ℕ} (hB : B ≠ 0) {mstep : τ → ℕ → List α × τ} (view : σ → τ) (frame : σ → Φ)
    {series : σ → Arr α × σ} {buf : σ → Arr α} {setBuf : σ → Arr α → σ} {o : σ}
    (hbuf : ∀ o b, buf (setBuf o b) = b) (hview : ∀ o b, view (setBuf o b) = view o) (hfr : ∀ o b, frame (setBuf o b) = frame o)
    (hs : ((series o).1.toList, view (series o).2) = mstep (view o) B) (hn : (series o).1.n = B)
    (hf : frame (series o).2 = frame o) :
    Model.getSample mstep B (view o, (buf o).toList)
        = (some (getSampleOf series buf setBuf o).1,
            (view (getSampleOf series buf setBuf o).2, (buf (getSampleOf series buf setBuf o).2).toList)) ∧
    frame (getSampleOf series buf setBuf o).2 = frame o := by
  unfold getSampleOf Model.getSample
  by_cases h0 : (buf o).n = 0
  · have hnil : (buf o).toList = [] := by
      unfold Arr.toList
      rw [h0]
      rfl
    simp only [h0, decide_true, if_true, hbuf, hview, hfr, hf, hnil, ← hs, toList_slice1 (series o).1 (hn ▸ hB), and_self]
  · simp only [h0, decide_false, Bool.false_eq_true, if_false, hbuf, hview, hfr, toList_slice1 (buf o) h0, and_self]

omit [RealLike α] in
/-- `k` translated `get_sample` calls are `Model.sampleRun` of the model, when every single call is `Model.getSample` -/
theorem sampleRun_sim {σ τ : Type} {B : ℕ} {mstep : τ → ℕ → List α × τ} (view : σ → τ) (buf : σ → Arr α)
    (gs : σ → α × σ) (P : σ → Prop)
    (h : ∀ o, P o → Model.getSample mstep B (view o, (buf o).toList) = (some (gs o).1, (view (gs o).2, (buf (gs o).2).toList))
      ∧ P (gs o).2)
    (k : ℕ) (o : σ) (hP : P o) :
    (Model.sampleRun mstep B k (view o, (buf o).toList)).1 = (genSampleRun gs k o).1.map some := by
  induction k generalizing o with
  | zero => rfl
  | succ k ih =>
    obtain ⟨h1, h2⟩ := h o hP
    rw [Model.sampleRun_succ, h1]
    rw [ih (gs o).2 h2]
    rfl

end NoiseGensGen

/-- the refill size of `get_sample` is positive (otherwise `self._buffer[0]` raises IndexError on the empty refill) -/
theorem gen_buffer_size_pos : 0 < Gen._DEFAULT_BUFFER_SIZE := by
  unfold Gen._DEFAULT_BUFFER_SIZE
  omega

-- the refill size is used as an opaque positive number from here on (unfolding the literal 4096 in unary is neither needed nor cheap)
attribute [local irreducible] Gen._DEFAULT_BUFFER_SIZE

/- The three `get_sample` bodies are `getSampleOf` by unfolding alone (`:= rfl` against the generated text): a change of the Python method
   shows up in these three lemmas as a type mismatch, and nowhere else. -/
theorem white_get_sample_eq (xi : ℕ → ℝ) (o : Gen.white_noise ℝ) :
    Gen.white_noise.get_sample xi o = getSampleOf (fun o => Gen.white_noise.get_series xi o Gen._DEFAULT_BUFFER_SIZE) (·._buffer)
      (fun o b => { o with _buffer := b }) o := rfl
theorem red_get_sample_eq (xi : ℕ → ℝ) (o : Gen.red_noise ℝ) :
    Gen.red_noise.get_sample xi o = getSampleOf (fun o => Gen.red_noise.get_series xi o Gen._DEFAULT_BUFFER_SIZE) (·._buffer)
      (fun o b => { o with _buffer := b }) o := rfl
theorem alpha_get_sample_eq (xi : ℕ → ℝ) (o : Gen.alpha_noise ℝ) :
    Gen.alpha_noise.get_sample xi o = getSampleOf (fun o => Gen.alpha_noise.get_series xi o Gen._DEFAULT_BUFFER_SIZE) (·._buffer)
      (fun o b => { o with _buffer := b }) o := rfl

/-- translated `white_noise.get_sample` = `Model.getSample` over `Model.whiteSeries` with the refill size of the source -/
theorem gen_white_get_sample_eq_model (xi : ℕ → ℝ) (o : Gen.white_noise ℝ) :
    Model.getSample (Model.whiteSeries xi o._rms) Gen._DEFAULT_BUFFER_SIZE (whiteView o, o._buffer.toList)
        = (some (Gen.white_noise.get_sample xi o).1,
            (whiteView (Gen.white_noise.get_sample xi o).2, (Gen.white_noise.get_sample xi o).2._buffer.toList)) ∧
    (Gen.white_noise.get_sample xi o).2._rms = o._rms := by
  obtain ⟨_, g2, g3⟩ := gen_white_get_series_explicit xi o Gen._DEFAULT_BUFFER_SIZE
  rw [white_get_sample_eq]
  exact getSampleOf_eq_model gen_buffer_size_pos.ne' whiteView (·._rms) (fun _ _ => rfl) (fun _ _ => rfl) (fun _ _ => rfl)
    (gen_white_get_series_eq_model xi o _) g2 (by rw [g3])

/-- `k` calls of the translated `get_sample` on a freshly constructed `white_noise` return the first `k` samples of its stream:
    `rms * xi 0, rms * xi 1, …` (across refills of the buffer) -/
theorem gen_white_sample_runs (xi : ℕ → ℝ) (fs psd : ℝ) (k : ℕ) :
    (genSampleRun (Gen.white_noise.get_sample xi) k (Gen.white_noise.__init__ xi fs psd)).1
      = (List.range k).map (fun i => Model.whiteRms fs psd * xi i) := by
  -- the constructor leaves cursor 0 and an empty buffer; a call keeps `_rms`
  have hsim : (Model.sampleRun (Model.whiteSeries xi (Model.whiteRms fs psd)) Gen._DEFAULT_BUFFER_SIZE k (⟨0⟩, [])).1 = _ :=
    sampleRun_sim whiteView (·._buffer) (Gen.white_noise.get_sample xi) (fun o => o._rms = Model.whiteRms fs psd)
      (fun o hP => hP ▸ gen_white_get_sample_eq_model xi o) k (Gen.white_noise.__init__ xi fs psd)
      (congrArg (·._rms) (gen_white_init_eq_model xi fs psd))
  rw [Model.white_sample_runs xi _ _ gen_buffer_size_pos k] at hsim
  exact List.map_injective_iff.2 (Option.some_injective ℝ) (hsim.symm.trans (List.map_map ..).symm)

/-- translated `red_noise.get_sample` (the inherited `_base_colored_noise.get_sample` with `self.get_series` bound to the red
    generator) = `Model.getSample` over `Model.redSeries` -/
theorem gen_red_get_sample_eq_model (xi : ℕ → ℝ) (o : Gen.red_noise ℝ) (ha : o._a.n = 1) (hb : o._b.get 0 = 1) :
    Model.getSample (Model.redSeries xi o._whitenoise._rms (o._a.get 0) (-(o._b.get 1)) o._scaling) Gen._DEFAULT_BUFFER_SIZE
          (redView o, o._buffer.toList)
        = (some (Gen.red_noise.get_sample xi o).1,
            (redView (Gen.red_noise.get_sample xi o).2, (Gen.red_noise.get_sample xi o).2._buffer.toList)) ∧
    redFrame (Gen.red_noise.get_sample xi o).2 = redFrame o := by
  obtain ⟨hm, hf, _⟩ := gen_red_get_series_eq_model xi o Gen._DEFAULT_BUFFER_SIZE ha hb
  rw [red_get_sample_eq]
  exact getSampleOf_eq_model gen_buffer_size_pos.ne' redView redFrame (fun _ _ => rfl) (fun _ _ => rfl) (fun _ _ => rfl) hm
    (redStep_pos xi o gen_buffer_size_pos.ne').2 hf

theorem gen_alpha_get_series_n (xi : ℕ → ℝ) (o : Gen.alpha_noise ℝ) (n : ℕ) :
    (Gen.alpha_noise.get_series xi o n).1.n = n :=
  (NoiseGen.cascade_core (Gen.white_noise.get_series xi o._whitenoise n).1 o._a_coeffs o._b_coeffs o._zi_states).2.1

/-- translated `alpha_noise.get_sample` (= `pink_noise.get_sample`) = `Model.getSample` over `Model.alphaSeries` -/
theorem gen_alpha_get_sample_eq_model (xi : ℕ → ℝ) (o : Gen.alpha_noise ℝ) :
    Model.getSample (Model.alphaSeries xi o._whitenoise._rms o._scaling) Gen._DEFAULT_BUFFER_SIZE
          (alphaView o, o._buffer.toList)
        = (some (Gen.alpha_noise.get_sample xi o).1,
            (alphaView (Gen.alpha_noise.get_sample xi o).2, (Gen.alpha_noise.get_sample xi o).2._buffer.toList)) ∧
    alphaFrame (Gen.alpha_noise.get_sample xi o).2 = alphaFrame o := by
  obtain ⟨hm, hf, _⟩ := gen_alpha_get_series_eq_model xi o Gen._DEFAULT_BUFFER_SIZE
  rw [alpha_get_sample_eq]
  exact getSampleOf_eq_model gen_buffer_size_pos.ne' alphaView alphaFrame (fun _ _ => rfl) (fun _ _ => rfl) (fun _ _ => rfl) hm
    (gen_alpha_get_series_n xi o _) hf

theorem gen_red_settle_requests (xi : ℕ → ℝ) (o : Gen.red_noise ℝ) :
    (Gen.red_noise._settle_filter_state xi o).2
      = (runRequests (redStep xi) o (Model.settleRequests o._fs o._fmin)).2 :=
  settle_requests (Gen.red_noise.get_series xi) o._fs o._fmin o

/-- any request sequence served by the translated `red_noise.get_series` is the model's, on objects of the shape `__init__` builds -/
theorem gen_red_requests_eq_model (xi : ℕ → ℝ) (o : Gen.red_noise ℝ) (ha : o._a.n = 1) (hb : o._b.get 0 = 1) (ns : List ℕ) :
    (runRequests (redStep xi) o ns).1
        = (runRequests (Model.redSeries xi o._whitenoise._rms (o._a.get 0) (-(o._b.get 1)) o._scaling) (redView o) ns).1 ∧
    redView (runRequests (redStep xi) o ns).2
        = (runRequests (Model.redSeries xi o._whitenoise._rms (o._a.get 0) (-(o._b.get 1)) o._scaling) (redView o) ns).2 ∧
    redFrame (runRequests (redStep xi) o ns).2 = redFrame o ∧ (runRequests (redStep xi) o ns).2._buffer = o._buffer := by
  obtain ⟨h1, h2⟩ := runRequests_refine (redStep xi)
    -- `φ = (redFrame o, o._buffer)`: `_rms`, `_scaling`, `_a`, `_b` are the first four components of the frame
    (fun φ => Model.redSeries xi φ.1.1 (φ.1.2.2.1.get 0) (-(φ.1.2.2.2.1.get 1)) φ.1.2.1) redView
    (fun o => (redFrame o, o._buffer)) (fun φ => φ.1.2.2.1.n = 1 ∧ φ.1.2.2.2.1.get 0 = 1)
    (fun o' n hok => by
      obtain ⟨e1, e2, e3⟩ := gen_red_get_series_eq_model xi o' n hok.1 hok.2
      exact ⟨e1, Prod.ext e2 e3⟩)
    o ⟨ha, hb⟩ ns
  exact ⟨congrArg Prod.fst h1, congrArg Prod.snd h1, congrArg Prod.fst h2, congrArg Prod.snd h2⟩

theorem gen_red_settle_eq_model (xi : ℕ → ℝ) (o : Gen.red_noise ℝ) (ha : o._a.n = 1) (hb : o._b.get 0 = 1) :
    redView (Gen.red_noise._settle_filter_state xi o).2
      = (runRequests (Model.redSeries xi o._whitenoise._rms (o._a.get 0) (-(o._b.get 1)) o._scaling) (redView o)
          (Model.settleRequests o._fs o._fmin)).2 ∧
    redFrame (Gen.red_noise._settle_filter_state xi o).2 = redFrame o ∧
    (Gen.red_noise._settle_filter_state xi o).2._buffer = o._buffer := by
  rw [gen_red_settle_requests]
  obtain ⟨_, h2, h3, h4⟩ := gen_red_requests_eq_model xi o ha hb (Model.settleRequests o._fs o._fmin)
  exact ⟨h2, h3, h4⟩

theorem gen_red_init_true (xi : ℕ → ℝ) (fs fmin : ℝ) :
    Gen.red_noise.__init__ xi fs fmin true
      = (Gen.red_noise._settle_filter_state xi (Gen.red_noise.__init__ xi fs fmin false)).2 := rfl

/-- `red_noise.__init__` without settling: parameters, shapes, ONE draw consumed, `_zi = lfilter_zi * (rms * xi 0)` -/
theorem gen_red_init_false (xi : ℕ → ℝ) (fs fmin : ℝ) :
    let o := Gen.red_noise.__init__ xi fs fmin false
    redView o = Model.redInit xi fs fmin false ∧
    o._whitenoise._rms = Model.whiteRms fs RealLike.one ∧ o._a.get 0 = Model.redC fmin ∧ -(o._b.get 1) = Model.redE fs fmin ∧
    o._scaling = Model.redScaling fs fmin ∧ o._a.n = 1 ∧ o._b.get 0 = 1 ∧ o._buffer.n = 0 ∧ o._fs = fs ∧ o._fmin = fmin := by
  intro o
  -- the parameters first; the view (`_zi = lfilter_zi([c], [1, -e]) * normal(0, rms)`, one draw consumed) is then the model's
  have ho : o = Gen.red_noise.__init__ xi fs fmin false := rfl
  -- (in `_zi = zi_unscaled * initial_random_val` the draw is written to the right, whichever side the source has it on)
  simp only [Gen.red_noise.__init__, Bool.false_eq_true, if_false, mul_comm (NpNG.normal1 _ _ _ _).1] at ho
  have hr : o._whitenoise._rms = Model.whiteRms fs RealLike.one := by
    simp only [ho, gen_white_init_eq_model, RL.lit_one, RL.one_eq]
  have ha : o._a.get 0 = Model.redC fmin := by
    simp only [ho, NpNG.arrayOfList, Model.redC, RL.lit_two, RL.two_eq, List.getD_cons_zero]
  have hb : o._b.get 1 = -Model.redE fs fmin := by
    simp only [ho, NpNG.arrayOfList, Model.redE, RL.lit_two, RL.two_eq, List.getD_cons_succ, List.getD_cons_zero, neg_mul]
  have hb0 : o._b.get 0 = 1 := by
    simp only [ho, NpNG.arrayOfList, RL.lit_one, List.getD_cons_zero]
  have hs : o._scaling = Model.redScaling fs fmin := by
    simp only [ho, Model.redScaling, RL.lit_one, RL.one_eq, mul_comm]
  refine ⟨?_, hr, ha, by rw [hb, neg_neg], hs, rfl, hb0, rfl, rfl, rfl⟩
  have hz : o._zi.get 0 = Model.redC fmin * Model.redE fs fmin / (RealLike.one - Model.redE fs fmin)
      * (Model.whiteRms fs RealLike.one * xi 0) := by
    have e : o._zi.get 0 = (NpNG.lfilter_zi o._a o._b).get 0 * (RealLike.ofSci 0 true 1 + o._whitenoise._rms * xi 0) := by
      rw [ho]; rfl
    have hn : ¬ 1 < o._a.n := by rw [ho]; exact lt_irrefl 1
    rw [e, hr, RL.lit_zero]
    simp only [NpNG.lfilter_zi, ha, hb, hb0, if_neg hn, RL.zero_eq, RL.one_eq]
    ring
  have hc : o._whitenoise._rng.cur = 1 := by rw [ho]; rfl
  show (⟨⟨o._whitenoise._rng.cur⟩, o._zi.get 0⟩ : RedSt ℝ) = _
  rw [hz, hc]
  rfl

/-- `red_noise.__init__` = `Model.redInit`: the model state the constructor leaves (cursor, `_zi`), the generator parameters, and the
    shape facts the request theorems assume; with `init_filter` the settling requests have been served -/
theorem gen_red_init_eq_model (xi : ℕ → ℝ) (fs fmin : ℝ) (init : Bool) :
    let o := Gen.red_noise.__init__ xi fs fmin init
    redView o = Model.redInit xi fs fmin init ∧
    o._whitenoise._rms = Model.whiteRms fs RealLike.one ∧ o._a.get 0 = Model.redC fmin ∧ -(o._b.get 1) = Model.redE fs fmin ∧
    o._scaling = Model.redScaling fs fmin ∧ o._a.n = 1 ∧ o._b.get 0 = 1 ∧ o._buffer.n = 0 ∧ o._fs = fs ∧ o._fmin = fmin := by
  cases init with
  | false => exact gen_red_init_false xi fs fmin
  | true =>
    -- settling changes neither the frame nor the buffer, so the parameters are those of the unsettled object
    rw [gen_red_init_true]
    intro o
    obtain ⟨f1, f2, f3, f4, f5, f6, f7, f8, f9, f10⟩ := gen_red_init_false xi fs fmin
    obtain ⟨s1, s2, s3⟩ := gen_red_settle_eq_model xi (Gen.red_noise.__init__ xi fs fmin false) f6 f7
    rw [f2, f3, f4, f5, f9, f10, f1] at s1
    simp only [redFrame, Prod.mk.injEq] at s2
    obtain ⟨hr, hs, haa, hbb, hfs, hfm, -, -⟩ := s2
    exact ⟨s1, hr.trans f2, haa ▸ f3, hbb ▸ f4, hs.trans f5, haa ▸ f6, hbb ▸ f7, (congrArg Arr.n s3).trans f8, hfs.trans f9,
      hfm.trans f10⟩

example : ∃ o : Gen.red_noise ℝ, o._a.n = 1 ∧ o._b.get 0 = 1 ∧ o._scaling = 1 / (10 * 2) := by
  obtain ⟨-, -, -, -, hs, ha, hb, -⟩ := gen_red_init_false (fun i => (i : ℝ) - 3) 10 2
  exact ⟨_, ha, hb, hs.trans (by simp [Model.redScaling])⟩

/-- a freshly constructed red generator serving any request sequence: the samples are those of ONE model request of the total length
    from `Model.redInit` (chunk invariance from the constructor on, through the translated `__init__` and `get_series`) -/
theorem gen_red_stream_chunking (xi : ℕ → ℝ) (fs fmin : ℝ) (init : Bool) (ns : List ℕ) :
    (runRequests (redStep xi) (Gen.red_noise.__init__ xi fs fmin init) ns).1
      = (Model.redSeries xi (Model.whiteRms fs RealLike.one) (Model.redC fmin) (Model.redE fs fmin) (Model.redScaling fs fmin)
          (Model.redInit xi fs fmin init) ns.sum).1 := by
  obtain ⟨f1, f2, f3, f4, f5, f6, f7, _⟩ := gen_red_init_eq_model xi fs fmin init
  obtain ⟨h1, _⟩ := gen_red_requests_eq_model xi (Gen.red_noise.__init__ xi fs fmin init) f6 f7 ns
  rw [h1, f2, f3, f4, f5, f1, Model.red_chunking]

theorem gen_alpha_settle_requests (xi : ℕ → ℝ) (o : Gen.alpha_noise ℝ) :
    (Gen.alpha_noise._settle_filter_state xi o).2
      = (runRequests (alphaStep xi) o (Model.settleRequests o._fs o._fmin)).2 :=
  settle_requests (Gen.alpha_noise.get_series xi) o._fs o._fmin o

theorem gen_alpha_init_true (xi : ℕ → ℝ) (fs fmin fmax alpha : ℝ) (nspec : ℕ) (fminv fmaxv : Arr ℝ) :
    Gen.alpha_noise.__init__ xi fs fmin fmax alpha true nspec fminv fmaxv
      = (Gen.alpha_noise._settle_filter_state xi (Gen.alpha_noise.__init__ xi fs fmin fmax alpha false nspec fminv fmaxv)).2 := rfl

/-- `alpha_noise.__init__` without settling: the sections are those of `Model.filterCoeffs` on the design's corner frequencies with
    the stored denominator coefficient `-b1` and zero state (`_a_coeffs = [a0 a1]`, `_b_coeffs = [1 -b1]`, `_zi_states = 0`);
    no draw is consumed -/
theorem gen_alpha_init_false (xi : ℕ → ℝ) (fs fmin fmax alpha : ℝ) (nspec : ℕ) (fminv fmaxv : Arr ℝ) :
    let o := Gen.alpha_noise.__init__ xi fs fmin fmax alpha false nspec fminv fmaxv
    alphaView o = Model.alphaInit xi fs alpha fminv fmaxv false ∧
    o._whitenoise._rms = Model.whiteRms fs RealLike.one ∧ o._scaling = Model.alphaScaling alpha fmaxv ∧
    o._buffer.n = 0 ∧ o._fs = fs ∧ o._fmin = fminv.get 0 := by
  intro o
  refine ⟨?_, ?_, ?_, rfl, rfl, rfl⟩
  · show (⟨⟨0⟩, sectionsOf o._a_coeffs o._b_coeffs o._zi_states⟩ : AlphaSt ℝ) = ⟨⟨0⟩, Model.alphaSecs fs fminv fmaxv⟩
    congr 1
    unfold sectionsOf Model.alphaSecs
    apply List.map_congr_left
    intro i _
    simp only [o, Gen.alpha_noise.__init__, NpNG.vstack2T, NpNG.zeros2, gen_filter_coeffs_eq_model, if_true, one_ne_zero, if_false,
      RL.zero_eq, Bool.false_eq_true]
  · simp only [o, Gen.alpha_noise.__init__, gen_white_init_eq_model, Bool.false_eq_true, if_false, RL.lit_one, RL.one_eq]
  · simp only [o, Gen.alpha_noise.__init__, Model.alphaScaling, Np.pyIndex_neg_one, RL.lit_one, RL.lit_two, RL.one_eq, RL.two_eq,
      Bool.false_eq_true, if_false]

theorem gen_alpha_settle_eq_model (xi : ℕ → ℝ) (o : Gen.alpha_noise ℝ) :
    alphaView (Gen.alpha_noise._settle_filter_state xi o).2
      = (runRequests (Model.alphaSeries xi o._whitenoise._rms o._scaling) (alphaView o) (Model.settleRequests o._fs o._fmin)).2 ∧
    alphaFrame (Gen.alpha_noise._settle_filter_state xi o).2 = alphaFrame o ∧
    (Gen.alpha_noise._settle_filter_state xi o).2._buffer = o._buffer := by
  rw [gen_alpha_settle_requests]
  obtain ⟨_, h2, h3, h4⟩ := gen_alpha_requests_eq_model xi o (Model.settleRequests o._fs o._fmin)
  exact ⟨h2, h3, h4⟩

/-- `alpha_noise.__init__` = `Model.alphaInit` (the filter-design inputs `nspec`, `fminv`, `fmaxv` are those the source computes in
    lines 369-379; they are parameters here and of the model: their values are `gen_alpha_init_eq_model` of Props/FftNoiseGen, a
    second translation of the same lines that no theorem composes with this one) -/
theorem gen_alpha_obj_init_eq_model (xi : ℕ → ℝ) (fs fmin fmax alpha : ℝ) (init : Bool) (nspec : ℕ) (fminv fmaxv : Arr ℝ) :
    let o := Gen.alpha_noise.__init__ xi fs fmin fmax alpha init nspec fminv fmaxv
    alphaView o = Model.alphaInit xi fs alpha fminv fmaxv init ∧
    o._whitenoise._rms = Model.whiteRms fs RealLike.one ∧ o._scaling = Model.alphaScaling alpha fmaxv ∧
    o._buffer.n = 0 ∧ o._fs = fs ∧ o._fmin = fminv.get 0 := by
  cases init with
  | false => exact gen_alpha_init_false xi fs fmin fmax alpha nspec fminv fmaxv
  | true =>
    rw [gen_alpha_init_true]
    intro o
    obtain ⟨f1, f2, f3, f4, f5, f6⟩ := gen_alpha_init_false xi fs fmin fmax alpha nspec fminv fmaxv
    obtain ⟨s1, s2, s3⟩ := gen_alpha_settle_eq_model xi (Gen.alpha_noise.__init__ xi fs fmin fmax alpha false nspec fminv fmaxv)
    rw [f2, f3, f5, f6, f1] at s1
    simp only [alphaFrame, Prod.mk.injEq] at s2
    obtain ⟨hr, hs, -, -, -, hfs, -, -, -, hfm, -⟩ := s2
    exact ⟨s1, hr.trans f2, hs.trans f3, (congrArg Arr.n s3).trans f4, hfs.trans f5, hfm.trans f6⟩

theorem gen_pink_init_eq (xi : ℕ → ℝ) (fs fmin fmax : ℝ) (init : Bool) (nspec : ℕ) (fminv fmaxv : Arr ℝ) :
    Gen.pink_noise.__init__ xi fs fmin fmax init nspec fminv fmaxv
      = Gen.alpha_noise.__init__ xi fs fmin fmax 1 init nspec fminv fmaxv := by
  unfold Gen.pink_noise.__init__
  rw [RL.lit_one]

/-- a freshly constructed 1/f^alpha (or, with `alpha = 1`, pink) generator serving any request sequence: the samples are those of ONE
    model request of the total length from `Model.alphaInit` -/
theorem gen_alpha_stream_chunking (xi : ℕ → ℝ) (fs fmin fmax alpha : ℝ) (init : Bool) (nspec : ℕ) (fminv fmaxv : Arr ℝ)
    (ns : List ℕ) :
    (runRequests (alphaStep xi) (Gen.alpha_noise.__init__ xi fs fmin fmax alpha init nspec fminv fmaxv) ns).1
      = (Model.alphaSeries xi (Model.whiteRms fs RealLike.one) (Model.alphaScaling alpha fmaxv)
          (Model.alphaInit xi fs alpha fminv fmaxv init) ns.sum).1 := by
  obtain ⟨f1, f2, f3, _⟩ := gen_alpha_obj_init_eq_model xi fs fmin fmax alpha init nspec fminv fmaxv
  obtain ⟨h1, _⟩ := gen_alpha_requests_eq_model xi (Gen.alpha_noise.__init__ xi fs fmin fmax alpha init nspec fminv fmaxv) ns
  rw [h1, f2, f3, f1, Model.alpha_chunking]

/-- same seed, same stream: a generator object is a function of (parameters, the stream `xi` its seed determines) and of nothing
    else — the translated constructors and methods take no other input (the translator rejects an unseeded `default_rng()` and the
    global `np.random`), so two same-seed instances serving the same requests return the same samples -/
theorem gen_same_seed_same_stream (xi : ℕ → ℝ) (fs fmin : ℝ) (init : Bool) (ns : List ℕ)
    (o1 o2 : Gen.red_noise ℝ) (h1 : o1 = Gen.red_noise.__init__ xi fs fmin init) (h2 : o2 = Gen.red_noise.__init__ xi fs fmin init) :
    runRequests (redStep xi) o1 ns = runRequests (redStep xi) o2 ns := by
  rw [h1, h2]

#print axioms gen_white_init_eq_model
#print axioms gen_white_get_series_eq_model
#print axioms gen_white_chunking
#print axioms gen_buffer_size_pos
#print axioms gen_white_get_sample_eq_model
#print axioms gen_white_sample_runs
#print axioms gen_red_get_series_eq_model
#print axioms gen_red_chunking
#print axioms gen_red_get_sample_eq_model
#print axioms gen_red_settle_eq_model
#print axioms gen_red_init_eq_model
#print axioms gen_red_requests_eq_model
#print axioms gen_red_stream_chunking
#print axioms gen_alpha_get_series_eq_model
#print axioms gen_alpha_chunking
#print axioms gen_alpha_get_sample_eq_model
#print axioms gen_alpha_settle_eq_model
#print axioms gen_alpha_obj_init_eq_model
#print axioms gen_alpha_requests_eq_model
#print axioms gen_pink_init_eq
#print axioms gen_alpha_stream_chunking
#print axioms gen_same_seed_same_stream
