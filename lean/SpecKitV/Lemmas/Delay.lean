/-
  SpecKitV.Lemmas.Delay — property C07: response of the reference estimator's windowed DFT
  (`Model.segDFT`) to a static gain `y = g·x` (exact, every detrend order) and to a pure delay
  `y n = x (n − d)` (no detrending): `Y_s(ω) = e^{−iωd} X_s(ω)` up to an explicit edge term,
  hence the transfer-function phase is `−ω d` (a lagging output has NEGATIVE phase).
  The delay statements are the order −1 case of `Lemmas/DelayEff.lean`: without detrending the
  effective window is `w n · e^{−iωn}`.
-/
import SpecKitV.Lemmas.DelayEff
open Finset

/-- detrending is linear: `detr (g·x) = g · detr x`, every order -/
theorem detr_gain (order : ℤ) (Q : ℕ → ℕ → ℝ) (x : ℕ → ℝ) (g : ℝ) (s L n : ℕ) :
    Model.detr order Q (fun n => g * x n) s L n = g * Model.detr order Q x s L n :=
  detr_scale order Q x g s L n

/-- static gain, every detrend order: the DFT is linear, so Y = g·X for y = g·x -/
theorem segDFT_gain (order : ℤ) (Q : ℕ → ℕ → ℝ) (x : ℕ → ℝ) (g : ℝ) (s L : ℕ) (w : ℕ → ℝ) (ω : ℝ) :
    Model.segDFT order Q (fun n => g * x n) s L w ω = Cx.smul g (Model.segDFT order Q x s L w ω) :=
  segDFT_scale order Q x g s L w ω

theorem exp_neg_add_mul_I (ω : ℝ) (m d : ℕ) :
    Complex.exp (-(ω * ((m + d : ℕ) : ℝ) * Complex.I))
      = Complex.exp (-(ω * d * Complex.I)) * Complex.exp (-(ω * (m : ℝ) * Complex.I)) := by
  rw [← Complex.exp_add]
  congr 1
  push_cast
  ring

/-- shifting the raw window by the delay and turning it back leaves the difference of the taps -/
theorem effWin_neg_one_shift (Q : ℕ → ℕ → ℝ) (L : ℕ) (w : ℕ → ℝ) (ω : ℝ) (m d : ℕ) :
    effWin (-1) Q L w ω (m + d) - Complex.exp (-(ω * d * Complex.I)) * effWin (-1) Q L w ω m
      = ((w (m + d) - w m : ℝ) : ℂ) * Complex.exp (-(ω * ((m + d : ℕ) : ℝ) * Complex.I)) := by
  rw [effWin_neg_one, effWin_neg_one, exp_neg_add_mul_I]
  push_cast
  ring

section
set_option linter.unusedVariables false  -- `hds` of the next statement, which the checks list with it

/-- exact decomposition for a delay d ≤ L:
    Y − e^{−iωd} X = Σ_{m<L−d} (w(m+d) − w m)·x(s+m)·e^{−iω(m+d)}  +  Σ_{n<d} w n·x(s+n−d)·e^{−iωn}
                     −  Σ_{m=L−d}^{L−1} w m·x(s+m)·e^{−iω(m+d)}
    (the head term is written with the model input's own truncated subtraction `s + n − d`, so `d ≤ s` is not needed) -/
theorem delay_decomposition (Q : ℕ → ℕ → ℝ) (x : ℕ → ℝ) (d s L : ℕ) (hds : d ≤ s) (hdL : d ≤ L) (w : ℕ → ℝ) (ω : ℝ) :
    Cx.toC (Model.segDFT (-1) Q (fun n => x (n - d)) s L w ω)
      - Complex.exp (-(ω * d * Complex.I)) * Cx.toC (Model.segDFT (-1) Q x s L w ω)
    = (∑ m ∈ range (L - d), (((w (m + d) - w m) * x (s + m) : ℝ) : ℂ) * Complex.exp (-(ω * ((m + d : ℕ) : ℝ) * Complex.I)))
      + (∑ n ∈ range d, ((w n * x (s + n - d) : ℝ) : ℂ) * Complex.exp (-(ω * (n : ℝ) * Complex.I)))
      - (∑ m ∈ Ico (L - d) L, ((w m * x (s + m) : ℝ) : ℂ) * Complex.exp (-(ω * ((m + d : ℕ) : ℝ) * Complex.I))) := by
  rw [segDFT_effWin, segDFT_effWin, delay_decomposition_eff _ _ d s L hdL ω, Finset.mul_sum]
  congr 1
  · congr 1
    · refine Finset.sum_congr rfl (fun m _ => ?_)
      rw [effWin_neg_one_shift]
      push_cast
      ring
    · refine Finset.sum_congr rfl (fun n _ => ?_)
      rw [effWin_neg_one]
      push_cast
      ring
  · refine Finset.sum_congr rfl (fun m _ => ?_)
    rw [effWin_neg_one, exp_neg_add_mul_I]
    push_cast
    ring

end

/-- hence the explicit bound: with B a bound on |x| over the samples involved -/
theorem delay_bound (Q : ℕ → ℕ → ℝ) (x : ℕ → ℝ) (d s L : ℕ) (hds : d ≤ s) (hdL : d ≤ L) (w : ℕ → ℝ) (ω : ℝ) (B : ℝ)
    (hB : ∀ n, |x n| ≤ B) :
    ‖Cx.toC (Model.segDFT (-1) Q (fun n => x (n - d)) s L w ω)
        - Complex.exp (-(ω * d * Complex.I)) * Cx.toC (Model.segDFT (-1) Q x s L w ω)‖
      ≤ B * ((∑ m ∈ range (L - d), |w (m + d) - w m|) + (∑ n ∈ range d, |w n|) + (∑ m ∈ Ico (L - d) L, |w m|)) := by
  have h := delay_bound_any_order (-1) Q x d s L hds hdL w ω B hB
  have h1 : ∀ n, ‖effWin (-1) Q L w ω n‖ = |w n| := fun n => by
    rw [effWin_neg_one, Sinusoid.norm_ofReal_mul_exp (by simp)]
  have h2 : ∀ m, ‖effWin (-1) Q L w ω (m + d)
      - Complex.exp (-(ω * d * Complex.I)) * effWin (-1) Q L w ω m‖ = |w (m + d) - w m| := fun m => by
    rw [effWin_neg_one_shift, Sinusoid.norm_ofReal_mul_exp (by simp)]
  simpa only [h1, h2] using h

/-- sign convention: if Y = e^{−iωd}·X exactly and X ≠ 0 then
    H = conj(X·conj Y)/|X|² = Y/X = e^{−iωd}: phase −ωd, magnitude 1 -/
theorem tf_of_pure_delay (X : ℂ) (hX : X ≠ 0) (ω : ℝ) (d : ℕ) :
    let Y := Complex.exp (-(ω * d * Complex.I)) * X
    (starRingEnd ℂ) (X * (starRingEnd ℂ) Y) / (Complex.normSq X : ℂ) = Complex.exp (-(ω * d * Complex.I)) := by
  intro Y
  have hn : (starRingEnd ℂ) X * X ≠ 0 := mul_ne_zero ((map_ne_zero _).2 hX) hX
  rw [map_mul, Complex.conj_conj, ← Complex.mul_conj, mul_comm X ((starRingEnd ℂ) X), mul_left_comm,
    mul_div_cancel_right₀ _ hn]

theorem tf_of_pure_delay_arg (X : ℂ) (hX : X ≠ 0) (ω : ℝ) (d : ℕ) (h : -Real.pi < -(ω * d) ∧ -(ω * d) ≤ Real.pi) :
    Complex.arg ((starRingEnd ℂ) (X * (starRingEnd ℂ) (Complex.exp (-(ω * d * Complex.I)) * X)) / (Complex.normSq X : ℂ)) = -(ω * d) := by
  rw [tf_of_pure_delay X hX ω d]
  have he : -((ω : ℂ) * (d : ℂ) * Complex.I) = ((-(ω * d) : ℝ) : ℂ) * Complex.I := by
    push_cast; ring
  rw [he, Complex.exp_mul_I]
  exact Complex.arg_cos_add_sin_mul_I h

/-- perturbation: if Y = e^{−iωd}X + E with |E| ≤ ε|X|, the estimate H = Y/X satisfies
    |H − e^{−iωd}| ≤ ε (so |‖H‖ − 1| ≤ ε) -/
theorem tf_delay_perturbed (X E : ℂ) (hX : X ≠ 0) (ω : ℝ) (d : ℕ) (ε : ℝ) (hE : ‖E‖ ≤ ε * ‖X‖) :
    ‖(Complex.exp (-(ω * d * Complex.I)) * X + E) / X - Complex.exp (-(ω * d * Complex.I))‖ ≤ ε := by
  rwa [add_div, mul_div_cancel_right₀ _ hX, add_sub_cancel_left, norm_div,
    div_le_iff₀ (norm_pos_iff.mpr hX)]

/-- corollary: the magnitude of the perturbed estimate is within ε of 1 -/
theorem tf_delay_perturbed_abs (X E : ℂ) (hX : X ≠ 0) (ω : ℝ) (d : ℕ) (ε : ℝ) (hE : ‖E‖ ≤ ε * ‖X‖) :
    |‖(Complex.exp (-(ω * d * Complex.I)) * X + E) / X‖ - 1| ≤ ε := by
  have h := abs_norm_sub_norm_le ((Complex.exp (-(ω * d * Complex.I)) * X + E) / X)
    (Complex.exp (-(ω * d * Complex.I)))
  rw [Sinusoid.norm_exp_neg_mul_nat_I] at h
  exact h.trans (tf_delay_perturbed X E hX ω d ε hE)

#print axioms detr_gain
#print axioms segDFT_gain
#print axioms delay_decomposition
#print axioms delay_bound
#print axioms tf_of_pure_delay
#print axioms tf_of_pure_delay_arg
#print axioms tf_delay_perturbed
#print axioms tf_delay_perturbed_abs
