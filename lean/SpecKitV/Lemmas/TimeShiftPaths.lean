/-
  The two code paths of the fractional time-shift routine (`Model.shiftConst`, `Model.shiftVar`): interior stencil form,
  agreement of the paths, exact polynomial interpolation, integer / zero shifts, constant records.
-/
import SpecKitV.RealInst
import SpecKitV.Model.TimeShift
import SpecKitV.Lemmas.Taps
open Finset

/-- the stencil of output sample n is interior: all 2h reads are inside the record -/
def Interior (size h : ℕ) (sInt : ℤ) (n : ℕ) : Prop :=
  0 ≤ (n : ℤ) + sInt - ((h : ℤ) - 1) ∧ (n : ℤ) + sInt + (h : ℤ) ≤ (size : ℤ) - 1

theorem clampIdx_lt (i : ℤ) (size : ℕ) (hs : 0 < size) : Model.clampIdx i size < size := by
  unfold Model.clampIdx
  split_ifs <;> omega

namespace TimeShiftAux

theorem clampIdx_of_mem {i : ℤ} {size : ℕ} (h0 : 0 ≤ i) (h1 : i < (size : ℤ)) :
    Model.clampIdx i size = i.toNat := by
  unfold Model.clampIdx
  rw [if_neg (by omega), if_neg (by omega)]

theorem clampIdx_neg {i : ℤ} {size : ℕ} (h0 : i < 0) : Model.clampIdx i size = 0 := by
  unfold Model.clampIdx
  rw [if_pos h0]

theorem clampIdx_ge {i : ℤ} {size : ℕ} (h0 : 0 ≤ i) (h1 : (size : ℤ) ≤ i) :
    Model.clampIdx i size = size - 1 := by
  unfold Model.clampIdx
  rw [if_neg (by omega), if_pos (by omega)]

/-- clamping on the left is `Int.toNat`, on the right `min` -/
theorem clampIdx_eq_min (i : ℤ) (size : ℕ) : Model.clampIdx i size = min i.toNat (size - 1) := by
  unfold Model.clampIdx
  split_ifs <;> omega

/-- the two early returns, else the filter -/
theorem shiftConst_eq (data : ℕ → ℝ) (size h : ℕ) (sInt : ℤ) (d : ℝ) (n : ℕ) :
    Model.shiftConst data size h sInt d n
      = if sInt + h + size - 1 < 0 then data 0 else if sInt - (h - 1) > size - 1 then data (size - 1)
        else ∑ k ∈ range (2 * h), data (Model.clampIdx (n + sInt - (h - 1) + k) size) * Model.tap h d k := by
  simp only [Model.shiftConst, ← add_sub_assoc, sumRange_eq_sum]

end TimeShiftAux

open TimeShiftAux

/-- constant path on an interior stencil: plain Lagrange stencil sum -/
theorem shiftConst_interior (data : ℕ → ℝ) (size h : ℕ) (hh : 1 ≤ h) (sInt : ℤ) (d : ℝ) (n : ℕ) (hn : n < size)
    (hint : Interior size h sInt n) :
    Model.shiftConst data size h sInt d n
      = ∑ k ∈ range (2 * h), data ((n : ℤ) + sInt - ((h : ℤ) - 1) + (k : ℤ)).toNat * Model.tap h d k := by
  obtain ⟨hi0, hi1⟩ := hint
  rw [shiftConst_eq, if_neg (by omega), if_neg (by omega)]
  apply sum_congr rfl
  intro k hk
  have hk' := mem_range.mp hk
  rw [clampIdx_of_mem (by omega) (by omega)]

theorem paths_agree_interior (data : ℕ → ℝ) (size h : ℕ) (hh : 1 ≤ h) (sInt : ℤ) (d : ℝ) (n : ℕ) (hn : n < size)
    (hint : Interior size h sInt n) :
    Model.shiftVar data size h sInt d n = Model.shiftConst data size h sInt d n := by
  rw [shiftConst_interior data size h hh sInt d n hn hint]
  obtain ⟨hi0, hi1⟩ := hint
  simp only [Model.shiftVar]
  rw [if_neg (by omega), if_neg (by omega), sumRange_eq_sum]
  apply sum_congr rfl
  intro k hk
  have hk' := mem_range.mp hk
  rw [if_neg (by omega), mul_comm]

/-- for ANY record the interior output is the value at n + s of the unique degree-(2h−1) interpolant through the
    2h surrounding samples -/
theorem shiftConst_is_interpolant (data : ℕ → ℝ) (size h : ℕ) (hh : 1 ≤ h) (sInt : ℤ) (d : ℝ) (hd0 : 0 ≤ d) (hd1 : d < 1)
    (n : ℕ) (hn : n < size) (hint : Interior size h sInt n) (p : Polynomial ℝ) (hp : p.natDegree < 2 * h)
    (hfit : ∀ k < 2 * h, p.eval (((n : ℤ) + sInt - ((h : ℤ) - 1) + (k : ℤ) : ℤ) : ℝ) = data ((n : ℤ) + sInt - ((h : ℤ) - 1) + (k : ℤ)).toNat) :
    Model.shiftConst data size h sInt d n = p.eval ((n : ℝ) + (sInt : ℝ) + d) := by
  -- the taps reproduce `x ↦ p (x + n + sInt)` at `d`
  have key := taps_reproduce_poly h hh d hd0 hd1 (p.comp (Polynomial.X + Polynomial.C ((n : ℝ) + (sInt : ℝ))))
    (by rw [Polynomial.natDegree_comp, Polynomial.natDegree_X_add_C, mul_one]; exact hp)
  simp only [Polynomial.eval_comp, Polynomial.eval_add, Polynomial.eval_X, Polynomial.eval_C] at key
  rw [shiftConst_interior data size h hh sInt d n hn hint, add_comm _ d, ← key]
  refine sum_congr rfl (fun k hk => ?_)
  rw [← hfit k (mem_range.mp hk), mul_comm]
  congr 2
  simp only [tapNode]
  push_cast
  ring

/-- exact interpolation: if the record samples a polynomial of degree ≤ 2h−1 the interior output is that
    polynomial at n + s -/
theorem shiftConst_reproduces_poly (p : Polynomial ℝ) (size h : ℕ) (hh : 1 ≤ h) (hp : p.natDegree < 2 * h) (sInt : ℤ) (d : ℝ)
    (hd0 : 0 ≤ d) (hd1 : d < 1) (n : ℕ) (hn : n < size) (hint : Interior size h sInt n) :
    Model.shiftConst (fun i => p.eval (i : ℝ)) size h sInt d n = p.eval ((n : ℝ) + (sInt : ℝ) + d) := by
  apply shiftConst_is_interpolant (fun i => p.eval (i : ℝ)) size h hh sInt d hd0 hd1 n hn hint p hp
  intro k hk
  obtain ⟨hi0, hi1⟩ := hint
  have h0 : 0 ≤ (n : ℤ) + sInt - ((h : ℤ) - 1) + (k : ℤ) := by omega
  congr 1
  rw [← Int.cast_natCast (R := ℝ), Int.toNat_of_nonneg h0]

/-- an integer shift (d = 0) is a pure displacement with the end values held -/
theorem shiftConst_integer (data : ℕ → ℝ) (size h : ℕ) (hh : 1 ≤ h) (hsz : 2 ≤ size) (sInt : ℤ) (n : ℕ) (hn : n < size) :
    Model.shiftConst data size h sInt 0 n = data (Model.clampIdx ((n : ℤ) + sInt) size) := by
  by_cases h1 : sInt + (h : ℤ) + (size : ℤ) - 1 < 0
  · rw [shiftConst_eq, if_pos h1, clampIdx_neg (by omega)]
  by_cases h2 : sInt - ((h : ℤ) - 1) > (size : ℤ) - 1
  · rw [shiftConst_eq, if_neg h1, if_pos h2, clampIdx_ge (by omega) (by omega)]
  rw [shiftConst_eq, if_neg h1, if_neg h2]
  have hmem : h - 1 ∈ range (2 * h) := mem_range.mpr (by omega)
  rw [sum_eq_single_of_mem (h - 1) hmem]
  · rw [tap_at_zero h hh (h - 1) (by omega), if_pos (by omega), mul_one]
    congr 2
    omega
  · intro k hk hne
    rw [tap_at_zero h hh k (mem_range.mp hk), if_neg (by omega), mul_zero]

/-- a zero shift is the identity (the routine returns the input unchanged before reaching the filter; the
    filter agrees) -/
theorem shiftConst_zero (data : ℕ → ℝ) (size h : ℕ) (hh : 1 ≤ h) (hsz : 2 ≤ size) (n : ℕ) (hn : n < size) :
    Model.shiftConst data size h 0 0 n = data n := by
  rw [shiftConst_integer data size h hh hsz 0 n hn, clampIdx_of_mem (by omega) (by omega)]
  congr 1

set_option linter.unusedVariables false  -- `hsz` is idle: the checks list this statement (`vk/props/C16.py: THEOREMS`)

/-- a constant record is left unchanged by any shift (taps sum to one) -/
theorem shiftConst_const (c : ℝ) (size h : ℕ) (hh : 1 ≤ h) (hsz : 2 ≤ size) (sInt : ℤ) (d : ℝ) (hd0 : 0 ≤ d) (hd1 : d < 1) (n : ℕ) :
    Model.shiftConst (fun _ => c) size h sInt d n = c := by
  rw [shiftConst_eq]
  split_ifs
  · rfl
  · rfl
  · rw [← mul_sum, taps_sum_one h hh d hd0 hd1, mul_one]

#print axioms clampIdx_lt
#print axioms shiftConst_interior
#print axioms paths_agree_interior
#print axioms shiftConst_is_interpolant
#print axioms shiftConst_reproduces_poly
#print axioms shiftConst_integer
#print axioms shiftConst_zero
#print axioms shiftConst_const
