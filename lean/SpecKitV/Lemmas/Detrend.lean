/-
  Algebra of the detrending step of the reference estimator
  (`Model.detr`, `Model.segDFT`) at `α := ℝ`: order −1 raw, order 0 mean removal, order p ≥ 1
  orthogonal projection `I − Q Qᵀ` for a matrix `Q` with orthonormal columns.
-/
import SpecKitV.RealInst
import SpecKitV.Lemmas.CxC
import SpecKitV.Model.Ref
open Finset

/-- `Q` has orthonormal columns on the L-point grid (contract of `np.linalg.qr`) -/
def OrthoCols (Q : ℕ → ℕ → ℝ) (L p1 : ℕ) : Prop :=
  ∀ k < p1, ∀ k' < p1, ∑ n ∈ range L, Q n k * Q n k' = if k = k' then 1 else 0

def InSpan (Q : ℕ → ℕ → ℝ) (L p1 : ℕ) (t : ℕ → ℝ) : Prop :=
  ∃ a : ℕ → ℝ, ∀ n < L, t n = ∑ k ∈ range p1, a k * Q n k

theorem orthoCols_succ {Q : ℕ → ℕ → ℝ} {L k : ℕ} (hO : OrthoCols Q L k)
    (hperp : ∀ j < k, ∑ n ∈ range L, Q n j * Q n k = 0) (hunit : ∑ n ∈ range L, Q n k * Q n k = 1) : OrthoCols Q L (k + 1) := by
  intro j hj j' hj'
  rcases Nat.lt_succ_iff_lt_or_eq.1 hj with hjk | rfl
  · rcases Nat.lt_succ_iff_lt_or_eq.1 hj' with hjk' | rfl
    · exact hO j hjk j' hjk'
    · rw [if_neg hjk.ne, hperp j hjk]
  · rcases Nat.lt_succ_iff_lt_or_eq.1 hj' with hjk' | rfl
    · rw [if_neg hjk'.ne', ← hperp j' hjk']
      exact sum_congr rfl fun n _ => mul_comm _ _
    · rw [if_pos rfl, hunit]

theorem orthoCols_congr {Q Q' : ℕ → ℕ → ℝ} {L k : ℕ} (h : ∀ n, ∀ j < k, Q' n j = Q n j) (hO : OrthoCols Q L k) : OrthoCols Q' L k :=
  fun j hj j' hj' => by
    rw [← hO j hj j' hj']
    exact sum_congr rfl fun n _ => by rw [h n j hj, h n j' hj']

theorem detr_neg_one (Q : ℕ → ℕ → ℝ) (x : ℕ → ℝ) (s L n : ℕ) :
    Model.detr (-1) Q x s L n = x (s + n) := by
  simp [Model.detr]

theorem detr0_eq (Q : ℕ → ℕ → ℝ) (x : ℕ → ℝ) (s L n : ℕ) :
    Model.detr 0 Q x s L n = x (s + n) - (∑ m ∈ range L, x (s + m)) / (L : ℝ) := by
  simp [Model.detr, sumRange_eq_sum]

theorem detr_gen_eq (order : ℤ) (h1 : order ≠ -1) (h0 : order ≠ 0) (Q : ℕ → ℕ → ℝ) (x : ℕ → ℝ)
    (s L n : ℕ) :
    Model.detr order Q x s L n
      = x (s + n) - ∑ k ∈ range (order + 1).toNat, Q n k * ∑ m ∈ range L, Q m k * x (s + m) := by
  simp only [Model.detr, beq_eq_false_iff_ne.2 h1, beq_eq_false_iff_ne.2 h0, sumRange_eq_sum, Bool.false_eq_true, if_false]

theorem detr_poly_eq (p : ℕ) (hp : 1 ≤ p) (Q : ℕ → ℕ → ℝ) (x : ℕ → ℝ) (s L n : ℕ) :
    Model.detr (p : ℤ) Q x s L n
      = x (s + n) - ∑ k ∈ range (p + 1), Q n k * ∑ m ∈ range L, Q m k * x (s + m) := by
  rw [detr_gen_eq (p : ℤ) (by omega) (by omega), show ((p : ℤ) + 1).toNat = p + 1 by omega]

/-- `(order, Q')` detrends segments of length `L` by removing the projection onto the columns of `Qa` that exist: what the polynomial
    kernels of every backend compute, whatever the number of columns -/
def DetrIsProj (order : ℤ) (Q' : ℕ → ℕ → ℝ) (Qa : Arr2 ℝ) (L : ℕ) : Prop :=
  ∀ (x : ℕ → ℝ) (s n : ℕ), n < L → Model.detr order Q' x s L n
    = x (s + n) - ∑ k ∈ range Qa.m, Qa.get n k * ∑ m ∈ range L, Qa.get m k * x (s + m)

theorem detrIsProj_poly (Qa : Arr2 ℝ) (p : ℕ) (hp : 1 ≤ p) (hQ : Qa.m = p + 1) (L : ℕ) : DetrIsProj (p : ℤ) Qa.get Qa L :=
  fun x s n _ => by rw [detr_poly_eq p hp, hQ]

/-- columns of `Q'` beyond those `Qa` has read as 0 and drop out of the projection -/
theorem detrIsProj_of_beyond {Qa : Arr2 ℝ} {Q' : ℕ → ℕ → ℝ} (p : ℕ) (hp : 1 ≤ p) (hm : Qa.m ≤ p + 1)
    (hQ : ∀ n, ∀ k < Qa.m, Q' n k = Qa.get n k) (hz : ∀ n k, Qa.m ≤ k → Q' n k = 0) (L : ℕ) : DetrIsProj (p : ℤ) Q' Qa L := fun x s n _ => by
  rw [detr_poly_eq p hp]
  congr 1
  rw [← sum_subset (range_subset_range.2 hm) fun k _ hk => by rw [hz n k (by simpa using hk), zero_mul]]
  exact sum_congr rfl fun k hk => by simp only [hQ _ k (mem_range.1 hk)]

/-- pad `Qa` with zero columns (order `Qa.m + 1`: `1 ≤ p` even without columns) -/
theorem exists_detrIsProj (Qa : Arr2 ℝ) (L : ℕ) : ∃ (order : ℤ) (Q' : ℕ → ℕ → ℝ), DetrIsProj order Q' Qa L :=
  ⟨((Qa.m + 1 : ℕ) : ℤ), fun n k => if k < Qa.m then Qa.get n k else 0,
    detrIsProj_of_beyond (Qa.m + 1) (by omega) (by omega) (fun _ _ hk => if_pos hk) (fun _ _ hk => if_neg (by omega)) L⟩

theorem detr0_add_const (Q : ℕ → ℕ → ℝ) (x : ℕ → ℝ) (c : ℝ) (s L n : ℕ) (hL : 0 < L) :
    Model.detr 0 Q (fun m => x m + c) s L n = Model.detr 0 Q x s L n := by
  have hL' : (L : ℝ) ≠ 0 := by exact_mod_cast hL.ne'
  rw [detr0_eq, detr0_eq]
  simp only [sum_add_distrib, sum_const, card_range, nsmul_eq_mul]
  field_simp
  ring

theorem detr0_sum_zero (Q : ℕ → ℕ → ℝ) (x : ℕ → ℝ) (s L : ℕ) (hL : 0 < L) :
    ∑ n ∈ range L, Model.detr 0 Q x s L n = 0 := by
  have hL' : (L : ℝ) ≠ 0 := by exact_mod_cast hL.ne'
  simp only [detr0_eq, sum_sub_distrib, sum_const, card_range, nsmul_eq_mul]
  field_simp
  ring

theorem detr0_idempotent (Q : ℕ → ℕ → ℝ) (x : ℕ → ℝ) (s L n : ℕ) (hL : 0 < L) :
    Model.detr 0 Q (fun m => Model.detr 0 Q x s L m) 0 L n = Model.detr 0 Q x s L n := by
  rw [detr0_eq Q (fun m => Model.detr 0 Q x s L m)]
  simp only [Nat.zero_add]
  rw [detr0_sum_zero Q x s L hL, zero_div, sub_zero]

theorem coeff_of_span {Q : ℕ → ℕ → ℝ} {L p1 : ℕ} (hQ : OrthoCols Q L p1) {a t : ℕ → ℝ}
    (ht : ∀ n < L, t n = ∑ k ∈ range p1, a k * Q n k) {k : ℕ} (hk : k < p1) :
    ∑ m ∈ range L, Q m k * t m = a k := by
  have h1 : ∑ m ∈ range L, Q m k * t m
      = ∑ m ∈ range L, ∑ j ∈ range p1, a j * (Q m k * Q m j) := by
    refine sum_congr rfl (fun m hm => ?_)
    rw [ht m (mem_range.1 hm), mul_sum]
    exact sum_congr rfl (fun j _ => by ring)
  rw [h1, sum_comm]
  have h2 : ∀ j ∈ range p1, ∑ m ∈ range L, a j * (Q m k * Q m j)
      = a j * (if k = j then 1 else 0) := by
    intro j hj
    rw [← mul_sum, hQ k hk j (mem_range.1 hj)]
  rw [sum_congr rfl h2]
  simp only [mul_ite, mul_one, mul_zero]
  rw [sum_ite_eq (range p1) k a, if_pos (mem_range.2 hk)]

theorem proj_of_span {Q : ℕ → ℕ → ℝ} {L p1 : ℕ} (hQ : OrthoCols Q L p1)
    {t : ℕ → ℝ} (ht : InSpan Q L p1 t) {n : ℕ} (hn : n < L) :
    ∑ k ∈ range p1, Q n k * ∑ m ∈ range L, Q m k * t m = t n := by
  obtain ⟨a, ha⟩ := ht
  rw [ha n hn]
  refine sum_congr rfl (fun k hk => ?_)
  rw [coeff_of_span hQ ha (mem_range.1 hk)]
  ring

/-- the trend `t` is indexed from the segment start, the record absolutely: hence `t (m - s)` -/
theorem detr_poly_kills_span (p : ℕ) (hp : 1 ≤ p) (Q : ℕ → ℕ → ℝ) (L : ℕ)
    (hQ : OrthoCols Q L (p + 1))
    (s : ℕ) (t : ℕ → ℝ) (ht : InSpan Q L (p + 1) t) (n : ℕ) (hn : n < L) :
    Model.detr (p : ℤ) Q (fun m => t (m - s)) s L n = 0 := by
  rw [detr_poly_eq p hp]
  simp only [Nat.add_sub_cancel_left]
  rw [proj_of_span hQ ht hn, sub_self]

theorem detr_linear (order : ℤ) (Q : ℕ → ℕ → ℝ) (x y : ℕ → ℝ) (a b : ℝ) (s L n : ℕ) :
    Model.detr order Q (fun m => a * x m + b * y m) s L n
      = a * Model.detr order Q x s L n + b * Model.detr order Q y s L n := by
  by_cases h1 : order = -1
  · subst h1
    simp only [detr_neg_one]
  by_cases h0 : order = 0
  · subst h0
    simp only [detr0_eq, sum_add_distrib, ← mul_sum]
    ring
  · simp only [detr_gen_eq order h1 h0, mul_add, sum_add_distrib, mul_left_comm _ a, mul_left_comm _ b, ← mul_sum]
    ring

theorem detr_add (order : ℤ) (Q : ℕ → ℕ → ℝ) (x y : ℕ → ℝ) (s L n : ℕ) :
    Model.detr order Q (fun m => x m + y m) s L n
      = Model.detr order Q x s L n + Model.detr order Q y s L n := by
  simpa only [one_mul] using detr_linear order Q x y 1 1 s L n

theorem detr_scale (order : ℤ) (Q : ℕ → ℕ → ℝ) (x : ℕ → ℝ) (c : ℝ) (s L n : ℕ) :
    Model.detr order Q (fun m => c * x m) s L n = c * Model.detr order Q x s L n := by
  simpa only [zero_mul, add_zero] using detr_linear order Q x x c 0 s L n

theorem detr_poly_add_span (p : ℕ) (hp : 1 ≤ p) (Q : ℕ → ℕ → ℝ) (L : ℕ)
    (hQ : OrthoCols Q L (p + 1))
    (x : ℕ → ℝ) (s : ℕ) (t : ℕ → ℝ) (ht : InSpan Q L (p + 1) t) (n : ℕ) (hn : n < L) :
    Model.detr (p : ℤ) Q (fun m => x m + t (m - s)) s L n = Model.detr (p : ℤ) Q x s L n := by
  rw [detr_add (p : ℤ) Q x (fun m => t (m - s)) s L n,
    detr_poly_kills_span p hp Q L hQ s t ht n hn, add_zero]

theorem detr_poly_orthogonal (p : ℕ) (hp : 1 ≤ p) (Q : ℕ → ℕ → ℝ) (L : ℕ)
    (hQ : OrthoCols Q L (p + 1))
    (x : ℕ → ℝ) (s : ℕ) (k : ℕ) (hk : k < p + 1) :
    ∑ n ∈ range L, Q n k * Model.detr (p : ℤ) Q x s L n = 0 := by
  simp only [detr_poly_eq p hp, mul_sub, sum_sub_distrib]
  -- the projected part is a span element with coefficients `c j = ∑ m, Q m j * x (s+m)`
  have h := coeff_of_span hQ (a := fun j => ∑ m ∈ range L, Q m j * x (s + m))
    (t := fun n => ∑ j ∈ range (p + 1), Q n j * ∑ m ∈ range L, Q m j * x (s + m))
    (fun n _ => sum_congr rfl (fun j _ => by ring)) hk
  rw [h, sub_self]

theorem detr_poly_orthogonal_span (p : ℕ) (hp : 1 ≤ p) (Q : ℕ → ℕ → ℝ) (L : ℕ)
    (hQ : OrthoCols Q L (p + 1))
    (x : ℕ → ℝ) (s : ℕ) (t : ℕ → ℝ) (ht : InSpan Q L (p + 1) t) :
    ∑ n ∈ range L, t n * Model.detr (p : ℤ) Q x s L n = 0 := by
  obtain ⟨a, ha⟩ := ht
  have h1 : ∑ n ∈ range L, t n * Model.detr (p : ℤ) Q x s L n
      = ∑ n ∈ range L, ∑ k ∈ range (p + 1), a k * (Q n k * Model.detr (p : ℤ) Q x s L n) := by
    refine sum_congr rfl (fun n hn => ?_)
    rw [ha n (mem_range.1 hn), sum_mul]
    exact sum_congr rfl (fun k _ => by ring)
  rw [h1, sum_comm]
  refine sum_eq_zero (fun k hk => ?_)
  rw [← mul_sum, detr_poly_orthogonal p hp Q L hQ x s k (mem_range.1 hk), mul_zero]

set_option linter.unusedVariables false in -- `hn` not used; the checks list it (`vk/props/C08.py`)
/-- C08 "and nothing else": a component orthogonal to every column of `Q` survives detrending unchanged -/
theorem detr_poly_keeps_orthogonal (p : ℕ) (hp : 1 ≤ p) (Q : ℕ → ℕ → ℝ) (L : ℕ)
    (s : ℕ) (u : ℕ → ℝ) (hu : ∀ k < p + 1, ∑ n ∈ range L, Q n k * u n = 0) (n : ℕ) (hn : n < L) :
    Model.detr (p : ℤ) Q (fun m => u (m - s)) s L n = u n := by
  rw [detr_poly_eq p hp]
  simp only [Nat.add_sub_cancel_left]
  rw [sum_eq_zero (fun k hk => by rw [hu k (mem_range.1 hk), mul_zero]), sub_zero]

theorem detr_poly_idempotent (p : ℕ) (hp : 1 ≤ p) (Q : ℕ → ℕ → ℝ) (L : ℕ)
    (hQ : OrthoCols Q L (p + 1))
    (x : ℕ → ℝ) (s : ℕ) (n : ℕ) (hn : n < L) :
    Model.detr (p : ℤ) Q (fun m => Model.detr (p : ℤ) Q x s L m) 0 L n
      = Model.detr (p : ℤ) Q x s L n := by
  simpa only [Nat.sub_zero] using detr_poly_keeps_orthogonal p hp Q L 0 (fun m => Model.detr (p : ℤ) Q x s L m)
    (fun k hk => detr_poly_orthogonal p hp Q L hQ x s k hk) n hn

theorem detr_congr_seg (order : ℤ) (Q : ℕ → ℕ → ℝ) (x y : ℕ → ℝ) (s L : ℕ)
    (h : ∀ m < L, x (s + m) = y (s + m)) (n : ℕ) (hn : n < L) :
    Model.detr order Q x s L n = Model.detr order Q y s L n := by
  have e1 : (∑ m ∈ range L, x (s + m)) = ∑ m ∈ range L, y (s + m) :=
    sum_congr rfl (fun m hm => h m (mem_range.mp hm))
  have e2 : ∀ k, (∑ m ∈ range L, Q m k * x (s + m)) = ∑ m ∈ range L, Q m k * y (s + m) :=
    fun k => sum_congr rfl (fun m hm => by rw [h m (mem_range.mp hm)])
  unfold Model.detr
  simp only [sumRange_eq_sum, e1, e2, h n hn]

section
variable {o : ℤ} {Q : ℕ → ℕ → ℝ} {x : ℕ → ℝ} {s L : ℕ} {w : ℕ → ℝ} {ω : ℝ}

theorem segDFT_eq : Model.segDFT o Q x s L w ω = ⟨∑ n ∈ range L, w n * Model.detr o Q x s L n * Real.cos (ω * n),
    -∑ n ∈ range L, w n * Model.detr o Q x s L n * Real.sin (ω * n)⟩ := by
  simp only [Model.segDFT, sumRange_eq_sum, RL.cos_eq, RL.sin_eq, RL.ofNat_eq, RL.zero_eq, zero_sub]

theorem segDFT_zero_of_detr_zero (h : ∀ n < L, Model.detr o Q x s L n = 0) : Model.segDFT o Q x s L w ω = ⟨0, 0⟩ := by
  have e (f : ℕ → ℝ) : ∑ n ∈ range L, w n * Model.detr o Q x s L n * f n = 0 :=
    sum_eq_zero fun n hn => by rw [h n (mem_range.1 hn), mul_zero, zero_mul]
  rw [segDFT_eq, e, e, neg_zero]

theorem segDFT_neg_omega : Model.segDFT o Q x s L w (-ω) = Cx.conj (Model.segDFT o Q x s L w ω) := by
  simp only [segDFT_eq, Cx.conj, neg_mul, Real.cos_neg, Real.sin_neg, mul_neg, sum_neg_distrib, neg_neg]

end

theorem segDFT_congr {o o' : ℤ} {Q Q' : ℕ → ℕ → ℝ} {x y : ℕ → ℝ} {s s' L : ℕ} {w : ℕ → ℝ} {ω : ℝ}
    (h : ∀ n < L, Model.detr o Q x s L n = Model.detr o' Q' y s' L n) :
    Model.segDFT o Q x s L w ω = Model.segDFT o' Q' y s' L w ω := by
  rw [segDFT_eq, segDFT_eq]
  congr 1
  · exact sum_congr rfl fun n hn => by rw [h n (mem_range.1 hn)]
  · exact congrArg _ (sum_congr rfl fun n hn => by rw [h n (mem_range.1 hn)])

theorem segDFT_add_const_order0 (Q : ℕ → ℕ → ℝ) (x : ℕ → ℝ) (c : ℝ) (s L : ℕ) (hL : 0 < L)
    (w : ℕ → ℝ) (ω : ℝ) :
    Model.segDFT 0 Q (fun m => x m + c) s L w ω = Model.segDFT 0 Q x s L w ω :=
  segDFT_congr fun n _ => detr0_add_const Q x c s L n hL

theorem segDFT_add_span (p : ℕ) (hp : 1 ≤ p) (Q : ℕ → ℕ → ℝ) (L : ℕ) (hQ : OrthoCols Q L (p + 1))
    (x : ℕ → ℝ) (s : ℕ) (t : ℕ → ℝ) (ht : InSpan Q L (p + 1) t) (w : ℕ → ℝ) (ω : ℝ) :
    Model.segDFT (p : ℤ) Q (fun m => x m + t (m - s)) s L w ω = Model.segDFT (p : ℤ) Q x s L w ω :=
  segDFT_congr fun n hn => detr_poly_add_span p hp Q L hQ x s t ht n hn

/-- `segDFT_add_span` with the trend indexed like the record -/
theorem segDFT_add_trend {p : ℕ} (hp : 1 ≤ p) {Q : ℕ → ℕ → ℝ} {L : ℕ} (hQ : OrthoCols Q L (p + 1)) (x T : ℕ → ℝ) (s : ℕ)
    (hT : InSpan Q L (p + 1) (fun n => T (s + n))) (w : ℕ → ℝ) (ω : ℝ) :
    Model.segDFT (p : ℤ) Q (fun m => x m + T m) s L w ω = Model.segDFT (p : ℤ) Q x s L w ω :=
  segDFT_congr fun n hn => by
    have h0 : Model.detr (p : ℤ) Q T s L n = 0 := by
      rw [detr_poly_eq p hp]
      exact sub_eq_zero.2 (proj_of_span hQ hT hn).symm
    rw [detr_add, h0, add_zero]

theorem segDFT_scale (order : ℤ) (Q : ℕ → ℕ → ℝ) (x : ℕ → ℝ) (c : ℝ) (s L : ℕ) (w : ℕ → ℝ)
    (ω : ℝ) :
    Model.segDFT order Q (fun m => c * x m) s L w ω
      = Cx.smul c (Model.segDFT order Q x s L w ω) := by
  simp only [segDFT_eq, Cx.smul, detr_scale, mul_neg, mul_sum]
  congr 1
  · exact sum_congr rfl (fun n _ => by ring)
  · congr 1
    exact sum_congr rfl (fun n _ => by ring)

#print axioms detr_neg_one
#print axioms detr0_add_const
#print axioms detr0_sum_zero
#print axioms detr_poly_add_span
#print axioms detr_poly_kills_span
#print axioms detr_poly_orthogonal
#print axioms detr_poly_idempotent
#print axioms detr_linear
#print axioms segDFT_add_const_order0
#print axioms segDFT_add_span
#print axioms segDFT_scale
#print axioms detr_poly_keeps_orthogonal
