/-
  SpecKitV.Lemmas.Chunking — exact state carry-over of the IIR sections / cascades and chunk
  invariance of the noise generators (`white`, `red`, `alpha`), plus the buffered `get_sample`
  and the direct-form characterisation of one section.

  Everything up to `white_sample_runs` is purely structural and proved for every `α` with
  `[RealLike α]` (no arithmetic law is used).
-/
import SpecKitV.RealInst
import SpecKitV.Model.Noise

namespace Model
variable {α : Type} [RealLike α]

theorem sectionRun_nil (a0 a1 b1 z : α) : sectionRun a0 a1 b1 z [] = ([], z) := rfl

theorem sectionRun_cons (a0 a1 b1 z x : α) (xs : List α) :
    sectionRun a0 a1 b1 z (x :: xs)
      = ((a0 * x + z) :: (sectionRun a0 a1 b1 (a1 * x - b1 * (a0 * x + z)) xs).1,
         (sectionRun a0 a1 b1 (a1 * x - b1 * (a0 * x + z)) xs).2) := rfl

/-- filter state is carried exactly: running a section over xs ++ ys = running over xs, then ys
    from the returned state -/
theorem sectionRun_append (a0 a1 b1 z : α) (xs ys : List α) :
    sectionRun a0 a1 b1 z (xs ++ ys)
      = ((sectionRun a0 a1 b1 z xs).1 ++ (sectionRun a0 a1 b1 (sectionRun a0 a1 b1 z xs).2 ys).1,
         (sectionRun a0 a1 b1 (sectionRun a0 a1 b1 z xs).2 ys).2) := by
  induction xs generalizing z with
  | nil => rfl
  | cons x xs ih =>
    rw [List.cons_append, sectionRun_cons, ih, sectionRun_cons]
    rfl

theorem sectionRun_length (a0 a1 b1 z : α) (xs : List α) :
    (sectionRun a0 a1 b1 z xs).1.length = xs.length := by
  induction xs generalizing z with
  | nil => rfl
  | cons x xs ih => rw [sectionRun_cons, List.length_cons, List.length_cons, ih]

theorem cascadeRun_nil (xs : List α) : cascadeRun ([] : List (Section α)) xs = (xs, []) := rfl

theorem cascadeRun_cons (s : Section α) (ss : List (Section α)) (xs : List α) :
    cascadeRun (s :: ss) xs
      = ((cascadeRun ss (sectionRun s.a0 s.a1 s.b1 s.z xs).1).1,
         { s with z := (sectionRun s.a0 s.a1 s.b1 s.z xs).2 }
            :: (cascadeRun ss (sectionRun s.a0 s.a1 s.b1 s.z xs).1).2) := rfl

theorem cascadeRun_append (secs : List (Section α)) (xs ys : List α) :
    cascadeRun secs (xs ++ ys)
      = ((cascadeRun secs xs).1 ++ (cascadeRun (cascadeRun secs xs).2 ys).1,
         (cascadeRun (cascadeRun secs xs).2 ys).2) := by
  induction secs generalizing xs ys with
  | nil => rfl
  | cons s ss ih =>
    rw [cascadeRun_cons, sectionRun_append, ih, cascadeRun_cons, cascadeRun_cons]

theorem cascadeRun_nil_block (secs : List (Section α)) : cascadeRun secs [] = ([], secs) := by
  induction secs with
  | nil => rfl
  | cons s ss ih => rw [cascadeRun_cons, sectionRun_nil, ih]

theorem cascadeRun_length (secs : List (Section α)) (xs : List α) :
    (cascadeRun secs xs).1.length = xs.length := by
  induction secs generalizing xs with
  | nil => rfl
  | cons s ss ih => rw [cascadeRun_cons, ih, sectionRun_length]

omit [RealLike α] in
theorem runRequests_nil {σ : Type} (step : σ → ℕ → List α × σ) (s : σ) :
    runRequests step s [] = ([], s) := rfl

omit [RealLike α] in
theorem runRequests_cons {σ : Type} (step : σ → ℕ → List α × σ) (s : σ) (n : ℕ) (ns : List ℕ) :
    runRequests step s (n :: ns)
      = ((step s n).1 ++ (runRequests step (step s n).2 ns).1,
         (runRequests step (step s n).2 ns).2) := rfl

/-- a step function that is additive in the request size: a zero request does nothing, and a request of `n + m` is a request of
    `n` followed by one of `m` -/
def AdditiveStep {σ : Type} (step : σ → ℕ → List α × σ) : Prop :=
  (∀ s, step s 0 = ([], s)) ∧
  ∀ s n m, step s (n + m) = ((step s n).1 ++ (step (step s n).2 m).1, (step (step s n).2 m).2)

omit [RealLike α] in
/-- an additive step function is chunk invariant: any sequence of request sizes (zeros and ones included) gives the same samples
    and the same final state as one request of the total length -/
theorem runRequests_of_additive {σ : Type} (step : σ → ℕ → List α × σ) (h : AdditiveStep step)
    (s : σ) (ns : List ℕ) : runRequests step s ns = step s ns.sum := by
  induction ns generalizing s with
  | nil => rw [runRequests_nil, List.sum_nil, h.1]
  | cons n ns ih => rw [runRequests_cons, ih, List.sum_cons, h.2]

theorem whiteSeries_additive (xi : ℕ → α) (rms : α) : AdditiveStep (whiteSeries xi rms) := by
  refine ⟨fun _ => rfl, fun s n m => ?_⟩
  simp only [whiteSeries, List.range_add, List.map_append, List.map_map, Nat.add_assoc]
  rfl

theorem white_chunking (xi : ℕ → α) (rms : α) (s : WhiteSt) (ns : List ℕ) :
    runRequests (whiteSeries xi rms) s ns = whiteSeries xi rms s ns.sum :=
  runRequests_of_additive _ (whiteSeries_additive xi rms) s ns

theorem redSeries_pos {xi : ℕ → α} {rms c e scaling : α} {s : RedSt α} {n : ℕ} (hn : n ≠ 0) :
    redSeries xi rms c e scaling s n
      = (((sectionRun c RealLike.zero (RealLike.zero - e) s.zi (whiteSeries xi rms s.w n).1).1).map
            (fun y => y * scaling),
         { w := (whiteSeries xi rms s.w n).2,
           zi := (sectionRun c RealLike.zero (RealLike.zero - e) s.zi
                    (whiteSeries xi rms s.w n).1).2 }) := by
  unfold redSeries
  rw [if_neg hn]

theorem redSeries_additive (xi : ℕ → α) (rms c e scaling : α) : AdditiveStep (redSeries xi rms c e scaling) := by
  have h0 : ∀ s, redSeries xi rms c e scaling s 0 = ([], s) := fun _ => rfl
  refine ⟨h0, fun s n m => ?_⟩
  by_cases hn : n = 0
  · subst hn
    rw [Nat.zero_add, h0]
    rfl
  by_cases hm : m = 0
  · subst hm
    rw [Nat.add_zero, h0, List.append_nil]
  have hnm : n + m ≠ 0 := by omega
  rw [redSeries_pos hnm, redSeries_pos hn,
    redSeries_pos hm, (whiteSeries_additive xi rms).2, sectionRun_append, List.map_append]

theorem red_chunking (xi : ℕ → α) (rms c e scaling : α) (s : RedSt α) (ns : List ℕ) :
    runRequests (redSeries xi rms c e scaling) s ns = redSeries xi rms c e scaling s ns.sum :=
  runRequests_of_additive _ (redSeries_additive xi rms c e scaling) s ns

theorem alphaSeries_eq (xi : ℕ → α) (rms scaling : α) (s : AlphaSt α) (n : ℕ) :
    alphaSeries xi rms scaling s n
      = (((cascadeRun s.secs (whiteSeries xi rms s.w n).1).1).map (fun y => y * scaling),
         { w := (whiteSeries xi rms s.w n).2,
           secs := (cascadeRun s.secs (whiteSeries xi rms s.w n).1).2 }) := rfl

theorem alphaSeries_additive (xi : ℕ → α) (rms scaling : α) : AdditiveStep (alphaSeries xi rms scaling) := by
  refine ⟨fun s => ?_, fun s n m => ?_⟩
  · rw [alphaSeries_eq, (whiteSeries_additive xi rms).1, cascadeRun_nil_block]
    rfl
  · simp only [alphaSeries_eq]
    rw [(whiteSeries_additive xi rms).2, cascadeRun_append, List.map_append]

theorem alpha_chunking (xi : ℕ → α) (rms scaling : α) (s : AlphaSt α) (ns : List ℕ) :
    runRequests (alphaSeries xi rms scaling) s ns = alphaSeries xi rms scaling s ns.sum :=
  runRequests_of_additive _ (alphaSeries_additive xi rms scaling) s ns

/-- `k` successive `getSample` calls: the samples returned and the (generator state, unread buffer) left -/
def sampleRun {σ : Type} (step : σ → ℕ → List α × σ) (bufSize : ℕ) :
    ℕ → σ × List α → List (Option α) × (σ × List α)
  | 0, st => ([], st)
  | k + 1, st =>
    let r := getSample step bufSize st
    let rest := sampleRun step bufSize k r.2
    (r.1 :: rest.1, rest.2)

omit [RealLike α] in
theorem sampleRun_succ {σ : Type} (step : σ → ℕ → List α × σ) (bufSize k : ℕ) (st : σ × List α) :
    sampleRun step bufSize (k + 1) st
      = ((getSample step bufSize st).1 :: (sampleRun step bufSize k (getSample step bufSize st).2).1,
         (sampleRun step bufSize k (getSample step bufSize st).2).2) := rfl

omit [RealLike α] in
theorem getSample_cons {σ : Type} (step : σ → ℕ → List α × σ) (bufSize : ℕ) (s : σ) (x : α)
    (rest : List α) : getSample step bufSize (s, x :: rest) = (some x, (s, rest)) := rfl

theorem range_succ_map {β : Type} (f : ℕ → β) (m : ℕ) :
    (List.range (m + 1)).map f = f 0 :: (List.range m).map (fun i => f (i + 1)) := by
  rw [List.range_succ_eq_map, List.map_cons, List.map_map]
  rfl

/-- invariant of the buffered white generator: the unread buffer is the next `m` scaled draws
    starting at stream position `j`, and the generator cursor sits at `j + m` -/
theorem white_sample_runs_aux (xi : ℕ → α) (rms : α) (bufSize : ℕ) (hb : 0 < bufSize) (k : ℕ) :
    ∀ (j m : ℕ),
      (sampleRun (whiteSeries xi rms) bufSize k
          (⟨j + m⟩, (List.range m).map (fun i => rms * xi (j + i)))).1
        = (List.range k).map (fun i => some (rms * xi (j + i))) := by
  induction k with
  | zero => intro j m; rfl
  | succ k ih =>
    intro j m
    rw [sampleRun_succ, range_succ_map (fun i => some (rms * xi (j + i)))]
    cases m with
    | succ m =>
      rw [range_succ_map (fun i => rms * xi (j + i)), getSample_cons]
      have h := ih (j + 1) m
      simp only [Nat.add_assoc, Nat.add_comm 1] at h ⊢
      rw [h]
    | zero =>
      obtain ⟨b, rfl⟩ : ∃ b, bufSize = b + 1 := ⟨bufSize - 1, by omega⟩
      have hg : getSample (whiteSeries xi rms) (b + 1) (⟨j + 0⟩, [])
          = (some (rms * xi (j + 0)),
              (⟨j + (b + 1)⟩, (List.range b).map (fun i => rms * xi (j + (i + 1))))) := by
        show (match (whiteSeries xi rms ⟨j + 0⟩ (b + 1)).1 with
          | [] => (none, ((whiteSeries xi rms ⟨j + 0⟩ (b + 1)).2, []))
          | y :: rest => (some y, ((whiteSeries xi rms ⟨j + 0⟩ (b + 1)).2, rest))) = _
        simp only [whiteSeries, Nat.add_zero, List.range_succ_eq_map, List.map_cons, List.map_map]
        rfl
      rw [List.range_zero, List.map_nil, hg]
      have h := ih (j + 1) b
      simp only [Nat.add_assoc, Nat.add_comm 1] at h ⊢
      rw [h]

theorem white_sample_runs (xi : ℕ → α) (rms : α) (bufSize : ℕ) (hb : 0 < bufSize) (k : ℕ) :
    (sampleRun (whiteSeries xi rms) bufSize k (⟨0⟩, [])).1
      = (List.range k).map (fun i => some (rms * xi i)) := by
  have h := white_sample_runs_aux xi rms bufSize hb k 0 0
  simpa only [Nat.zero_add, Nat.add_zero, List.range_zero, List.map_nil] using h

end Model

theorem sectionRun_first (a0 a1 b1 z x : ℝ) (xs : List ℝ) :
    ((Model.sectionRun a0 a1 b1 z (x :: xs)).1).head? = some (a0 * x + z) := rfl

/-- outputs of a section satisfy y₀ = a0·x₀ + z and yₙ = a0·xₙ + a1·xₙ₋₁ − b1·yₙ₋₁ -/
theorem sectionRun_direct_form (a0 a1 b1 z : ℝ) (xs : List ℝ) (n : ℕ) (hn : n + 1 < xs.length) :
    let ys := (Model.sectionRun a0 a1 b1 z xs).1
    ys.getD (n+1) 0 = a0 * xs.getD (n+1) 0 + a1 * xs.getD n 0 - b1 * ys.getD n 0 := by
  induction n generalizing z xs with
  | zero =>
    match xs, hn with
    | x :: x' :: rest, _ =>
      simp only [Model.sectionRun_cons, List.getD_cons_succ, List.getD_cons_zero]
      ring
  | succ n ih =>
    match xs, hn with
    | x :: x' :: rest, hn =>
      have h := ih (a1 * x - b1 * (a0 * x + z)) (x' :: rest) (by simpa using hn)
      rw [Model.sectionRun_cons a0 a1 b1 z x]
      simp only [List.getD_cons_succ] at h ⊢
      exact h

#print axioms Model.sectionRun_append
#print axioms Model.sectionRun_length
#print axioms Model.sectionRun_nil
#print axioms Model.cascadeRun_append
#print axioms Model.cascadeRun_nil_block
#print axioms Model.white_chunking
#print axioms Model.red_chunking
#print axioms Model.alpha_chunking
#print axioms Model.white_sample_runs
#print axioms sectionRun_direct_form
#print axioms sectionRun_first
