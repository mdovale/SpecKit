/-
  SpecKitV.Lemmas.DelayEff — property C07, every detrending order: the detrended windowed DFT
  `Model.segDFT order Q x s L w ω` is a linear functional of the raw samples,
  `X = Σ_n effWin n · x(s+n)` with the EFFECTIVE complex window `u = (I − P)(w ⊙ e^{−iω·})`
  (`P` the symmetric projection `Q Qᵀ`, resp. the mean for order 0).  No orthogonality of `Q` is
  used: the step is a swap of finite sums.

  The delay statements are therefore about an arbitrary complex window `u`: `Y − e^{−iωd} X` is one
  linear functional `Σ_{k<L+d} c_k · x(s+k−d)` of the samples (`delayCoeffs`), the bounds are
  Hölder's inequality for it, and the three-sum form is `c` cut at `d` and at `L`.
-/
import SpecKitV.Lemmas.Sinusoid
open Finset

/-- effective (complex) window of the detrended windowed DFT: X = Σ_n effWin n · x(s+n); branches as in `Model.detr` -/
noncomputable def effWin (order : ℤ) (Q : ℕ → ℕ → ℝ) (L : ℕ) (w : ℕ → ℝ) (ω : ℝ) (n : ℕ) : ℂ :=
  let e : ℕ → ℂ := fun m => (w m : ℂ) * Complex.exp (-(ω * (m : ℝ) * Complex.I))
  if order = -1 then e n
  else if order = 0 then e n - (∑ m ∈ Finset.range L, e m) / L
  else e n - ∑ k ∈ Finset.range (order + 1).toNat, (Q n k : ℂ) * ∑ m ∈ Finset.range L, (Q m k : ℂ) * e m

theorem effWin_neg_one (Q : ℕ → ℕ → ℝ) (L : ℕ) (w : ℕ → ℝ) (ω : ℝ) (n : ℕ) :
    effWin (-1) Q L w ω n = (w n : ℂ) * Complex.exp (-(ω * (n : ℝ) * Complex.I)) := by
  simp only [effWin, if_true]

/-- `I − QQᵀ` moves from the samples to the window -/
theorem proj_swap (L p : ℕ) (q : ℕ → ℕ → ℂ) (e x : ℕ → ℂ) :
    (∑ n ∈ range L, e n * (x n - ∑ k ∈ range p, q n k * ∑ m ∈ range L, q m k * x m))
      = ∑ n ∈ range L, (e n - ∑ k ∈ range p, q n k * ∑ m ∈ range L, q m k * e m) * x n := by
  -- `eᵀ(QQᵀx) = (Qᵀe)·(Qᵀx)`, which is symmetric in `e` and `x`
  have h : ∀ e x : ℕ → ℂ, (∑ n ∈ range L, e n * ∑ k ∈ range p, q n k * ∑ m ∈ range L, q m k * x m)
      = ∑ k ∈ range p, (∑ m ∈ range L, q m k * e m) * ∑ m ∈ range L, q m k * x m := by
    intro e x
    simp only [Finset.mul_sum (s := range p)]
    rw [Finset.sum_comm]
    refine Finset.sum_congr rfl (fun k _ => ?_)
    rw [Finset.sum_mul]
    exact Finset.sum_congr rfl (fun n _ => by ring)
  simp only [mul_sub, sub_mul, Finset.sum_sub_distrib]
  congr 1
  calc _ = ∑ k ∈ range p, (∑ m ∈ range L, q m k * x m) * ∑ m ∈ range L, q m k * e m :=
        (h e x).trans (Finset.sum_congr rfl (fun k _ => mul_comm _ _))
    _ = _ := (h x e).symm.trans (Finset.sum_congr rfl (fun n _ => mul_comm _ _))

/-- and so does mean removal -/
theorem mean_swap (L : ℕ) (e x : ℕ → ℂ) :
    (∑ n ∈ range L, e n * (x n - (∑ m ∈ range L, x m) / L))
      = ∑ n ∈ range L, (e n - (∑ m ∈ range L, e m) / L) * x n := by
  simp only [mul_sub, sub_mul, Finset.sum_sub_distrib]
  congr 1
  rw [← Finset.sum_mul, ← Finset.mul_sum]
  ring

theorem segDFT_effWin (order : ℤ) (Q : ℕ → ℕ → ℝ) (x : ℕ → ℝ) (s L : ℕ) (w : ℕ → ℝ) (ω : ℝ) :
    Cx.toC (Model.segDFT order Q x s L w ω) = ∑ n ∈ Finset.range L, effWin order Q L w ω n * (x (s + n) : ℂ) := by
  have h : Cx.toC (Model.segDFT order Q x s L w ω)
      = ∑ n ∈ range L, ((w n : ℂ) * Complex.exp (-(ω * (n : ℝ) * Complex.I)))
          * ((Model.detr order Q x s L n : ℝ) : ℂ) := by
    rw [segDFT_toC]
    exact Finset.sum_congr rfl (fun n _ => by push_cast; ring)
  rw [h]
  by_cases h1 : order = -1
  · subst h1
    simp only [effWin_neg_one, detr_neg_one]
  by_cases h0 : order = 0
  · subst h0
    simp only [effWin, h1, if_false, if_true, detr0_eq]
    rw [← mean_swap]
    refine Finset.sum_congr rfl (fun n _ => ?_)
    push_cast
    rfl
  · simp only [effWin, h1, h0, if_false, detr_gen_eq order h1 h0]
    rw [← proj_swap]
    refine Finset.sum_congr rfl (fun n _ => ?_)
    push_cast
    rfl

/-- the coefficient vector of `vk/props/C07.py: delay_coeffs`:
    `c[:L] += u ; c[d:] -= e^{−iωd}·u`  (length L + d) -/
noncomputable def delayCoeffs (u : ℕ → ℂ) (ω : ℝ) (d L : ℕ) (k : ℕ) : ℂ :=
  (if k < L then u k else 0) - (if d ≤ k then Complex.exp (-(ω * d * Complex.I)) * u (k - d) else 0)

theorem delayCoeffs_of_lt (u : ℕ → ℂ) (ω : ℝ) {d L k : ℕ} (hk : k < d) (hdL : d ≤ L) :
    delayCoeffs u ω d L k = u k := by
  rw [delayCoeffs, if_pos (hk.trans_le hdL), if_neg hk.not_ge, sub_zero]

theorem delayCoeffs_add (u : ℕ → ℂ) (ω : ℝ) (d L m : ℕ) :
    delayCoeffs u ω d L (m + d)
      = (if m + d < L then u (m + d) else 0) - Complex.exp (-(ω * d * Complex.I)) * u m := by
  rw [delayCoeffs, if_pos (Nat.le_add_left d m), Nat.add_sub_cancel]

/-- the truncated subtraction `s + k − d` is the model input's own, so `d ≤ s` is not needed -/
theorem delay_coeffs_identity_sub (u : ℕ → ℂ) (x : ℕ → ℝ) (d s L : ℕ) (ω : ℝ) :
    (∑ n ∈ range L, u n * (x (s + n - d) : ℂ))
      - Complex.exp (-(ω * d * Complex.I)) * ∑ n ∈ range L, u n * (x (s + n) : ℂ)
    = ∑ k ∈ range (L + d), delayCoeffs u ω d L k * (x (s + k - d) : ℂ) := by
  simp only [delayCoeffs, sub_mul, Finset.sum_sub_distrib]
  congr 1
  · rw [Finset.sum_range_add, Finset.sum_eq_zero (s := range d) (fun k _ => by
      rw [if_neg (Nat.not_lt.2 (Nat.le_add_right L k)), zero_mul]), add_zero]
    exact Finset.sum_congr rfl (fun n hn => by rw [if_pos (Finset.mem_range.mp hn)])
  · rw [Nat.add_comm L d, Finset.sum_range_add, Finset.sum_eq_zero (s := range d) (fun k hk => by
      rw [if_neg (Nat.not_le.2 (Finset.mem_range.mp hk)), zero_mul]), zero_add, Finset.mul_sum]
    refine Finset.sum_congr rfl (fun m _ => ?_)
    rw [if_pos (Nat.le_add_right d m), Nat.add_sub_cancel_left, ← Nat.add_assoc, Nat.add_right_comm,
      Nat.add_sub_cancel]
    exact (mul_assoc (Complex.exp _) (u m) _).symm

/-- single-sum form of the delay identity (d ≤ s; NO restriction d ≤ L) -/
theorem delay_coeffs_identity (u : ℕ → ℂ) (x : ℕ → ℝ) (d s L : ℕ) (hds : d ≤ s) (ω : ℝ) :
    (∑ n ∈ range L, u n * (x (s + n - d) : ℂ))
      - Complex.exp (-(ω * d * Complex.I)) * ∑ n ∈ range L, u n * (x (s + n) : ℂ)
    = ∑ k ∈ range (L + d), delayCoeffs u ω d L k * (x (s - d + k) : ℂ) := by
  rw [delay_coeffs_identity_sub]
  exact Finset.sum_congr rfl (fun k _ => by rw [Nat.sub_add_comm hds])

/-- `c` cut at `d` and at `L` (d ≤ L): head `u`, middle `u(·+d) − e^{−iωd} u`, tail `−e^{−iωd} u` -/
theorem sum_delayCoeffs {M : Type} [AddCommMonoid M] (F : ℕ → ℂ → M) (u : ℕ → ℂ) (ω : ℝ)
    (d L : ℕ) (hdL : d ≤ L) :
    ∑ k ∈ range (L + d), F k (delayCoeffs u ω d L k)
      = (∑ m ∈ range (L - d), F (m + d) (u (m + d) - Complex.exp (-(ω * d * Complex.I)) * u m))
        + (∑ n ∈ range d, F n (u n))
        + ∑ m ∈ Ico (L - d) L, F (m + d) (-(Complex.exp (-(ω * d * Complex.I)) * u m)) := by
  rw [Nat.add_comm L d, Finset.sum_range_add, ← Finset.sum_range_add_sum_Ico _ (Nat.sub_le L d),
    add_left_comm, ← add_assoc]
  congr 1
  · congr 1
    · refine Finset.sum_congr rfl (fun m hm => ?_)
      have := Finset.mem_range.mp hm
      rw [Nat.add_comm d m, delayCoeffs_add, if_pos (by omega)]
    · exact Finset.sum_congr rfl (fun n hn => by
        rw [delayCoeffs_of_lt u ω (Finset.mem_range.mp hn) hdL])
  · refine Finset.sum_congr rfl (fun m hm => ?_)
    have := (Finset.mem_Ico.mp hm).1
    rw [Nat.add_comm d m, delayCoeffs_add, if_neg (by omega), zero_sub]

/-- the ℓ1 norm of the oracle's coefficient vector is the three-sum expression of `delay_bound_eff`
    (the tail carries `‖e^{−iωd} u m‖ = ‖u m‖`) -/
theorem delayCoeffs_l1 (u : ℕ → ℂ) (ω : ℝ) (d L : ℕ) (hdL : d ≤ L) :
    (∑ k ∈ range (L + d), ‖delayCoeffs u ω d L k‖)
      = (∑ m ∈ range (L - d), ‖u (m + d) - Complex.exp (-(ω * d * Complex.I)) * u m‖)
          + (∑ n ∈ range d, ‖u n‖) + (∑ m ∈ Ico (L - d) L, ‖u m‖) := by
  rw [sum_delayCoeffs (fun _ c => ‖c‖) u ω d L hdL]
  simp only [norm_neg, norm_mul, Sinusoid.norm_exp_neg_mul_nat_I, one_mul]

/-- the delay identity for ANY complex window u (d ≤ L) -/
theorem delay_decomposition_eff (u : ℕ → ℂ) (x : ℕ → ℝ) (d s L : ℕ) (hdL : d ≤ L) (ω : ℝ) :
    (∑ n ∈ Finset.range L, u n * (x (s + n - d) : ℂ))
      - Complex.exp (-(ω * d * Complex.I)) * ∑ n ∈ Finset.range L, u n * (x (s + n) : ℂ)
    = (∑ m ∈ Finset.range (L - d), (u (m + d) - Complex.exp (-(ω * d * Complex.I)) * u m) * (x (s + m) : ℂ))
      + (∑ n ∈ Finset.range d, u n * (x (s + n - d) : ℂ))
      - Complex.exp (-(ω * d * Complex.I)) * ∑ m ∈ Finset.Ico (L - d) L, u m * (x (s + m) : ℂ) := by
  rw [delay_coeffs_identity_sub, sum_delayCoeffs (fun k c => c * (x (s + k - d) : ℂ)) u ω d L hdL,
    Finset.mul_sum, sub_eq_add_neg, ← Finset.sum_neg_distrib]
  simp only [← Nat.add_assoc, Nat.add_sub_cancel, neg_mul, mul_assoc]

theorem norm_sum_mul_ofReal_le {S : Finset ℕ} {a : ℕ → ℂ} {r : ℕ → ℝ} {B : ℝ}
    (h : ∀ i ∈ S, |r i| ≤ B) : ‖∑ i ∈ S, a i * (r i : ℂ)‖ ≤ B * ∑ i ∈ S, ‖a i‖ := by
  rw [Finset.mul_sum]
  refine norm_sum_le_of_le _ (fun i hi => ?_)
  rw [norm_mul, Complex.norm_real, Real.norm_eq_abs, mul_comm]
  exact mul_le_mul_of_nonneg_right (h i hi) (norm_nonneg _)

theorem delay_bound_eff (u : ℕ → ℂ) (x : ℕ → ℝ) (d s L : ℕ) (hdL : d ≤ L) (ω : ℝ) (B : ℝ) (hB : ∀ n, |x n| ≤ B) :
    ‖(∑ n ∈ Finset.range L, u n * (x (s + n - d) : ℂ))
      - Complex.exp (-(ω * d * Complex.I)) * ∑ n ∈ Finset.range L, u n * (x (s + n) : ℂ)‖
    ≤ B * ((∑ m ∈ Finset.range (L - d), ‖u (m + d) - Complex.exp (-(ω * d * Complex.I)) * u m‖)
          + (∑ n ∈ Finset.range d, ‖u n‖) + (∑ m ∈ Finset.Ico (L - d) L, ‖u m‖)) := by
  rw [delay_coeffs_identity_sub, ← delayCoeffs_l1 u ω d L hdL]
  exact norm_sum_mul_ofReal_le fun k _ => hB _

section
set_option linter.unusedVariables false  -- `hds` (`delay_coeffs_identity_sub` needs none); the checks list the statement with it

/-- the delayed channel vs the phase-rotated undelayed one, any detrending order -/
theorem delay_bound_any_order (order : ℤ) (Q : ℕ → ℕ → ℝ) (x : ℕ → ℝ) (d s L : ℕ) (hds : d ≤ s) (hdL : d ≤ L)
    (w : ℕ → ℝ) (ω : ℝ) (B : ℝ) (hB : ∀ n, |x n| ≤ B) :
    let u := effWin order Q L w ω
    ‖Cx.toC (Model.segDFT order Q (fun n => x (n - d)) s L w ω)
        - Complex.exp (-(ω * d * Complex.I)) * Cx.toC (Model.segDFT order Q x s L w ω)‖
      ≤ B * ((∑ m ∈ Finset.range (L - d), ‖u (m + d) - Complex.exp (-(ω * d * Complex.I)) * u m‖)
            + (∑ n ∈ Finset.range d, ‖u n‖) + (∑ m ∈ Finset.Ico (L - d) L, ‖u m‖)) := by
  intro u
  rw [segDFT_effWin, segDFT_effWin]
  exact delay_bound_eff u x d s L hdL ω B hB

end

/-- Hölder-∞ bound in the oracle's arrangement (`E1 = Σ|c|`), no restriction d ≤ L -/
theorem delay_bound_coeffs_l1 (u : ℕ → ℂ) (x : ℕ → ℝ) (d s L : ℕ) (hds : d ≤ s) (ω : ℝ) (B : ℝ)
    (hB : ∀ k < L + d, |x (s - d + k)| ≤ B) :
    ‖(∑ n ∈ range L, u n * (x (s + n - d) : ℂ))
      - Complex.exp (-(ω * d * Complex.I)) * ∑ n ∈ range L, u n * (x (s + n) : ℂ)‖
    ≤ B * ∑ k ∈ range (L + d), ‖delayCoeffs u ω d L k‖ := by
  rw [delay_coeffs_identity u x d s L hds ω]
  exact norm_sum_mul_ofReal_le fun k hk => hB k (Finset.mem_range.mp hk)

/-- Hölder-2 (Cauchy–Schwarz) bound in the oracle's arrangement (`E2 = ‖c‖₂`) -/
theorem delay_bound_coeffs_l2 (u : ℕ → ℂ) (x : ℕ → ℝ) (d s L : ℕ) (hds : d ≤ s) (ω : ℝ) :
    ‖(∑ n ∈ range L, u n * (x (s + n - d) : ℂ))
      - Complex.exp (-(ω * d * Complex.I)) * ∑ n ∈ range L, u n * (x (s + n) : ℂ)‖
    ≤ Real.sqrt (∑ k ∈ range (L + d), ‖delayCoeffs u ω d L k‖ ^ 2)
        * Real.sqrt (∑ k ∈ range (L + d), x (s - d + k) ^ 2) := by
  rw [delay_coeffs_identity u x d s L hds ω]
  have h := Real.sum_mul_le_sqrt_mul_sqrt (range (L + d))
    (fun k => ‖delayCoeffs u ω d L k‖) (fun k => |x (s - d + k)|)
  simp only [sq_abs] at h
  refine (norm_sum_le_of_le _ (fun k _ => ?_)).trans h
  rw [norm_mul, Complex.norm_real, Real.norm_eq_abs]

/-- both Hölder bounds for the model's detrended DFT, any order, in the oracle's arrangement -/
theorem delay_bound_any_order_l1 (order : ℤ) (Q : ℕ → ℕ → ℝ) (x : ℕ → ℝ) (d s L : ℕ) (hds : d ≤ s)
    (w : ℕ → ℝ) (ω : ℝ) (B : ℝ) (hB : ∀ k < L + d, |x (s - d + k)| ≤ B) :
    ‖Cx.toC (Model.segDFT order Q (fun n => x (n - d)) s L w ω)
        - Complex.exp (-(ω * d * Complex.I)) * Cx.toC (Model.segDFT order Q x s L w ω)‖
      ≤ B * ∑ k ∈ range (L + d), ‖delayCoeffs (effWin order Q L w ω) ω d L k‖ := by
  rw [segDFT_effWin, segDFT_effWin]
  exact delay_bound_coeffs_l1 _ x d s L hds ω B hB

theorem delay_bound_any_order_l2 (order : ℤ) (Q : ℕ → ℕ → ℝ) (x : ℕ → ℝ) (d s L : ℕ) (hds : d ≤ s)
    (w : ℕ → ℝ) (ω : ℝ) :
    ‖Cx.toC (Model.segDFT order Q (fun n => x (n - d)) s L w ω)
        - Complex.exp (-(ω * d * Complex.I)) * Cx.toC (Model.segDFT order Q x s L w ω)‖
      ≤ Real.sqrt (∑ k ∈ range (L + d), ‖delayCoeffs (effWin order Q L w ω) ω d L k‖ ^ 2)
          * Real.sqrt (∑ k ∈ range (L + d), x (s - d + k) ^ 2) := by
  rw [segDFT_effWin, segDFT_effWin]
  exact delay_bound_coeffs_l2 _ x d s L hds ω

#print axioms segDFT_effWin
#print axioms delay_decomposition_eff
#print axioms delay_bound_eff
#print axioms delay_bound_any_order
#print axioms delay_coeffs_identity
#print axioms delayCoeffs_l1
#print axioms delay_bound_coeffs_l1
#print axioms delay_bound_coeffs_l2
#print axioms delay_bound_any_order_l1
#print axioms delay_bound_any_order_l2
