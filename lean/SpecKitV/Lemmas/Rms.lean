/-
  Band-limited RMS (`Model.integralRms`), trapezoid sums, order-0 detrend
  and `np.interp`, at `α := ℝ`.
-/
import SpecKitV.RealInst
import SpecKitV.Model.Dsp

namespace RmsAux

/-- trapezoid integral of the squared integrand -/
noncomputable def T (l : List (ℝ × ℝ)) : ℝ := Model.trapz (l.map (fun p => (p.1, p.2 * p.2)))

/-- strictly increasing frequencies -/
def Srt (l : List (ℝ × ℝ)) : Prop := (l.map Prod.fst).Pairwise (· < ·)

theorem trapz_nil : Model.trapz ([] : List (ℝ × ℝ)) = 0 := by
  simp [Model.trapz]

theorem trapz_single (p : ℝ × ℝ) : Model.trapz [p] = 0 := by
  simp [Model.trapz]

theorem trapz_cons_cons (p q : ℝ × ℝ) (r : List (ℝ × ℝ)) :
    Model.trapz (p :: q :: r) = (q.1 - p.1) * (p.2 + q.2) / 2 + Model.trapz (q :: r) := by
  obtain ⟨f0, y0⟩ := p
  obtain ⟨f1, y1⟩ := q
  simp [Model.trapz]

theorem T_nil : T [] = 0 := trapz_nil
theorem T_single (p : ℝ × ℝ) : T [p] = 0 := trapz_single _
theorem T_cons_cons (p q : ℝ × ℝ) (r : List (ℝ × ℝ)) :
    T (p :: q :: r) = (q.1 - p.1) * (p.2 * p.2 + q.2 * q.2) / 2 + T (q :: r) := by
  simp only [T, List.map_cons, trapz_cons_cons]

theorem Srt.tail {p : ℝ × ℝ} {r : List (ℝ × ℝ)} (h : Srt (p :: r)) : Srt r := by
  simp only [Srt, List.map_cons, List.pairwise_cons] at h
  exact h.2

theorem Srt.sublist {l l' : List (ℝ × ℝ)} (h : Srt l) (hl : l'.Sublist l) : Srt l' :=
  List.Pairwise.sublist (hl.map _) h

theorem Srt.filter {l : List (ℝ × ℝ)} (h : Srt l) (P : ℝ × ℝ → Bool) : Srt (l.filter P) :=
  h.sublist List.filter_sublist

theorem Srt.lt_of_mem {p q : ℝ × ℝ} {r : List (ℝ × ℝ)} (h : Srt (p :: r)) (hq : q ∈ r) : p.1 < q.1 := by
  simp only [Srt, List.map_cons, List.pairwise_cons] at h
  exact h.1 _ (List.mem_map_of_mem hq)

theorem T_nonneg : ∀ (l : List (ℝ × ℝ)), Srt l → 0 ≤ T l
  | [], _ => by rw [T_nil]
  | [_], _ => by rw [T_single]
  | p :: q :: r, h => by
    rw [T_cons_cons]
    have : 0 ≤ (q.1 - p.1) * (p.2 * p.2 + q.2 * q.2) / 2 :=
      div_nonneg (mul_nonneg (sub_nonneg.mpr (h.lt_of_mem List.mem_cons_self).le) (add_nonneg (mul_self_nonneg _) (mul_self_nonneg _))) zero_le_two
    exact add_nonneg this (T_nonneg (q :: r) h.tail)

end RmsAux

theorem trapz_append (l1 l2 : List (ℝ × ℝ)) (p : ℝ × ℝ) :
    Model.trapz (l1 ++ p :: l2) = Model.trapz (l1 ++ [p]) + Model.trapz (p :: l2) :=
  match l1 with
  | [] => by simp [RmsAux.trapz_single]
  | [q] => by
    simp only [List.cons_append, List.nil_append, RmsAux.trapz_cons_cons, RmsAux.trapz_single]; ring
  | q :: r :: l1 => by
    have ih := trapz_append (r :: l1) l2 p
    simp only [List.cons_append] at ih ⊢
    rw [RmsAux.trapz_cons_cons, RmsAux.trapz_cons_cons, ih]; ring

namespace RmsAux

theorem T_append (l1 l2 : List (ℝ × ℝ)) (p : ℝ × ℝ) :
    T (l1 ++ p :: l2) = T (l1 ++ [p]) + T (p :: l2) := by
  simp only [T, List.map_append, List.map_cons, List.map_nil]
  exact trapz_append _ _ _

theorem T_snoc_ge (l : List (ℝ × ℝ)) (p : ℝ × ℝ) (h : Srt (l ++ [p])) : T l ≤ T (l ++ [p]) := by
  rcases List.eq_nil_or_concat' l with rfl | ⟨l', q, rfl⟩
  · simp [T_nil, T_single]
  · rw [List.append_assoc, List.singleton_append, T_append l' [p] q]
    exact le_add_of_nonneg_right (T_nonneg [q, p] (h.sublist (by simp)))

theorem T_add_le_append (l1 l2 : List (ℝ × ℝ)) (h : Srt (l1 ++ l2)) : T l1 + T l2 ≤ T (l1 ++ l2) := by
  cases l2 with
  | nil => simp [T_nil]
  | cons p l2 =>
    rw [T_append]
    exact add_le_add_left (T_snoc_ge l1 p (h.sublist (by simp))) _

/-- a strictly sorted list whose frequencies are all equal has at most one point -/
theorem T_eq_zero_of_const (l : List (ℝ × ℝ)) (h : Srt l) (c : ℝ) (hc : ∀ p ∈ l, p.1 = c) : T l = 0 := by
  match l, h, hc with
  | [], _, _ => exact T_nil
  | [_], _, _ => exact T_single _
  | p :: q :: r, h, hc =>
    exact absurd ((hc p (by simp)).trans (hc q (by simp)).symm) (h.lt_of_mem List.mem_cons_self).ne

/-- a fold that keeps the smaller element ends below every member; in the dual order: the larger, above -/
theorem foldl_keep_le {β : Type} [LinearOrder β] (xs : List β) (x : β) :
    ∀ v ∈ x :: xs, xs.foldl (fun m v => if decide (v < m) = true then v else m) x ≤ v := by
  simp only [decide_eq_true_eq, ← min_def_lt]
  induction xs generalizing x with
  | nil => exact fun v hv => (List.mem_singleton.mp hv).ge
  | cons y ys ih =>
    intro v hv
    rcases List.mem_cons.mp hv with rfl | hv
    · exact (ih _ _ List.mem_cons_self).trans (min_le_right y v)
    · rcases List.mem_cons.mp hv with rfl | hv
      · exact (ih _ _ List.mem_cons_self).trans (min_le_left v x)
      · exact ih _ v (List.mem_cons_of_mem _ hv)

theorem listMin_le (d : ℝ) (l : List ℝ) (v : ℝ) (hv : v ∈ l) : Model.listMin d l ≤ v := by
  cases l with
  | nil => simp at hv
  | cons x xs => exact foldl_keep_le xs x v hv

theorem le_listMax (d : ℝ) (l : List ℝ) (v : ℝ) (hv : v ∈ l) : v ≤ Model.listMax d l := by
  cases l with
  | nil => simp at hv
  | cons x xs => exact foldl_keep_le (β := ℝᵒᵈ) xs x v hv

/-- band membership test used by the model -/
noncomputable def band (lo hi : ℝ) (p : ℝ × ℝ) : Bool := decide (lo ≤ p.1) && decide (p.1 ≤ hi)

theorem band_iff {lo hi : ℝ} {p : ℝ × ℝ} : band lo hi p = true ↔ lo ≤ p.1 ∧ p.1 ≤ hi := by
  simp [band]

/-- the local `go` of `Model.integralRms` at ℝ -/
noncomputable def goR (pts : List (ℝ × ℝ)) (lo hi : ℝ) : ℝ :=
  if hi ≤ lo then 0
  else if (pts.filter (band lo hi)).isEmpty then 0
  else Real.sqrt (T (pts.filter (band lo hi)))

theorem goR_sq (pts : List (ℝ × ℝ)) (hs : Srt pts) (lo hi : ℝ) :
    (goR pts lo hi) ^ 2 = T (pts.filter (band lo hi)) := by
  unfold goR
  split_ifs with h he
  · -- every point kept has frequency `lo`
    refine (zero_pow two_ne_zero).trans (T_eq_zero_of_const _ (hs.filter _) lo fun p hp => ?_).symm
    have := band_iff.mp (List.mem_filter.mp hp).2
    exact le_antisymm (this.2.trans h) this.1
  · rw [List.isEmpty_iff.mp he, T_nil, zero_pow two_ne_zero]
  · exact Real.sq_sqrt (T_nonneg _ (hs.filter _))

/-- `f.min()` / `f.max()` as computed by the model -/
noncomputable def fmn (pts : List (ℝ × ℝ)) : ℝ := Model.listMin RealLike.zero (pts.map (·.1))
noncomputable def fmx (pts : List (ℝ × ℝ)) : ℝ := Model.listMax RealLike.zero (pts.map (·.1))

/-- left side: that `go` as it unfolds (a `let` has no name); the closing `rfl`: its filter test is `band`, its `trapz` is `T` -/
theorem integralRms_go_eq (pts : List (ℝ × ℝ)) (lo hi : ℝ) :
    (if RealLike.ge lo hi then RealLike.zero
      else
        if (pts.filter (fun p => RealLike.ge p.1 lo && RealLike.le p.1 hi)).isEmpty then RealLike.zero
        else RealLike.sqrt (Model.trapz ((pts.filter (fun p => RealLike.ge p.1 lo && RealLike.le p.1 hi)).map
          (fun p => (p.1, p.2 * p.2))))) = goR pts lo hi :=
  if_congr (by simp) RL.zero_eq (if_congr Iff.rfl RL.zero_eq rfl)

theorem integralRms_none_goR (pts : List (ℝ × ℝ)) :
    Model.integralRms pts none = some (goR pts (fmn pts) (fmx pts)) := by
  unfold Model.integralRms
  exact congrArg some (integralRms_go_eq pts _ _)

theorem integralRms_inverted {pts : List (ℝ × ℝ)} {a b : ℝ} (hab : b < a) : Model.integralRms pts (some (a, b)) = none := by
  unfold Model.integralRms
  exact if_pos (by simpa using hab)

theorem integralRms_some_goR {pts : List (ℝ × ℝ)} {a b : ℝ} (hab : a ≤ b) :
    Model.integralRms pts (some (a, b)) = some (goR pts (max (fmn pts) a) (min b (fmx pts))) := by
  unfold Model.integralRms
  have h : ¬ (RealLike.gt a b = true) := by simpa using hab
  simp only [if_neg h]
  refine congrArg some ((integralRms_go_eq pts _ _).trans ?_)
  rw [max_def_lt, min_def_lt]
  congr 1
  · exact if_congr (by simp [fmn]) rfl rfl
  · exact if_congr (by simp [fmx]) rfl rfl

theorem fmn_le (pts : List (ℝ × ℝ)) (p : ℝ × ℝ) (hp : p ∈ pts) : fmn pts ≤ p.1 :=
  listMin_le _ _ _ (List.mem_map_of_mem (f := fun q : ℝ × ℝ => q.1) hp)

theorem le_fmx (pts : List (ℝ × ℝ)) (p : ℝ × ℝ) (hp : p ∈ pts) : p.1 ≤ fmx pts :=
  le_listMax _ _ _ (List.mem_map_of_mem (f := fun q : ℝ × ℝ => q.1) hp)

theorem filter_congr_iff {P Q : ℝ × ℝ → Bool} {l : List (ℝ × ℝ)}
    (h : ∀ x ∈ l, (P x = true ↔ Q x = true)) : l.filter P = l.filter Q :=
  List.filter_congr (fun x hx => Bool.eq_iff_iff.mpr (h x hx))

theorem filter_clip (pts : List (ℝ × ℝ)) (a b : ℝ) :
    pts.filter (band (max (fmn pts) a) (min b (fmx pts))) = pts.filter (band a b) := by
  refine filter_congr_iff (fun p hp => ?_)
  rw [band_iff, band_iff, max_le_iff, le_min_iff]
  exact ⟨fun h => ⟨h.1.2, h.2.1⟩, fun h => ⟨⟨fmn_le pts p hp, h.1⟩, h.2, le_fmx pts p hp⟩⟩

theorem filter_full (pts : List (ℝ × ℝ)) : pts.filter (band (fmn pts) (fmx pts)) = pts := by
  rw [List.filter_eq_self]
  intro p hp
  exact band_iff.mpr ⟨fmn_le pts p hp, le_fmx pts p hp⟩

theorem Srt.append_cons {l1 l2 : List (ℝ × ℝ)} {p : ℝ × ℝ} (h : Srt (l1 ++ p :: l2)) :
    (∀ q ∈ l1, q.1 < p.1) ∧ (∀ q ∈ l2, p.1 < q.1) := by
  simp only [Srt, List.map_append, List.map_cons, List.pairwise_append, List.pairwise_cons,
    List.mem_map, List.mem_cons, forall_exists_index, and_imp, forall_apply_eq_imp_iff₂] at h
  exact ⟨fun q hq => h.2.2 q hq _ (Or.inl rfl), fun q hq => h.2.1.1 q hq⟩

theorem band_nil {l : List (ℝ × ℝ)} {a b : ℝ} (h : ∀ q ∈ l, q.1 < a ∨ b < q.1) :
    l.filter (band a b) = [] := by
  rw [List.filter_eq_nil_iff]
  intro q hq hb
  rw [band_iff] at hb
  exact (h q hq).elim (fun h => hb.1.not_gt h) (fun h => hb.2.not_gt h)

theorem band_left {l : List (ℝ × ℝ)} {a b : ℝ} (h : ∀ q ∈ l, q.1 ≤ b) :
    l.filter (band a b) = l.filter (fun q => decide (a ≤ q.1)) := by
  refine filter_congr_iff (fun q hq => ?_)
  rw [band_iff]; simp only [decide_eq_true_eq]
  exact ⟨fun h' => h'.1, fun h' => ⟨h', h q hq⟩⟩

theorem band_right {l : List (ℝ × ℝ)} {a b : ℝ} (h : ∀ q ∈ l, a ≤ q.1) :
    l.filter (band a b) = l.filter (fun q => decide (q.1 ≤ b)) := by
  refine filter_congr_iff (fun q hq => ?_)
  rw [band_iff]; simp only [decide_eq_true_eq]
  exact ⟨fun h' => h'.2, fun h' => ⟨h q hq, h'⟩⟩

theorem split_at (m : ℝ) : ∀ (l : List (ℝ × ℝ)), Srt l →
    ∃ l1 l2, l = l1 ++ l2 ∧ (∀ q ∈ l1, q.1 < m) ∧ (∀ q ∈ l2, m ≤ q.1)
  | [], _ => ⟨[], [], rfl, by simp, by simp⟩
  | x :: xs, h => by
    by_cases hx : x.1 < m
    · obtain ⟨l1, l2, e, h1, h2⟩ := split_at m xs h.tail
      refine ⟨x :: l1, l2, by rw [e]; rfl, ?_, h2⟩
      intro q hq
      rcases List.mem_cons.mp hq with rfl | hq
      · exact hx
      · exact h1 q hq
    · refine ⟨[], x :: xs, rfl, by simp, ?_⟩
      intro q hq
      rcases List.mem_cons.mp hq with rfl | hq
      · exact not_lt.mp hx
      · exact (not_lt.mp hx).trans (h.lt_of_mem hq).le

/-- the three band filters of `l1 ++ mid ++ l2`, where `l1` lies below the split point `m`, `mid` on it and `l2` above it -/
theorem band_blocks {l1 mid l2 : List (ℝ × ℝ)} {a m b : ℝ} (ham : a ≤ m) (hmb : m ≤ b) (h1 : ∀ q ∈ l1, q.1 < m)
    (hm : ∀ q ∈ mid, q.1 = m) (h2 : ∀ q ∈ l2, m < q.1) :
    (l1 ++ mid ++ l2).filter (band a m) = l1.filter (fun q => decide (a ≤ q.1)) ++ mid ∧
    (l1 ++ mid ++ l2).filter (band m b) = mid ++ l2.filter (fun q => decide (q.1 ≤ b)) ∧
    (l1 ++ mid ++ l2).filter (band a b)
      = l1.filter (fun q => decide (a ≤ q.1)) ++ mid ++ l2.filter (fun q => decide (q.1 ≤ b)) := by
  have hmid : ∀ a' b', a' ≤ m → m ≤ b' → mid.filter (band a' b') = mid := fun a' b' ha hb =>
    List.filter_eq_self.mpr (fun q hq => band_iff.mpr ⟨(hm q hq) ▸ ha, (hm q hq) ▸ hb⟩)
  refine ⟨?_, ?_, ?_⟩
  · rw [List.filter_append, List.filter_append, hmid a m ham le_rfl, band_left (fun q hq => (h1 q hq).le),
      band_nil (fun q hq => Or.inr (h2 q hq)), List.append_nil]
  · rw [List.filter_append, List.filter_append, hmid m b le_rfl hmb, band_right (fun q hq => (h2 q hq).le),
      band_nil (fun q hq => Or.inl (h1 q hq)), List.nil_append]
  · rw [List.filter_append, List.filter_append, hmid a b ham hmb, band_left (fun q hq => (h1 q hq).le.trans hmb),
      band_right (fun q hq => ham.trans (h2 q hq).le)]

theorem T_additive_at_grid (pts : List (ℝ × ℝ)) (hs : Srt pts) (a m b : ℝ) (ham : a ≤ m) (hmb : m ≤ b)
    (hm : m ∈ pts.map Prod.fst) :
    T (pts.filter (band a b)) = T (pts.filter (band a m)) + T (pts.filter (band m b)) := by
  obtain ⟨p, hp, rfl⟩ := List.mem_map.mp hm
  obtain ⟨l1, l2, rfl⟩ := List.append_of_mem hp
  obtain ⟨h1, h2⟩ := hs.append_cons
  obtain ⟨e1, e2, e3⟩ := band_blocks (mid := [p]) ham hmb h1 (fun q hq => by rw [List.mem_singleton.mp hq]) h2
  simp only [List.append_assoc, List.singleton_append] at e1 e2 e3
  rw [e1, e2, e3, T_append]

theorem T_superadditive (pts : List (ℝ × ℝ)) (hs : Srt pts) (a m b : ℝ) (ham : a ≤ m) (hmb : m ≤ b) :
    T (pts.filter (band a m)) + T (pts.filter (band m b)) ≤ T (pts.filter (band a b)) := by
  by_cases hm : m ∈ pts.map Prod.fst
  · exact (T_additive_at_grid pts hs a m b ham hmb hm).ge
  · have hsK := hs.filter (band a b)
    obtain ⟨l1, l2, rfl, h1, h2⟩ := split_at m pts hs
    have h2' : ∀ q ∈ l2, m < q.1 := fun q hq =>
      lt_of_le_of_ne (h2 q hq) (fun e => hm (e ▸ List.mem_map_of_mem (List.mem_append_right _ hq)))
    obtain ⟨e1, e2, e3⟩ := band_blocks (mid := []) ham hmb h1 (fun q hq => absurd hq List.not_mem_nil) h2'
    simp only [List.append_nil, List.nil_append] at e1 e2 e3
    rw [e3] at hsK
    rw [e1, e2, e3]
    exact T_add_le_append _ _ hsK

end RmsAux

open RmsAux

section
set_option linter.unusedVariables false  -- `hne` is idle: the checks list these statements (`vk/props/C19.py: THEOREMS`)

theorem trapz_sq_nonneg (pts : List (ℝ × ℝ)) (hs : (pts.map Prod.fst).Pairwise (· < ·)) :
    0 ≤ Model.trapz (pts.map (fun p => (p.1, p.2 * p.2))) :=
  T_nonneg pts hs

/-- squared band RMS as a plain function (0 when the function returns `none`) -/
noncomputable def rms2 (pts : List (ℝ × ℝ)) (a b : ℝ) : ℝ := ((Model.integralRms pts (some (a, b))).getD 0) ^ 2

theorem rms2_eq (pts : List (ℝ × ℝ)) (hs : (pts.map Prod.fst).Pairwise (· < ·)) (a b : ℝ) (hab : a ≤ b) :
    rms2 pts a b = T (pts.filter (band a b)) := by
  unfold rms2
  rw [integralRms_some_goR hab, Option.getD_some, goR_sq pts hs, filter_clip]

theorem rms2_nonneg (pts : List (ℝ × ℝ)) (a b : ℝ) : 0 ≤ rms2 pts a b := sq_nonneg _

/-- the RMS is the square root of the trapezoidal integral over the grid points inside the band -/
theorem integralRms_spec (pts : List (ℝ × ℝ)) (hne : pts ≠ []) (hs : (pts.map Prod.fst).Pairwise (· < ·)) (a b : ℝ) (hab : a ≤ b) :
    rms2 pts a b = Model.trapz ((pts.filter (fun p => decide (a ≤ p.1) && decide (p.1 ≤ b))).map (fun p => (p.1, p.2 * p.2))) :=
  rms2_eq pts hs a b hab

theorem integralRms_none (pts : List (ℝ × ℝ)) (hne : pts ≠ []) (hs : (pts.map Prod.fst).Pairwise (· < ·)) :
    ((Model.integralRms pts none).getD 0) ^ 2 = Model.trapz (pts.map (fun p => (p.1, p.2 * p.2))) := by
  rw [integralRms_none_goR, Option.getD_some, goR_sq pts hs, filter_full]
  rfl

theorem rms_additive_at_grid (pts : List (ℝ × ℝ)) (hne : pts ≠ []) (hs : (pts.map Prod.fst).Pairwise (· < ·))
    (a m b : ℝ) (ham : a ≤ m) (hmb : m ≤ b) (hm : m ∈ pts.map Prod.fst) :
    rms2 pts a b = rms2 pts a m + rms2 pts m b := by
  rw [rms2_eq pts hs a b (ham.trans hmb), rms2_eq pts hs a m ham, rms2_eq pts hs m b hmb]
  exact T_additive_at_grid pts hs a m b ham hmb hm

/-- the panel straddling the split point is lost from both parts -/
theorem rms_superadditive (pts : List (ℝ × ℝ)) (hne : pts ≠ []) (hs : (pts.map Prod.fst).Pairwise (· < ·))
    (a m b : ℝ) (ham : a ≤ m) (hmb : m ≤ b) : rms2 pts a m + rms2 pts m b ≤ rms2 pts a b := by
  rw [rms2_eq pts hs a b (ham.trans hmb), rms2_eq pts hs a m ham, rms2_eq pts hs m b hmb]
  exact T_superadditive pts hs a m b ham hmb

theorem rms_monotone (pts : List (ℝ × ℝ)) (hne : pts ≠ []) (hs : (pts.map Prod.fst).Pairwise (· < ·))
    (a b a' b' : ℝ) (hab : a ≤ b) (h1 : a' ≤ a) (h2 : b ≤ b') : rms2 pts a b ≤ rms2 pts a' b' := by
  have s1 := rms_superadditive pts hne hs a' a b' h1 (hab.trans h2)
  have s2 := rms_superadditive pts hne hs a b b' hab h2
  exact (le_add_of_nonneg_right (rms2_nonneg pts b b')).trans (s2.trans ((le_add_of_nonneg_left (rms2_nonneg pts a' a)).trans s1))

end

namespace RmsAux

theorem detrend0_eq (xs : List ℝ) : Model.detrend0 xs = xs.map (fun x => x - xs.sum / xs.length) := by
  simp only [Model.detrend0, RL.zero_eq, RL.ofNat_eq, ← List.sum_eq_foldl]

theorem sum_map_sub_const (xs : List ℝ) (m : ℝ) : (xs.map (fun x => x - m)).sum = xs.sum - xs.length * m := by
  induction xs with
  | nil => simp
  | cons x xs ih => simp only [List.map_cons, List.sum_cons, ih, List.length_cons]; push_cast; ring

end RmsAux

theorem detrend0_sum_zero (xs : List ℝ) (hne : xs ≠ []) : (Model.detrend0 xs).sum = 0 := by
  have hn : (xs.length : ℝ) ≠ 0 := Nat.cast_ne_zero.mpr (fun h => hne (List.length_eq_zero_iff.mp h))
  rw [detrend0_eq, sum_map_sub_const, mul_div_cancel₀ _ hn, sub_self]

theorem detrend0_const (c : ℝ) (n : ℕ) (hn : 0 < n) : Model.detrend0 (List.replicate n c) = List.replicate n 0 := by
  rw [detrend0_eq, List.map_replicate, List.sum_replicate, List.length_replicate, nsmul_eq_mul,
    mul_div_cancel_left₀ _ (Nat.cast_ne_zero.mpr hn.ne'), sub_self]

theorem detrend0_idem (xs : List ℝ) (hne : xs ≠ []) : Model.detrend0 (Model.detrend0 xs) = Model.detrend0 xs := by
  have h0 := detrend0_sum_zero xs hne
  rw [detrend0_eq (Model.detrend0 xs), h0]
  simp

namespace RmsAux

theorem interp_go_cons (x xa ya xb yb : ℝ) (xs ys : List ℝ) :
    Model.interp.go x xa ya (xb :: xs) (yb :: ys)
      = if x ≤ xb then (if x = xb then yb else ya + (yb - ya) / (xb - xa) * (x - xa))
        else Model.interp.go x xb yb xs ys := by
  simp only [Model.interp.go]
  exact if_congr (by simp) (if_congr (by simp) rfl rfl) rfl

theorem interp_go_nil (x xa ya : ℝ) : Model.interp.go x xa ya [] [] = ya := by
  simp only [Model.interp.go]

/-- `interp` is its scan `go` started from a virtual node to the left of the first one that carries the first value: on the flat
    first panel both branches of `go` give `fp[0]` -/
theorem interp_eq_go (xp fp : List ℝ) (hlen : xp.length = fp.length) (hne : xp ≠ []) (x : ℝ) :
    Model.interp xp fp x = Model.interp.go x (xp.headD 0 - 1) (fp.headD 0) xp fp := by
  match xp, fp, hlen, hne with
  | x0 :: xs, y0 :: ys, _, _ =>
    rw [interp_go_cons]
    simp only [Model.interp, List.headD_cons, RL.le_eq, decide_eq_true_eq, sub_self, zero_div, zero_mul, add_zero, ite_self]

theorem pairwise_virtual {xp : List ℝ} (hs : xp.Pairwise (· < ·)) : ((xp.headD 0 - 1) :: xp).Pairwise (· < ·) := by
  refine List.pairwise_cons.mpr ⟨fun b hb => ?_, hs⟩
  cases xp with
  | nil => simp at hb
  | cons x0 xs =>
    rcases List.mem_cons.mp hb with rfl | hb
    · exact sub_one_lt b
    · exact (sub_one_lt x0).trans ((List.pairwise_cons.mp hs).1 b hb)

theorem pw_head_lt {xa : ℝ} {xs : List ℝ} (h : (xa :: xs).Pairwise (· < ·)) (j : ℕ) (hj : j < xs.length) :
    xa < xs.getD j 0 := by
  rw [List.getD_eq_getElem?_getD, List.getElem?_eq_getElem hj]
  exact (List.pairwise_cons.mp h).1 _ (List.getElem_mem hj)

theorem pw_head_le {xa : ℝ} {xs : List ℝ} (h : (xa :: xs).Pairwise (· < ·)) : ∀ j ≤ xs.length, xa ≤ (xa :: xs).getD j 0
  | 0, _ => le_rfl
  | j + 1, hj => (pw_head_lt h j hj).le

theorem pw_head_lt_last {xa : ℝ} {xs : List ℝ} (h : (xa :: xs).Pairwise (· < ·)) (hne : xs ≠ []) :
    xa < xs.getLastD xa := by
  rw [List.getLastD_eq_getLast?, List.getLast?_eq_some_getLast hne, Option.getD_some]
  exact (List.pairwise_cons.mp h).1 _ (List.getLast_mem hne)

theorem interp_go_at_grid {x : ℝ} : ∀ (xs ys : List ℝ) (xa ya : ℝ) (j : ℕ), xs.length = ys.length →
    (xa :: xs).Pairwise (· < ·) → j < xs.length → x = xs.getD j 0 →
    Model.interp.go x xa ya xs ys = ys.getD j 0
  | [], _, _, _, _, _, _, hj, _ => by simp at hj
  | xb :: xs, yb :: ys, xa, ya, 0, _, _, _, hx => by
    simp only [List.getD_cons_zero] at hx ⊢
    rw [interp_go_cons, if_pos hx.le, if_pos hx]
  | xb :: xs, yb :: ys, xa, ya, j + 1, hl, hs, hj, hx => by
    simp only [List.getD_cons_succ, List.length_cons, Nat.add_lt_add_iff_right, Nat.add_right_cancel_iff] at hx hl hj ⊢
    have hs' := (List.pairwise_cons.mp hs).2
    have hlt : xb < x := hx ▸ pw_head_lt hs' j hj
    rw [interp_go_cons, if_neg (not_le.mpr hlt)]
    exact interp_go_at_grid xs ys xb yb j hl hs' hj hx

theorem interp_go_clamp_right {x : ℝ} : ∀ (xs ys : List ℝ) (xa ya : ℝ), xs.length = ys.length →
    (xa :: xs).Pairwise (· < ·) → xs.getLastD xa ≤ x →
    Model.interp.go x xa ya xs ys = ys.getLastD ya
  | [], [], _, _, _, _, _ => by simp [interp_go_nil]
  | xb :: xs, yb :: ys, xa, ya, hl, hs, hx => by
    simp only [List.getLastD_cons, List.length_cons, Nat.add_right_cancel_iff] at hx hl ⊢
    have hs' := (List.pairwise_cons.mp hs).2
    rw [interp_go_cons]
    by_cases hle : x ≤ xb
    · -- then `xb` is the last node and `x = xb`
      match xs, ys, hl, hs', hx with
      | [], [], _, _, hx => rw [if_pos hle, if_pos (le_antisymm hle hx), List.getLastD_nil]
      | xc :: xs, _, _, hs', hx => exact absurd (hx.trans hle) (not_le.mpr (pw_head_lt_last hs' (List.cons_ne_nil _ _)))
    · rw [if_neg hle]
      exact interp_go_clamp_right xs ys xb yb hl hs' hx

theorem interp_go_between {x : ℝ} : ∀ (xs ys : List ℝ) (xa ya : ℝ) (j : ℕ), xs.length = ys.length →
    (xa :: xs).Pairwise (· < ·) → j < xs.length → (xa :: xs).getD j 0 < x → x < xs.getD j 0 →
    Model.interp.go x xa ya xs ys
      = (ya :: ys).getD j 0 + (ys.getD j 0 - (ya :: ys).getD j 0) / (xs.getD j 0 - (xa :: xs).getD j 0)
          * (x - (xa :: xs).getD j 0)
  | [], _, _, _, _, _, _, hj, _, _ => by simp at hj
  | xb :: xs, yb :: ys, xa, ya, 0, _, _, _, h1, h2 => by
    simp only [List.getD_cons_zero] at h1 h2 ⊢
    rw [interp_go_cons, if_pos h2.le, if_neg h2.ne]
  | xb :: xs, yb :: ys, xa, ya, j + 1, hl, hs, hj, h1, h2 => by
    simp only [List.getD_cons_succ, List.length_cons, Nat.add_lt_add_iff_right, Nat.add_right_cancel_iff] at h1 h2 hl hj ⊢
    have hs' := (List.pairwise_cons.mp hs).2
    have hlt : xb < x := (pw_head_le hs' j hj.le).trans_lt h1
    rw [interp_go_cons, if_neg (not_le.mpr hlt)]
    exact interp_go_between xs ys xb yb j hl hs' hj h1 h2

end RmsAux

/-- `np.interp`: tabulated value at a grid point, clamped outside, affine between neighbours -/
theorem interp_at_grid (xp fp : List ℝ) (hlen : xp.length = fp.length) (hs : xp.Pairwise (· < ·)) (i : ℕ) (hi : i < xp.length) :
    Model.interp xp fp (xp.getD i 0) = fp.getD i 0 := by
  rw [interp_eq_go xp fp hlen (List.ne_nil_of_length_pos (Nat.zero_lt_of_lt hi))]
  exact interp_go_at_grid _ _ _ _ i hlen (pairwise_virtual hs) hi rfl

theorem interp_clamp_left (xp fp : List ℝ) (hlen : xp.length = fp.length) (hne : xp ≠ []) (x : ℝ) (hx : x ≤ xp.headD 0) :
    Model.interp xp fp x = fp.headD 0 := by
  match xp, fp, hlen, hne, hx with
  | x0 :: xs, y0 :: ys, _, _, hx =>
    simp only [List.headD_cons, Model.interp, RL.le_eq, decide_eq_true_eq] at hx ⊢
    rw [if_pos hx]

theorem interp_clamp_right (xp fp : List ℝ) (hlen : xp.length = fp.length) (hne : xp ≠ []) (hs : xp.Pairwise (· < ·)) (x : ℝ)
    (hx : xp.getLastD 0 ≤ x) : Model.interp xp fp x = fp.getLastD 0 := by
  rw [interp_eq_go xp fp hlen hne]
  match xp, fp, hlen, hne with
  | _ :: _, _ :: _, hlen, _ => exact interp_go_clamp_right _ _ _ _ hlen (pairwise_virtual hs) hx

theorem interp_between (xp fp : List ℝ) (hlen : xp.length = fp.length) (hs : xp.Pairwise (· < ·)) (i : ℕ) (hi : i + 1 < xp.length)
    (x : ℝ) (h1 : xp.getD i 0 < x) (h2 : x < xp.getD (i+1) 0) :
    Model.interp xp fp x = fp.getD i 0 + (fp.getD (i+1) 0 - fp.getD i 0) / (xp.getD (i+1) 0 - xp.getD i 0) * (x - xp.getD i 0) := by
  rw [interp_eq_go xp fp hlen (List.ne_nil_of_length_pos (Nat.zero_lt_of_lt hi))]
  exact interp_go_between _ _ _ _ (i + 1) hlen (pairwise_virtual hs) hi h1 h2

#print axioms trapz_sq_nonneg
#print axioms trapz_append
#print axioms integralRms_spec
#print axioms integralRms_none
#print axioms rms_monotone
#print axioms rms_additive_at_grid
#print axioms rms_superadditive
#print axioms detrend0_sum_zero
#print axioms detrend0_const
#print axioms detrend0_idem
#print axioms interp_at_grid
#print axioms interp_clamp_left
#print axioms interp_clamp_right
#print axioms interp_between
