/-
  SpecKitV.Lemmas.MisoResidual — algebra of the MISO residual spectrum formula
  `S00 − Σ H_i conj(S_i) − Σ conj(H_i) S_i + Σ_ij conj(H_j) H_i T_ji`.
-/
import SpecKitV.Lemmas.CxC
import SpecKitV.Model.Miso
open Finset
open ComplexConjugate

namespace Miso
variable (q K : ℕ) (c : ℝ) (X : ℕ → ℕ → ℂ) (Y : ℕ → ℂ)

noncomputable def T (i j : ℕ) : ℂ := (c : ℂ) * ((1 / (K : ℂ)) * ∑ k ∈ range K, X i k * (starRingEnd ℂ) (X j k))
noncomputable def S (i : ℕ) : ℂ := (c : ℂ) * ((1 / (K : ℂ)) * ∑ k ∈ range K, X i k * (starRingEnd ℂ) (Y k))
noncomputable def S00 : ℝ := c * ((1 / (K : ℝ)) * ∑ k ∈ range K, Complex.normSq (Y k))
noncomputable def resid (H : ℕ → ℂ) : ℂ :=
  (S00 K c Y : ℂ) - ∑ i ∈ range q, H i * (starRingEnd ℂ) (S K c X Y i)
    - ∑ i ∈ range q, (starRingEnd ℂ) (H i) * S K c X Y i
    + ∑ i ∈ range q, ∑ j ∈ range q, (starRingEnd ℂ) (H j) * H i * T K c X j i

/-- the scaled mean product `⟪u, v⟫ = c · mean_k u_k conj(v_k)` (as `Gxy` of `ltf([u, v])`):
    `T_ij = ⟪X_i, X_j⟫`, `S_i = ⟪X_i, Y⟫`, `S00 = ⟪Y, Y⟫` -/
noncomputable def mp (u v : ℕ → ℂ) : ℂ := (c : ℂ) * ((1 / (K : ℂ)) * ∑ k ∈ range K, u k * conj (v k))

def comb (a : ℕ → ℂ) (k : ℕ) : ℂ := ∑ j ∈ range q, a j * X j k

noncomputable def err (H : ℕ → ℂ) (k : ℕ) : ℂ := Y k - comb q X (fun j => conj (H j)) k

variable {q K c X Y}

theorem T_eq_mp (i j : ℕ) : T K c X i j = mp K c (X i) (X j) := rfl
theorem S_eq_mp (i : ℕ) : S K c X Y i = mp K c (X i) Y := rfl

theorem mp_sub_left (u w v : ℕ → ℂ) : mp K c (fun k => u k - w k) v = mp K c u v - mp K c w v := by
  simp only [mp, sub_mul, Finset.sum_sub_distrib, mul_sub]

theorem mp_sub_right (u v w : ℕ → ℂ) : mp K c u (fun k => v k - w k) = mp K c u v - mp K c u w := by
  simp only [mp, map_sub, mul_sub, Finset.sum_sub_distrib]

theorem mp_comb_left (a v : ℕ → ℂ) : mp K c (comb q X a) v = ∑ j ∈ range q, a j * mp K c (X j) v := by
  simp only [mp, comb, Finset.sum_mul, Finset.mul_sum]
  rw [Finset.sum_comm]
  exact Finset.sum_congr rfl fun j _ => Finset.sum_congr rfl fun k _ => by ring

theorem mp_conj (u v : ℕ → ℂ) : conj (mp K c u v) = mp K c v u := by
  simp only [mp, map_mul, map_sum, map_div₀, map_one, Complex.conj_ofReal, Complex.conj_natCast, Complex.conj_conj]
  congr 2
  exact Finset.sum_congr rfl fun k _ => mul_comm _ _

theorem mp_comb_right (u a : ℕ → ℂ) : mp K c u (comb q X a) = ∑ j ∈ range q, conj (a j) * mp K c u (X j) := by
  rw [← mp_conj, mp_comb_left, map_sum]
  exact Finset.sum_congr rfl fun j _ => by rw [map_mul, mp_conj]

theorem mp_self (u : ℕ → ℂ) : mp K c u u = ((c * ((1 / (K : ℝ)) * ∑ k ∈ range K, Complex.normSq (u k)) : ℝ) : ℂ) := by
  simp only [mp, Complex.mul_conj]
  push_cast
  rfl

theorem mp_self_nonneg (hc : 0 ≤ c) (u : ℕ → ℂ) : 0 ≤ (mp K c u u).re := by
  rw [mp_self, Complex.ofReal_re]
  exact mul_nonneg hc (mul_nonneg (by positivity) (Finset.sum_nonneg fun k _ => Complex.normSq_nonneg _))

/-- the code's formula is `⟪err, err⟫` expanded (which also shows that its pairing of `H` with `S0i` / `Si0` is the consistent one) -/
theorem resid_eq_mp (H : ℕ → ℂ) : resid q K c X Y H = mp K c (err q X Y H) (err q X Y H) := by
  unfold err
  rw [mp_sub_left, mp_sub_right, mp_sub_right, mp_comb_right, mp_comb_left, mp_comb_left, mp_self, resid, S00, Finset.sum_comm]
  simp only [mp_comb_right, Finset.mul_sum, Complex.conj_conj, S_eq_mp, T_eq_mp, ← mp_conj (X _) Y, mul_assoc]
  ring

theorem resid_re (H : ℕ → ℂ) :
    (resid q K c X Y H).re
      = c * ((1 / (K : ℝ)) * ∑ k ∈ range K, Complex.normSq (err q X Y H k)) := by
  rw [resid_eq_mp, mp_self]; exact Complex.ofReal_re _

/-- the normal equations say that every input is orthogonal to the residual series -/
theorem mp_err (H : ℕ → ℂ) (i : ℕ) :
    mp K c (X i) (err q X Y H) = S K c X Y i - ∑ j ∈ range q, T K c X i j * H j := by
  unfold err
  rw [mp_sub_right, mp_comb_right]
  simp only [Complex.conj_conj, mul_comm (H _)]
  rfl

/-- Pythagoras: `err H' = err H − d` with `d` a combination of the inputs, to which `err H` is orthogonal -/
theorem resid_add (H H' : ℕ → ℂ) (hH : ∀ i < q, ∑ j ∈ range q, T K c X i j * H j = S K c X Y i) :
    resid q K c X Y H' = resid q K c X Y H
      + mp K c (comb q X fun j => conj (H' j - H j)) (comb q X fun j => conj (H' j - H j)) := by
  set d := comb q X fun j => conj (H' j - H j) with hd
  have herr : err q X Y H' = fun k => err q X Y H k - d k := by
    funext k
    simp only [err, comb, hd, map_sub, sub_mul, Finset.sum_sub_distrib]
    ring
  have h0 : mp K c d (err q X Y H) = 0 := by
    rw [hd, mp_comb_left]
    exact Finset.sum_eq_zero fun j hj => by rw [mp_err, hH j (Finset.mem_range.mp hj), sub_self, mul_zero]
  rw [resid_eq_mp H', herr, mp_sub_left, mp_sub_right, mp_sub_right, h0, ← mp_conj d, h0, map_zero, sub_zero,
    zero_sub, sub_neg_eq_add, ← resid_eq_mp]

theorem resid_zero_H : (resid q K c X Y (fun _ => 0)).re = S00 K c Y := by
  simp only [resid, map_zero, zero_mul, mul_zero, Finset.sum_const_zero, sub_zero, add_zero, Complex.ofReal_re]

/-- pushing a transfer vector for the re-mixed inputs back to the original inputs -/
theorem err_remix (A X' : ℕ → ℕ → ℂ) (k : ℕ)
    (hX' : ∀ i < q, X' i k = ∑ j ∈ range q, A i j * X j k) (H' : ℕ → ℂ) :
    err q X Y (fun j => conj (∑ i ∈ range q, conj (H' i) * A i j)) k = err q X' Y H' k := by
  simp only [err, comb, Complex.conj_conj, Finset.sum_mul]
  rw [Finset.sum_comm]
  refine congrArg _ (Finset.sum_congr rfl fun i hi => ?_)
  rw [hX' i (Finset.mem_range.mp hi), Finset.mul_sum]
  exact Finset.sum_congr rfl fun j _ => mul_assoc _ _ _

variable (q K c X Y)

theorem residual_is_norm (H : ℕ → ℂ) :
    resid q K c X Y H
      = ((c * ((1 / (K : ℝ)) * ∑ k ∈ range K,
            Complex.normSq (Y k - ∑ j ∈ range q, (starRingEnd ℂ) (H j) * X j k)) : ℝ) : ℂ) := by
  rw [resid_eq_mp, mp_self]; rfl

theorem residual_real_nonneg (hc : 0 ≤ c) (H : ℕ → ℂ) :
    (resid q K c X Y H).im = 0 ∧ 0 ≤ (resid q K c X Y H).re := by
  rw [resid_eq_mp]
  exact ⟨by rw [mp_self]; exact Complex.ofReal_im _, mp_self_nonneg hc _⟩

/-- no invertibility of `T` is assumed -/
theorem normal_eq_minimises (hc : 0 ≤ c) (H H' : ℕ → ℂ)
    (hH : ∀ i < q, ∑ j ∈ range q, T K c X i j * H j = S K c X Y i) :
    (resid q K c X Y H).re ≤ (resid q K c X Y H').re := by
  rw [resid_add H H' hH, Complex.add_re]
  exact le_add_of_nonneg_right (mp_self_nonneg hc _)

theorem residual_le_output (hc : 0 ≤ c) (H : ℕ → ℂ)
    (hH : ∀ i < q, ∑ j ∈ range q, T K c X i j * H j = S K c X Y i) :
    (resid q K c X Y H).re ≤ S00 K c Y :=
  (normal_eq_minimises q K c X Y hc H _ hH).trans_eq resid_zero_H

/-- any two solutions of the normal equations give the same residual (analytic = numeric solver, singular T included) -/
theorem solvers_agree (hc : 0 ≤ c) (H H' : ℕ → ℂ)
    (hH : ∀ i < q, ∑ j ∈ range q, T K c X i j * H j = S K c X Y i)
    (hH' : ∀ i < q, ∑ j ∈ range q, T K c X i j * H' j = S K c X Y i) :
    (resid q K c X Y H).re = (resid q K c X Y H').re :=
  le_antisymm (normal_eq_minimises q K c X Y hc H H' hH)
    (normal_eq_minimises q K c X Y hc H' H hH')

theorem exact_combination_zero (hc : 0 ≤ c) (a : ℕ → ℂ) (hY : ∀ k < K, Y k = ∑ j ∈ range q, a j * X j k) (H : ℕ → ℂ)
    (hH : ∀ i < q, ∑ j ∈ range q, T K c X i j * H j = S K c X Y i) :
    (resid q K c X Y H).re = 0 := by
  refine le_antisymm ((normal_eq_minimises q K c X Y hc H (fun j => conj (a j)) hH).trans_eq ?_)
    (residual_real_nonneg q K c X Y hc H).2
  rw [resid_re, Finset.sum_eq_zero, mul_zero, mul_zero]
  intro k hk
  simp only [err, comb, Complex.conj_conj]
  rw [← hY k (Finset.mem_range.mp hk), sub_self, map_zero]

/-- inputs `X'` mixed from `X`, no inverse needed: a value of the formula on `X'` is also one on `X` -/
theorem remix_le (hc : 0 ≤ c) (A X' : ℕ → ℕ → ℂ)
    (hX' : ∀ i < q, ∀ k < K, X' i k = ∑ j ∈ range q, A i j * X j k) (H H' : ℕ → ℂ)
    (hH : ∀ i < q, ∑ j ∈ range q, T K c X i j * H j = S K c X Y i) :
    (resid q K c X Y H).re ≤ (resid q K c X' Y H').re := by
  refine (normal_eq_minimises q K c X Y hc H (fun j => conj (∑ i ∈ range q, conj (H' i) * A i j)) hH).trans_eq ?_
  rw [resid_re, resid_re]
  exact congrArg _ (congrArg _ (Finset.sum_congr rfl fun k hk =>
    congrArg _ (err_remix A X' k (fun i hi => hX' i hi k (Finset.mem_range.mp hk)) H')))

/-- invertible re-mixing of the inputs (permutations included) -/
theorem remix_invariant (hc : 0 ≤ c) (A B : ℕ → ℕ → ℂ) (X' : ℕ → ℕ → ℂ)
    (hX' : ∀ i < q, ∀ k < K, X' i k = ∑ j ∈ range q, A i j * X j k)
    (hB : ∀ j < q, ∀ k < K, X j k = ∑ i ∈ range q, B j i * X' i k)
    (H H' : ℕ → ℂ)
    (hH : ∀ i < q, ∑ j ∈ range q, T K c X i j * H j = S K c X Y i)
    (hH' : ∀ i < q, ∑ j ∈ range q, T K c X' i j * H' j = S K c X' Y i) :
    (resid q K c X Y H).re = (resid q K c X' Y H').re :=
  le_antisymm (remix_le q K c X Y hc A X' hX' H H' hH) (remix_le q K c X' Y hc B X hB H' H hH')

/-- q = 1: residual = Gyy·(1 − coherence), written without division -/
theorem siso_case (hc : 0 ≤ c) (H : ℕ → ℂ) (hH : T K c X 0 0 * H 0 = S K c X Y 0) :
    (T K c X 0 0).re * (resid 1 K c X Y H).re = (T K c X 0 0).re * S00 K c Y - Complex.normSq (S K c X Y 0) := by
  have _ := hc  -- not needed: the identity holds for every real scale
  obtain ⟨t, hT⟩ : ∃ t : ℝ, T K c X 0 0 = t := ⟨_, by rw [T_eq_mp, mp_self]⟩
  have hres : resid 1 K c X Y H = (S00 K c Y : ℂ) - H 0 * conj (S K c X Y 0) := by
    simp only [resid, Finset.sum_range_one]
    rw [← hH]
    ring
  rw [hT] at hH ⊢
  have h : (t : ℂ) * resid 1 K c X Y H = ((t * S00 K c Y - Complex.normSq (S K c X Y 0) : ℝ) : ℂ) := by
    rw [hres, mul_sub, ← mul_assoc, hH, Complex.mul_conj]
    push_cast
    rfl
  have h := congrArg Complex.re h
  rwa [Complex.re_ofReal_mul, Complex.ofReal_re] at h

theorem cxSum_toC (n : ℕ) (f : ℕ → Cx ℝ) :
    Cx.toC (Model.cxSum n f) = ∑ i ∈ range n, Cx.toC (f i) :=
  forRange_cx_toC n f

end Miso

/-- the executable model computes exactly `resid` (given the same numbers as ℂ) -/
theorem model_misoResidual_toC (q : ℕ) (S00 : ℝ) (S : ℕ → Cx ℝ) (T : ℕ → ℕ → Cx ℝ) (H : ℕ → Cx ℝ) :
    Cx.toC (Model.misoResidual q S00 S T H)
      = (S00 : ℂ) - ∑ i ∈ range q, Cx.toC (H i) * (starRingEnd ℂ) (Cx.toC (S i))
          - ∑ i ∈ range q, (starRingEnd ℂ) (Cx.toC (H i)) * Cx.toC (S i)
          + ∑ i ∈ range q, ∑ j ∈ range q, (starRingEnd ℂ) (Cx.toC (H j)) * Cx.toC (H i) * Cx.toC (T j i) := by
  simp only [Model.misoResidual, Cx.toC_add, Cx.toC_sub, Cx.toC_ofReal, Miso.cxSum_toC, Cx.toC_mul,
    Cx.toC_conj]

#print axioms Miso.residual_is_norm
#print axioms Miso.residual_real_nonneg
#print axioms Miso.normal_eq_minimises
#print axioms Miso.residual_le_output
#print axioms Miso.solvers_agree
#print axioms Miso.exact_combination_zero
#print axioms Miso.remix_invariant
#print axioms Miso.siso_case
#print axioms model_misoResidual_toC
