/-
  SpecKitV.Lemmas.Bilinear — the first-order section designed by `Model.filterCoeffs` has, on the
  unit circle, the squared magnitude of the bilinear-warped shelf
  `(Ω² + (2π fmax)²) / (Ω² + (2π fmin)²)` with `Ω = 2 fs tan(ω/2)`.  The generator stores `-b1`
  (`Model.alphaSecs`) and `sectionRun` subtracts it: hence the denominator `1 − b1 e^{-iω}`.
-/
import SpecKitV.RealInst
import SpecKitV.Model.Noise
import Mathlib.Analysis.SpecialFunctions.Trigonometric.Basic

namespace Bilinear

theorem filterCoeffs_real (fs fmin fmax : ℝ) :
    Model.filterCoeffs fs fmin fmax
      = ((fs + fmax * Real.pi) / (fs + fmin * Real.pi),
         -1 * (fs - fmax * Real.pi) / (fs + fmin * Real.pi),
         (fs - fmin * Real.pi) / (fs + fmin * Real.pi)) := by
  simp [Model.filterCoeffs]

theorem exp_neg_mul_I (ω : ℝ) :
    Complex.exp (-(ω * Complex.I)) = ((Real.cos ω : ℝ) : ℂ) - ((Real.sin ω : ℝ) : ℂ) * Complex.I := by
  rw [← neg_mul, ← Complex.ofReal_neg, Complex.exp_mul_I, ← Complex.ofReal_cos,
    ← Complex.ofReal_sin, Real.cos_neg, Real.sin_neg]
  push_cast
  ring

theorem normSq_add_mul_exp (a b ω : ℝ) :
    Complex.normSq ((a : ℂ) + (b : ℂ) * Complex.exp (-(ω * Complex.I)))
      = a ^ 2 + 2 * a * b * Real.cos ω + b ^ 2 := by
  rw [exp_neg_mul_I, Complex.normSq_apply]
  simp only [Complex.add_re, Complex.add_im, Complex.mul_re, Complex.mul_im, Complex.sub_re,
    Complex.sub_im, Complex.ofReal_re, Complex.ofReal_im, Complex.I_re, Complex.I_im,
    mul_zero, mul_one, sub_zero, zero_mul, add_zero, zero_add, zero_sub]
  linear_combination b ^ 2 * Real.sin_sq_add_cos_sq ω

/-- `|(fs + p) − (fs − p) e^{-iω}|² / d²` in `c = cos(ω/2)` (`cos ω = 2c² − 1`). With `d = fs + π fmin`: numerator of the response for
    `p = π fmax`, its denominator `|1 − b1 e^{-iω}|²` for `p = π fmin` -/
theorem shelf (fs p d c : ℝ) :
    ((fs + p) / d) ^ 2 + 2 * ((fs + p) / d) * (-1 * (fs - p) / d) * (2 * c ^ 2 - 1) + (-1 * (fs - p) / d) ^ 2
      = (4 * fs ^ 2 * (1 - c ^ 2) + (2 * p) ^ 2 * c ^ 2) / d ^ 2 := by
  ring

theorem a0_add_a1 (fs p d : ℝ) : (fs + p) / d + -1 * (fs - p) / d = 2 * p / d := by
  ring

theorem a0_sub_a1 (fs p d : ℝ) : (fs + p) / d - -1 * (fs - p) / d = 2 * fs / d := by
  ring

end Bilinear

-- `hmax` is not used (every real `fmax`)
set_option linter.unusedVariables false

open Real in
theorem bilinear_section (fs fmin fmax ω : ℝ) (hfs : 0 < fs) (hmin : 0 ≤ fmin) (hmax : 0 ≤ fmax)
    (h0 : 0 < ω) (hπ : ω < π) :
    let co := Model.filterCoeffs fs fmin fmax
    let a0 := co.1; let a1 := co.2.1; let b1 := co.2.2
    let Ω := 2 * fs * Real.tan (ω / 2)
    Complex.normSq ((a0 : ℂ) + (a1 : ℂ) * Complex.exp (-(ω * Complex.I)))
        / Complex.normSq (1 - (b1 : ℂ) * Complex.exp (-(ω * Complex.I)))
      = (Ω ^ 2 + (2 * π * fmax) ^ 2) / (Ω ^ 2 + (2 * π * fmin) ^ 2) := by
  intro co a0 a1 b1 Ω
  have hc2 : Real.cos (ω / 2) ^ 2 ≠ 0 := pow_ne_zero 2
    (Real.cos_pos_of_mem_Ioo ⟨(neg_lt_zero.2 pi_div_two_pos).trans (half_pos h0), (div_lt_div_iff_of_pos_right two_pos).2 hπ⟩).ne'
  have hden : fs + fmin * π ≠ 0 := (add_pos_of_pos_of_nonneg hfs (mul_nonneg hmin Real.pi_pos.le)).ne'
  have hcos : Real.cos ω = 2 * Real.cos (ω / 2) ^ 2 - 1 := by rw [← Real.cos_two_mul, mul_div_cancel₀ ω two_ne_zero]
  have hΩ : Ω ^ 2 = 4 * fs ^ 2 * (1 - Real.cos (ω / 2) ^ 2) / Real.cos (ω / 2) ^ 2 := by
    simp only [Ω]
    rw [Real.tan_eq_sin_div_cos, ← Real.sin_sq]
    ring
  have hb : (1 : ℂ) - (b1 : ℂ) * Complex.exp (-(ω * Complex.I))
      = ((1 : ℝ) : ℂ) + ((-b1 : ℝ) : ℂ) * Complex.exp (-(ω * Complex.I)) := by push_cast; ring
  have hnum := Bilinear.shelf fs (fmax * π) (fs + fmin * π) (Real.cos (ω / 2))
  have hdn := Bilinear.shelf fs (fmin * π) (fs + fmin * π) (Real.cos (ω / 2))
  rw [div_self hden] at hdn
  -- both sides become `X fmax / X fmin`, `X f = 4 fs² sin²(ω/2) + (2π f)² cos²(ω/2)`: cancel `(fs + π fmin)²` left, `cos²(ω/2)` right
  rw [hb, Bilinear.normSq_add_mul_exp, Bilinear.normSq_add_mul_exp, hcos, hΩ, div_add' _ _ _ hc2, div_add' _ _ _ hc2,
    div_div_div_cancel_right₀ hc2]
  simp only [a0, a1, b1, co, Bilinear.filterCoeffs_real]
  rw [hnum, neg_div', ← neg_one_mul (fs - fmin * π), hdn, div_div_div_cancel_right₀ (pow_ne_zero 2 hden)]
  ring

/-- gain at `z = 1` (DC): fmax/fmin squared; at `z = −1` (Nyquist): 1 -/
theorem bilinear_dc (fs fmin fmax : ℝ) (hfs : 0 < fs) (hmin : 0 < fmin) (hmax : 0 ≤ fmax) :
    let co := Model.filterCoeffs fs fmin fmax
    ((co.1 + co.2.1) / (1 - co.2.2)) ^ 2 = (fmax / fmin) ^ 2 := by
  intro co
  have hden : fs + fmin * Real.pi ≠ 0 := (add_pos hfs (mul_pos hmin Real.pi_pos)).ne'
  simp only [co, Bilinear.filterCoeffs_real]
  -- `a0 + a1 = 2 (π fmax) / d`, `1 − b1 = 2 (π fmin) / d`
  rw [Bilinear.a0_add_a1, one_sub_div hden, add_sub_sub_cancel, ← two_mul, div_div_div_cancel_right₀ hden,
    mul_div_mul_left _ _ two_ne_zero, mul_div_mul_right _ _ Real.pi_ne_zero]

theorem bilinear_nyquist (fs fmin fmax : ℝ) (hfs : 0 < fs) (hmin : 0 ≤ fmin) (hmax : 0 ≤ fmax) :
    let co := Model.filterCoeffs fs fmin fmax
    ((co.1 - co.2.1) / (1 + co.2.2)) ^ 2 = 1 := by
  intro co
  have hden : fs + fmin * Real.pi ≠ 0 := (add_pos_of_pos_of_nonneg hfs (mul_nonneg hmin Real.pi_pos.le)).ne'
  simp only [co, Bilinear.filterCoeffs_real]
  -- `a0 − a1 = 2 fs / d = 1 + b1`
  rw [Bilinear.a0_sub_a1, one_add_div hden, add_add_sub_cancel, ← two_mul, div_self (div_ne_zero (mul_ne_zero two_ne_zero hfs.ne') hden),
    one_pow]

#print axioms bilinear_section
#print axioms bilinear_dc
#print axioms bilinear_nyquist
