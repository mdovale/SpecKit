/-
  SpecKitV.Lemmas.DetrendComplete — the SHORT-segment case of polynomial detrending.
  When the basis has as many orthonormal columns as the segment has samples (`L = p+1`; for the library's basis every `L ≤ p+1`),
  it is a complete `L × L` orthonormal matrix, `Q Qᵀ = I`, and the detrended segment is identically 0 (so is its windowed DFT).
-/
import SpecKitV.Lemmas.Detrend
import Mathlib.LinearAlgebra.Matrix.SemiringInverse
open Finset

/-- `Q` restricted to the `L × L` grid, as a Mathlib matrix -/
def sqMat (Q : ℕ → ℕ → ℝ) (L : ℕ) : Matrix (Fin L) (Fin L) ℝ :=
  Matrix.of (fun i j => Q i.val j.val)

theorem sqMat_mul_eq_one_iff (A B : ℕ → ℕ → ℝ) (L : ℕ) :
    sqMat A L * sqMat B L = 1 ↔ ∀ i < L, ∀ j < L, ∑ k ∈ range L, A i k * B k j = if i = j then 1 else 0 := by
  simp only [← Matrix.ext_iff, Matrix.mul_apply, Matrix.one_apply, sqMat, Matrix.of_apply, Fin.forall_iff, Fin.mk.injEq]
  exact forall₂_congr fun i _ => forall₂_congr fun j _ => by rw [Fin.sum_univ_eq_sum_range fun k => A i k * B k j]

/-- a square matrix with orthonormal columns has orthonormal rows: `Mᵀ M = 1 → M Mᵀ = 1` is Mathlib's `mul_eq_one_comm` -/
theorem ortho_rows_of_cols (Q : ℕ → ℕ → ℝ) (L : ℕ) (hQ : OrthoCols Q L L) :
    ∀ n < L, ∀ m < L, ∑ k ∈ Finset.range L, Q n k * Q m k = if n = m then 1 else 0 :=
  (sqMat_mul_eq_one_iff Q (fun k n => Q n k) L).1 (mul_eq_one_comm.1 ((sqMat_mul_eq_one_iff (fun k n => Q n k) Q L).2 hQ))

/-- `Qᵀ` has orthonormal columns too, and `Q (Qᵀ v)` reads off the coefficients of `Qᵀ v` in them -/
theorem proj_complete (Q : ℕ → ℕ → ℝ) (L : ℕ) (hQ : OrthoCols Q L L) (v : ℕ → ℝ) (n : ℕ)
    (hn : n < L) :
    ∑ k ∈ Finset.range L, Q n k * ∑ m ∈ Finset.range L, Q m k * v m = v n :=
  coeff_of_span (Q := fun k n => Q n k) (ortho_rows_of_cols Q L hQ) (a := v) (fun _ _ => sum_congr rfl fun _ _ => mul_comm _ _) hn

theorem detr_complete_basis_zero (p : ℕ) (hp : 1 ≤ p) (Q : ℕ → ℕ → ℝ) (L : ℕ) (hL : L = p + 1)
    (hQ : OrthoCols Q L (p + 1)) (x : ℕ → ℝ) (s n : ℕ) (hn : n < L) :
    Model.detr (p : ℤ) Q x s L n = 0 := by
  subst hL
  rw [detr_poly_eq p hp, proj_complete Q (p + 1) hQ (fun m => x (s + m)) n hn, sub_self]

theorem segDFT_complete_basis_zero (p : ℕ) (hp : 1 ≤ p) (Q : ℕ → ℕ → ℝ) (L : ℕ) (hL : L = p + 1)
    (hQ : OrthoCols Q L (p + 1)) (x : ℕ → ℝ) (s : ℕ) (w : ℕ → ℝ) (ω : ℝ) :
    Model.segDFT (p : ℤ) Q x s L w ω = ⟨0, 0⟩ :=
  segDFT_zero_of_detr_zero fun n hn => detr_complete_basis_zero p hp Q L hL hQ x s n hn

namespace DetrIsProj

theorem zero_of_complete {order : ℤ} {Q' : ℕ → ℕ → ℝ} {Qa : Arr2 ℝ} {L : ℕ} (hd : DetrIsProj order Q' Qa L)
    (hm : Qa.m = L) (hO : OrthoCols Qa.get L L) (x : ℕ → ℝ) (s n : ℕ) (hn : n < L) : Model.detr order Q' x s L n = 0 := by
  rw [hd x s n hn, hm, proj_complete Qa.get L hO (fun m => x (s + m)) n hn, sub_self]

end DetrIsProj

theorem orthoCols_two (Q : ℕ → ℕ → ℝ)
    (h00 : Q 0 0 * Q 0 0 + Q 1 0 * Q 1 0 = 1) (h01 : Q 0 0 * Q 0 1 + Q 1 0 * Q 1 1 = 0)
    (h11 : Q 0 1 * Q 0 1 + Q 1 1 * Q 1 1 = 1) : OrthoCols Q 2 2 := by
  have e : ∀ f : ℕ → ℝ, ∑ n ∈ range 2, f n = f 0 + f 1 := fun f => by rw [sum_range_succ, sum_range_one]
  refine orthoCols_succ (orthoCols_succ (fun k hk => absurd hk (Nat.not_lt_zero k)) (fun j hj => absurd hj (Nat.not_lt_zero j)) ?_)
    (fun j hj => ?_) ?_
  · rw [e, h00]
  · obtain rfl : j = 0 := by omega
    rw [e, h01]
  · rw [e, h11]

example : OrthoCols (fun n k => if n = k then 1 else 0) 2 2 := by
  apply orthoCols_two <;> norm_num

/-- the 2×2 Hadamard matrix `[[a, a], [a, −a]]`, `a = 1/√2` (what QR of a 2-point linear
    Vandermonde matrix yields up to signs) -/
example :
    OrthoCols (fun n k => if n = 1 ∧ k = 1 then -(1 / Real.sqrt 2) else 1 / Real.sqrt 2) 2 2 := by
  have ha : 1 / Real.sqrt 2 * (1 / Real.sqrt 2) = 1 / 2 := by
    rw [div_mul_div_comm, Real.mul_self_sqrt (by norm_num), one_mul]
  apply orthoCols_two <;> simp only [zero_ne_one, false_and, and_false, and_self, if_true, if_false, neg_mul, mul_neg, neg_neg, ha] <;>
    norm_num

example (x : ℕ → ℝ) (s n : ℕ) (hn : n < 2) :
    Model.detr ((1 : ℕ) : ℤ) (fun n k => if n = k then 1 else 0) x s 2 n = 0 :=
  detr_complete_basis_zero 1 le_rfl _ 2 rfl
    (by apply orthoCols_two <;> norm_num) x s n hn

#print axioms ortho_rows_of_cols
#print axioms proj_complete
#print axioms detr_complete_basis_zero
#print axioms segDFT_complete_basis_zero
