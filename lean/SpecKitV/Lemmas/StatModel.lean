/-
  SpecKitV.Lemmas.StatModel — what the analytic (C10) and empirical (C11) error formulas of speckit
  MEAN under the standard statistical model, proved with Mathlib's probability theory (no axioms).

  Model.  (Ω, P) a probability space, K ≥ 1 segments.
  * Real part (C10):  `p : Fin K → Ω → ℝ` are the per-segment periodogram values |X_k|² at one bin.
    Hypotheses, all explicit:  square integrable (`MemLp (p k) 2 P`), PAIRWISE independent,
    common mean μ, common variance μ² (coefficient of variation 1: the χ²₂/exponential law of the
    periodogram of a circular complex Gaussian DFT coefficient; `expMeasure_mean`, `expMeasure_variance`
    below prove that the exponential law has exactly this property; `hypotheses_satisfiable` builds a
    model of ALL hypotheses: the coordinates of the K-fold product of that law).
  * Vector part (C11): `z : Fin K → Ω → E`, `E` any real inner product space (used at `E := ℂ`: the
    per-segment products X_k·conj Y_k), square integrable, UNCORRELATED about a centre `m`
    (`∫ ⟪z i − m, z j − m⟫ = 0` for i ≠ j; follows from pairwise independence + common mean m,
    `uncorrelated_of_indep`), common second moment σ² = 𝔼‖z_k − m‖².

  HONESTY NOTE on the independence hypothesis.  It holds for NON-overlapping segments of white
  Gaussian noise.  It does NOT hold for overlapping segments (the library's schedulers overlap
  segments by a window-dependent fraction): there the p_k are positively correlated and the true
  variance of the mean is LARGER than μ²/K — Welch (1967): μ²/K·(1 + 2 Σ_{j<K} (1 − j/K) ρ_j) with
  ρ_j ≥ 0 the squared normalised window overlap correlation; that formula is quoted, NOT proved
  here — and none of the theorems below applies.  Nothing here says the library's `navg` is an
  "effective" number of averages.

  Strength.  Independence is assumed PAIRWISE only (`Pairwise fun i j => p i ⟂ᵢ[P] p j`), which
  mutual independence `iIndepFun` implies; the vector part needs even less (uncorrelatedness).
  No distributional assumption (Gaussianity) is used beyond the first two moments.
-/
import Mathlib.Probability.Moments.Variance
import Mathlib.Probability.Independence.Integration
import Mathlib.Probability.Distributions.Exponential
import Mathlib.MeasureTheory.Function.L2Space
import Mathlib.Analysis.InnerProductSpace.Basic

open MeasureTheory ProbabilityTheory Finset
open scoped RealInnerProductSpace

namespace StatModel

variable {Ω : Type*} [MeasurableSpace Ω] {P : Measure Ω}

/-! ## the mean of K periodogram values -/

section RealMean
variable {K : ℕ} {p : Fin K → Ω → ℝ} {μ v : ℝ}

/-- the averaged periodogram is unbiased (no independence needed) -/
theorem mean_estimator_unbiased (hK : 0 < K) (hint : ∀ k, Integrable (p k) P)
    (hmean : ∀ k, ∫ ω, p k ω ∂P = μ) :
    ∫ ω, (1 / (K : ℝ)) * ∑ k, p k ω ∂P = μ := by
  rw [integral_const_mul, integral_finsetSum _ (fun k _ => hint k)]
  simp only [hmean, Fin.sum_const, nsmul_eq_mul]
  rw [one_div, inv_mul_cancel_left₀ (Nat.cast_ne_zero.2 hK.ne')]

theorem mean_estimator_variance_gen (hK : 0 < K) (hL2 : ∀ k, MemLp (p k) 2 P)
    (hind : Pairwise fun i j => p i ⟂ᵢ[P] p j) (hvar : ∀ k, Var[p k; P] = v) :
    Var[fun ω => (1 / (K : ℝ)) * ∑ k, p k ω; P] = v / K := by
  have hK' : (K : ℝ) ≠ 0 := Nat.cast_ne_zero.2 hK.ne'
  have hsum : (fun ω => ∑ k, p k ω) = ∑ k, p k := by
    funext ω; rw [Finset.sum_apply]
  rw [variance_const_mul, hsum,
    IndepFun.variance_sum (fun k _ => hL2 k) (fun i _ j _ hij => hind hij)]
  simp only [hvar, Fin.sum_const, nsmul_eq_mul]
  field_simp

/-- with coefficient of variation 1 (variance μ²) the mean of K pairwise independent
    periodogram values has variance μ²/K -/
theorem mean_estimator_variance (hK : 0 < K) (hL2 : ∀ k, MemLp (p k) 2 P)
    (hind : Pairwise fun i j => p i ⟂ᵢ[P] p j) (hvar : ∀ k, Var[p k; P] = μ ^ 2) :
    Var[fun ω => (1 / (K : ℝ)) * ∑ k, p k ω; P] = μ ^ 2 / K :=
  mean_estimator_variance_gen hK hL2 hind hvar

theorem mean_estimator_sd (hK : 0 < K) (hμ : 0 ≤ μ) (hL2 : ∀ k, MemLp (p k) 2 P)
    (hind : Pairwise fun i j => p i ⟂ᵢ[P] p j) (hvar : ∀ k, Var[p k; P] = μ ^ 2) :
    Real.sqrt (Var[fun ω => (1 / (K : ℝ)) * ∑ k, p k ω; P]) = μ / Real.sqrt K := by
  rw [mean_estimator_variance hK hL2 hind hvar, Real.sqrt_div (sq_nonneg μ), Real.sqrt_sq hμ]

/-- the estimator in spectral units `c · mean p_k` (c = 2/(fs·S2) in the library): mean c·μ -/
theorem scaled_mean_estimator_unbiased (c : ℝ) (hK : 0 < K) (hint : ∀ k, Integrable (p k) P)
    (hmean : ∀ k, ∫ ω, p k ω ∂P = μ) :
    ∫ ω, c * ((1 / (K : ℝ)) * ∑ k, p k ω) ∂P = c * μ := by
  rw [integral_const_mul, mean_estimator_unbiased hK hint hmean]

theorem scaled_mean_estimator_variance (c : ℝ) (hK : 0 < K) (hL2 : ∀ k, MemLp (p k) 2 P)
    (hind : Pairwise fun i j => p i ⟂ᵢ[P] p j) (hvar : ∀ k, Var[p k; P] = μ ^ 2) :
    Var[fun ω => c * ((1 / (K : ℝ)) * ∑ k, p k ω); P] = c ^ 2 * (μ ^ 2 / K) := by
  rw [variance_const_mul, mean_estimator_variance hK hL2 hind hvar]

theorem scaled_mean_estimator_sd (c : ℝ) (hc : 0 ≤ c) (hK : 0 < K) (hμ : 0 ≤ μ)
    (hL2 : ∀ k, MemLp (p k) 2 P) (hind : Pairwise fun i j => p i ⟂ᵢ[P] p j)
    (hvar : ∀ k, Var[p k; P] = μ ^ 2) :
    Real.sqrt (Var[fun ω => c * ((1 / (K : ℝ)) * ∑ k, p k ω); P]) = c * μ / Real.sqrt K := by
  rw [scaled_mean_estimator_variance c hK hL2 hind hvar, Real.sqrt_mul (sq_nonneg c),
    Real.sqrt_sq hc, Real.sqrt_div (sq_nonneg μ), Real.sqrt_sq hμ, mul_div_assoc]

end RealMean

/-! ## empirical scatter of K vectors about their own mean -/

section Vector
variable {E : Type*} [NormedAddCommGroup E]

theorem integrable_norm_sq {f : Ω → E} (hf : MemLp f 2 P) : Integrable (fun ω => ‖f ω‖ ^ 2) P :=
  (memLp_two_iff_integrable_sq_norm hf.1).1 hf

theorem memLp_sub_const [IsFiniteMeasure P] {K : ℕ} {z : Fin K → Ω → E} (hL2 : ∀ k, MemLp (z k) 2 P) (m : E) (k : Fin K) :
    MemLp (fun ω => z k ω - m) 2 P :=
  (hL2 k).sub (memLp_const m)

variable [InnerProductSpace ℝ E] {K : ℕ}

/-- Hölder on the norms, then Cauchy–Schwarz pointwise -/
theorem integrable_inner_of_memLp {f g : Ω → E} (hf : MemLp f 2 P) (hg : MemLp g 2 P) :
    Integrable (fun ω => ⟪f ω, g ω⟫) P :=
  (hf.norm.integrable_mul hg.norm).mono' (hf.1.inner hg.1) (ae_of_all _ fun _ => norm_inner_le_norm _ _)

theorem inv_smul_sum_sub (hK : 0 < K) (w : Fin K → E) (m : E) :
    (K : ℝ)⁻¹ • ∑ k, (w k - m) = (K : ℝ)⁻¹ • ∑ k, w k - m := by
  rw [sum_sub_distrib, smul_sub, Fin.sum_const, ← Nat.cast_smul_eq_nsmul ℝ,
    inv_smul_smul₀ (Nat.cast_ne_zero.2 hK.ne')]

/-- pointwise: scatter about `b` when `Σ u_k = K·b` (parallel-axis identity) -/
theorem sum_norm_sub_sq (u : Fin K → E) (b : E) (h : ∑ k, u k = (K : ℝ) • b) :
    ∑ k, ‖u k - b‖ ^ 2 = ∑ k, ‖u k‖ ^ 2 - K * ‖b‖ ^ 2 := by
  simp only [norm_sub_sq_real]
  rw [sum_add_distrib, sum_sub_distrib, ← mul_sum, ← sum_inner, h, real_inner_smul_left,
    real_inner_self_eq_norm_sq, Fin.sum_const, nsmul_eq_mul]
  ring

/-- pointwise: scatter about the sample mean = scatter about any centre `m` minus K·‖z̄ − m‖² -/
theorem sum_norm_sub_mean_sq (hK : 0 < K) (w : Fin K → E) (m : E) :
    ∑ k, ‖w k - (K : ℝ)⁻¹ • ∑ j, w j‖ ^ 2
      = ∑ k, ‖w k - m‖ ^ 2 - K * ‖(K : ℝ)⁻¹ • ∑ j, w j - m‖ ^ 2 := by
  rw [← sum_norm_sub_sq (fun k => w k - m)]
  · simp only [sub_sub_sub_cancel_right]
  · rw [← inv_smul_sum_sub hK, smul_inv_smul₀ (Nat.cast_ne_zero.2 hK.ne')]

theorem norm_sum_sq (u : Fin K → E) :
    ‖∑ k, u k‖ ^ 2 = ∑ i, ∑ j, ⟪u i, u j⟫ := by
  rw [← real_inner_self_eq_norm_sq, sum_inner]
  simp only [inner_sum]

variable [IsProbabilityMeasure P] {z : Fin K → Ω → E} {m : E} {σ2 : ℝ}

/-- the mean of K uncorrelated vectors with common second moment σ² about `m`
    has second moment σ²/K about `m` -/
theorem mean_z_variance (hK : 0 < K) (hL2 : ∀ k, MemLp (z k) 2 P)
    (hunc : ∀ i j, i ≠ j → ∫ ω, ⟪z i ω - m, z j ω - m⟫ ∂P = 0)
    (hvar : ∀ k, ∫ ω, ‖z k ω - m‖ ^ 2 ∂P = σ2) :
    ∫ ω, ‖(K : ℝ)⁻¹ • ∑ k, z k ω - m‖ ^ 2 ∂P = σ2 / K := by
  have hu := memLp_sub_const hL2 m
  -- ‖K⁻¹ • Σ (z_k − m)‖² = K⁻² Σ_i Σ_j ⟪z_i − m, z_j − m⟫; only the diagonal survives integration
  simp only [← inv_smul_sum_sub hK, norm_smul, mul_pow, norm_sum_sq, Real.norm_eq_abs, sq_abs]
  rw [integral_const_mul, integral_finsetSum _ (fun i _ =>
    integrable_finsetSum _ (fun j _ => integrable_inner_of_memLp (hu i) (hu j)))]
  have hi : ∀ i, ∫ ω, ∑ j, ⟪z i ω - m, z j ω - m⟫ ∂P = σ2 := by
    intro i
    rw [integral_finsetSum _ (fun j _ => integrable_inner_of_memLp (hu i) (hu j)),
      Finset.sum_eq_single i (fun j _ hji => hunc i j (Ne.symm hji)) (fun h => absurd (mem_univ i) h)]
    simp only [real_inner_self_eq_norm_sq]
    exact hvar i
  rw [sum_congr rfl fun i _ => hi i, Fin.sum_const, nsmul_eq_mul, sq,
    mul_assoc, inv_mul_cancel_left₀ (Nat.cast_ne_zero.2 hK.ne'), inv_mul_eq_div]

/-- the population scatter about the SAMPLE mean has expectation (K−1)/K·σ² -/
theorem emp_var_expectation (hK : 0 < K) (hL2 : ∀ k, MemLp (z k) 2 P)
    (hunc : ∀ i j, i ≠ j → ∫ ω, ⟪z i ω - m, z j ω - m⟫ ∂P = 0)
    (hvar : ∀ k, ∫ ω, ‖z k ω - m‖ ^ 2 ∂P = σ2) :
    ∫ ω, (1 / (K : ℝ)) * ∑ k, ‖z k ω - (K : ℝ)⁻¹ • ∑ j, z j ω‖ ^ 2 ∂P
      = ((K : ℝ) - 1) / K * σ2 := by
  have hsq := fun k => integrable_norm_sq (memLp_sub_const hL2 m k)
  have hmsq : Integrable (fun ω => ‖(K : ℝ)⁻¹ • ∑ k, z k ω - m‖ ^ 2) P :=
    integrable_norm_sq (((memLp_finsetSum _ fun k _ => hL2 k).const_smul _).sub (memLp_const m))
  simp only [fun ω => sum_norm_sub_mean_sq hK (fun k => z k ω) m]
  rw [integral_const_mul, integral_sub (integrable_finsetSum _ (fun k _ => hsq k))
    (hmsq.const_mul _), integral_finsetSum _ (fun k _ => hsq k), integral_const_mul,
    mean_z_variance hK hL2 hunc hvar]
  simp only [hvar, Fin.sum_const, nsmul_eq_mul]
  rw [mul_div_cancel₀ σ2 (Nat.cast_ne_zero.2 hK.ne')]
  ring

/-- `emp_var_vs_true` (Props/StatModel) before the reducer comes in: 𝔼[(1/K)·(1/K) Σ‖z_k − z̄‖²] = (K−1)/K · 𝔼‖z̄ − m‖².
    The "population scatter / K" is the second moment of the mean up to the factor (K−1)/K:
    biased LOW by the fraction 1/K. -/
theorem emp_var_vs_true_abs (hK : 0 < K) (hL2 : ∀ k, MemLp (z k) 2 P)
    (hunc : ∀ i j, i ≠ j → ∫ ω, ⟪z i ω - m, z j ω - m⟫ ∂P = 0)
    (hvar : ∀ k, ∫ ω, ‖z k ω - m‖ ^ 2 ∂P = σ2) :
    ∫ ω, ((1 / (K : ℝ)) * ∑ k, ‖z k ω - (K : ℝ)⁻¹ • ∑ j, z j ω‖ ^ 2) / K ∂P
      = ((K : ℝ) - 1) / K * ∫ ω, ‖(K : ℝ)⁻¹ • ∑ k, z k ω - m‖ ^ 2 ∂P := by
  rw [integral_div, emp_var_expectation hK hL2 hunc hvar, mean_z_variance hK hL2 hunc hvar]
  ring

/-- pairwise independence and a common mean `m` give the uncorrelatedness used above -/
theorem uncorrelated_of_indep [CompleteSpace E] [MeasurableSpace E] [BorelSpace E]
    (hL2 : ∀ k, MemLp (z k) 2 P) (hind : Pairwise fun i j => z i ⟂ᵢ[P] z j)
    (hmean : ∀ k, ∫ ω, z k ω ∂P = m) :
    ∀ i j, i ≠ j → ∫ ω, ⟪z i ω - m, z j ω - m⟫ ∂P = 0 := by
  intro i j hij
  have hint : ∀ k, Integrable (fun ω => z k ω - m) P := fun k =>
    (memLp_sub_const hL2 m k).integrable (by norm_num)
  have hzero : ∀ k, ∫ ω, (z k ω - m) ∂P = 0 := by
    intro k
    rw [integral_sub ((hL2 k).integrable (by norm_num)) (integrable_const m), hmean]
    simp
  have hI : (fun ω => z i ω - m) ⟂ᵢ[P] (fun ω => z j ω - m) :=
    (hind hij).comp (φ := fun x => x - m) (ψ := fun x => x - m)
      (measurable_id.sub_const m) (measurable_id.sub_const m)
  have key : ∫ ω, ⟪z i ω - m, z j ω - m⟫ ∂P = ⟪∫ ω, (z i ω - m) ∂P, ∫ ω, (z j ω - m) ∂P⟫ :=
    hI.integral_bilin (hint i) (hint j) (innerSL ℝ)
  rw [key, hzero i, inner_zero_left]

end Vector

/-! ## the exponential (χ²₂) law has coefficient of variation 1; the hypotheses are satisfiable -/

section Exponential
open Real Set

/-- the density of the exponential law, as a real weight: `r e^{-rx}` on `[0, ∞)`, `0` elsewhere -/
theorem expDensity_smul {r : ℝ} (hr : 0 < r) (g : ℝ → ℝ) :
    (fun x => (gammaPDF 1 r x).toReal • g x)
      = (Set.Ici (0 : ℝ)).indicator fun x => (r * exp (-(r * x))) * g x := by
  funext x
  by_cases hx : 0 ≤ x
  · rw [indicator_of_mem (Set.mem_Ici.2 hx), gammaPDF,
      ENNReal.toReal_ofReal (gammaPDFReal_nonneg zero_lt_one hr x)]
    simp [gammaPDFReal, hx]
  · rw [indicator_of_notMem (by simpa using hx), gammaPDF]
    simp [gammaPDFReal, hx]

theorem integral_expMeasure {r : ℝ} (hr : 0 < r) (g : ℝ → ℝ) :
    ∫ x, g x ∂(expMeasure r) = ∫ x in Ioi 0, (r * exp (-(r * x))) * g x := by
  unfold expMeasure gammaMeasure
  have hm : Measurable (gammaPDF 1 r) := (measurable_gammaPDFReal 1 r).ennreal_ofReal
  rw [integral_withDensity_eq_integral_toReal_smul hm (ae_of_all _ fun x => ENNReal.ofReal_lt_top),
    expDensity_smul hr,
    integral_indicator measurableSet_Ici, integral_Ici_eq_integral_Ioi]

theorem integrable_expMeasure_iff {r : ℝ} (hr : 0 < r) (g : ℝ → ℝ) :
    Integrable g (expMeasure r) ↔ IntegrableOn (fun x => (r * exp (-(r * x))) * g x) (Ioi 0) := by
  unfold expMeasure gammaMeasure
  have hm : Measurable (gammaPDF 1 r) := (measurable_gammaPDFReal 1 r).ennreal_ofReal
  rw [integrable_withDensity_iff_integrable_smul' hm (ae_of_all _ fun x => ENNReal.ofReal_lt_top),
    expDensity_smul hr,
    integrable_indicator_iff measurableSet_Ici, integrableOn_Ici_iff_integrableOn_Ioi]

theorem integral_exp_density_pow {r : ℝ} (hr : 0 < r) (n : ℕ) :
    ∫ x in Ioi 0, (r * exp (-(r * x))) * x ^ n = (n.factorial : ℝ) / r ^ n := by
  have h := integral_rpow_mul_exp_neg_mul_Ioi (a := (n : ℝ) + 1) (by positivity) hr
  have e : ∀ x : ℝ, (r * exp (-(r * x))) * x ^ n = r * (x ^ ((n : ℝ) + 1 - 1) * exp (-(r * x))) := by
    intro x
    rw [add_sub_cancel_right, rpow_natCast]; ring
  simp only [e]
  rw [integral_const_mul, h, Real.Gamma_nat_eq_factorial,
    show (n : ℝ) + 1 = ((n + 1 : ℕ) : ℝ) by push_cast; ring, rpow_natCast]
  rw [one_div, inv_pow]
  field_simp
  ring

theorem expMeasure_integrable_pow {r : ℝ} (hr : 0 < r) (n : ℕ) :
    Integrable (fun x : ℝ => x ^ n) (expMeasure r) :=
  (integrable_expMeasure_iff hr _).2 <| Integrable.of_integral_ne_zero <| by
    rw [integral_exp_density_pow hr n]; positivity

theorem expMeasure_moment {r : ℝ} (hr : 0 < r) (n : ℕ) :
    ∫ x, x ^ n ∂(expMeasure r) = (n.factorial : ℝ) / r ^ n := by
  rw [integral_expMeasure hr, integral_exp_density_pow hr n]

theorem expMeasure_memLp_two {r : ℝ} (hr : 0 < r) : MemLp (id : ℝ → ℝ) 2 (expMeasure r) :=
  (memLp_two_iff_integrable_sq measurable_id.aestronglyMeasurable).2
    (expMeasure_integrable_pow hr 2)

theorem expMeasure_mean {r : ℝ} (hr : 0 < r) : ∫ x, x ∂(expMeasure r) = 1 / r := by
  have := expMeasure_moment hr 1
  simpa using this

/-- variance = mean²: coefficient of variation 1 -/
theorem expMeasure_variance {r : ℝ} (hr : 0 < r) : Var[id; expMeasure r] = (1 / r) ^ 2 := by
  have := isProbabilityMeasure_expMeasure hr
  rw [variance_eq_sub (expMeasure_memLp_two hr)]
  have h2 := expMeasure_moment hr 2
  have h1 := expMeasure_mean hr
  simp only [Pi.pow_apply, id_eq, h1, h2]
  norm_num [Nat.factorial]
  ring

/-- the χ²₂ case of the hypothesis "variance = mean²": the exponential law with mean μ > 0
    (rate 1/μ) has mean μ and variance μ² -/
theorem exp_law_mean_var {μ : ℝ} (hμ : 0 < μ) :
    ∫ x, x ∂(expMeasure (1 / μ)) = μ ∧ Var[id; expMeasure (1 / μ)] = μ ^ 2 := by
  have hr : 0 < 1 / μ := by positivity
  rw [expMeasure_mean hr, expMeasure_variance hr]
  simp

/-- SATISFIABILITY of the hypotheses of `mean_estimator_unbiased/variance`: on the product space
    `Fin K → ℝ` with the K-fold product of the exponential law of mean μ, the coordinates are
    square integrable, (mutually, hence) pairwise independent, have mean μ and variance μ². -/
theorem hypotheses_satisfiable (K : ℕ) {μ : ℝ} (hμ : 0 < μ) :
    ∃ (P : Measure (Fin K → ℝ)) (_ : IsProbabilityMeasure P) (p : Fin K → (Fin K → ℝ) → ℝ),
      (∀ k, MemLp (p k) 2 P) ∧ (Pairwise fun i j => p i ⟂ᵢ[P] p j) ∧ iIndepFun p P ∧
      (∀ k, ∫ ω, p k ω ∂P = μ) ∧ (∀ k, Var[p k; P] = μ ^ 2) := by
  have hr : 0 < 1 / μ := by positivity
  have := isProbabilityMeasure_expMeasure hr
  let ν : Fin K → Measure ℝ := fun _ => expMeasure (1 / μ)
  have hind : iIndepFun (fun (i : Fin K) (ω : Fin K → ℝ) => (id : ℝ → ℝ) (ω i)) (Measure.pi ν) :=
    iIndepFun_pi (X := fun _ => (id : ℝ → ℝ)) (fun _ => measurable_id.aemeasurable)
  refine ⟨Measure.pi ν, inferInstance, fun k ω => ω k, ?_, ?_, hind, ?_, ?_⟩
  · exact fun k => (expMeasure_memLp_two hr).comp_measurePreserving (measurePreserving_eval ν k)
  · exact fun i j hij => hind.indepFun hij
  · exact fun k => (integral_eval (μ := ν) (i := k)).trans (exp_law_mean_var hμ).1
  · exact fun k => ((measurePreserving_eval ν k).variance_fun_comp measurable_id.aemeasurable).trans
      (exp_law_mean_var hμ).2

/-- non-vacuity of the mean theorems: a model of all hypotheses, and the conclusions in it -/
example (K : ℕ) (hK : 0 < K) {μ : ℝ} (hμ : 0 < μ) :
    ∃ (P : Measure (Fin K → ℝ)) (_ : IsProbabilityMeasure P) (p : Fin K → (Fin K → ℝ) → ℝ),
      ∫ ω, (1 / (K : ℝ)) * ∑ k, p k ω ∂P = μ ∧
      Var[fun ω => (1 / (K : ℝ)) * ∑ k, p k ω; P] = μ ^ 2 / K := by
  obtain ⟨P, hP, p, hL2, hind, _, hmean, hvar⟩ := hypotheses_satisfiable K hμ
  exact ⟨P, hP, p,
    mean_estimator_unbiased hK (fun k => (hL2 k).integrable (by norm_num)) hmean,
    mean_estimator_variance hK hL2 hind hvar⟩

/-- non-vacuity of the scatter theorems (at `E := ℝ`, centre μ, σ² = μ²) -/
theorem vector_hypotheses_satisfiable (K : ℕ) {μ : ℝ} (hμ : 0 < μ) :
    ∃ (P : Measure (Fin K → ℝ)) (_ : IsProbabilityMeasure P) (z : Fin K → (Fin K → ℝ) → ℝ),
      (∀ k, MemLp (z k) 2 P) ∧
      (∀ i j, i ≠ j → ∫ ω, inner ℝ (z i ω - μ) (z j ω - μ) ∂P = 0) ∧
      (∀ k, ∫ ω, ‖z k ω - μ‖ ^ 2 ∂P = μ ^ 2) := by
  obtain ⟨P, hP, p, hL2, hind, _, hmean, hvar⟩ := hypotheses_satisfiable K hμ
  refine ⟨P, hP, p, hL2, uncorrelated_of_indep hL2 hind hmean, fun k => ?_⟩
  rw [← hvar k, variance_eq_integral (hL2 k).aemeasurable, hmean k]
  simp only [Real.norm_eq_abs, sq_abs]

end Exponential

end StatModel

#print axioms StatModel.mean_estimator_unbiased
#print axioms StatModel.mean_estimator_variance
#print axioms StatModel.mean_estimator_sd
#print axioms StatModel.scaled_mean_estimator_sd
#print axioms StatModel.mean_z_variance
#print axioms StatModel.emp_var_expectation
#print axioms StatModel.emp_var_vs_true_abs
#print axioms StatModel.uncorrelated_of_indep
#print axioms StatModel.expMeasure_moment
#print axioms StatModel.expMeasure_mean
#print axioms StatModel.expMeasure_variance
#print axioms StatModel.exp_law_mean_var
#print axioms StatModel.hypotheses_satisfiable
#print axioms StatModel.vector_hypotheses_satisfiable
