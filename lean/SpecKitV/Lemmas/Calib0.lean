/-
  SpecKitV.Lemmas.Calib0 — calibration of the reference estimator's windowed DFT for a pure
  sinusoid `x n = A cos(ω0 n + φ)` with detrending order 0 (mean removal, the library default).

  `X0 = X − m · W(ω0)`, `m` the segment mean, `W` the window transform; `|m| ≤ |A|·‖D‖/L` with the
  Dirichlet sum `D = Σ_{n<L} e^{i ω0 n}`; hence the order-0 on-peak power is within
  `(2r + r²)` of `(A/2)² S1²`, `r = ρ + 2ρ0`, `ρ = |W(2ω0)|/S1`, `ρ0 = |W(ω0)|·|D|/(L·S1)`.
-/
import SpecKitV.Lemmas.Sinusoid
open Finset Complex

/-- Dirichlet sum -/
noncomputable def dirichlet (L : ℕ) (θ : ℝ) : ℂ :=
  ∑ n ∈ Finset.range L, Complex.exp (((θ * n : ℝ) : ℂ) * Complex.I)

/-- order 0 = order −1 minus (segment mean) × (window transform) -/
theorem segDFT_order0_eq (Q : ℕ → ℕ → ℝ) (x : ℕ → ℝ) (s L : ℕ) (w : ℕ → ℝ) (ω : ℝ) :
    Cx.toC (Model.segDFT 0 Q x s L w ω)
      = Cx.toC (Model.segDFT (-1) Q x s L w ω)
        - (((∑ m ∈ Finset.range L, x (s + m)) / L : ℝ) : ℂ) * winT w L ω := by
  rw [segDFT_toC, segDFT_toC, winT, Finset.mul_sum, ← Finset.sum_sub_distrib]
  refine Finset.sum_congr rfl (fun n _ => ?_)
  rw [detr0_eq, detr_neg_one]
  push_cast
  ring

/-- the segment mean of a sinusoid: its inner product with the constant vector -/
theorem sinusoid_mean_bound (A ω0 φ : ℝ) (s L : ℕ) (hL : 0 < L) :
    |(∑ m ∈ Finset.range L, A * Real.cos (ω0 * ((s + m : ℕ) : ℝ) + φ)) / L|
      ≤ |A| * ‖dirichlet L ω0‖ / L := by
  have hLr : (0 : ℝ) < L := by exact_mod_cast hL
  have h := abs_sum_mul_sinusoid_le (fun _ => 1) A ω0 φ s L
  simp only [one_mul, Complex.ofReal_one] at h
  rw [abs_div, Nat.abs_cast]
  exact div_le_div_of_nonneg_right h hLr.le

/-- order 0, at the sinusoid's own frequency: `|X0|²` is within `(2r + r²)` of `(A/2)²·S1²` -/
theorem calibration_bound_order0 (Q : ℕ → ℕ → ℝ) (A ω0 φ : ℝ) (s L : ℕ) (hL : 0 < L) (w : ℕ → ℝ)
    (hS1 : 0 < ∑ n ∈ Finset.range L, w n) :
    let S1 := ∑ n ∈ Finset.range L, w n
    let ρ := ‖winT w L (2 * ω0)‖ / S1
    let ρ0 := ‖winT w L ω0‖ * ‖dirichlet L ω0‖ / (L * S1)
    let r := ρ + 2 * ρ0
    |Cx.normSq (Model.segDFT 0 Q (fun n => A * Real.cos (ω0 * n + φ)) s L w ω0) - (A / 2) ^ 2 * S1 ^ 2|
      ≤ (A / 2) ^ 2 * S1 ^ 2 * (2 * r + r ^ 2) := by
  intro S1 ρ ρ0 r
  -- what mean removal takes off the raw transform: (segment mean) × W(ω0)
  have hT : ‖(((∑ m ∈ Finset.range L, A * Real.cos (ω0 * ((s + m : ℕ) : ℝ) + φ)) / L : ℝ) : ℂ)
        * winT w L ω0‖ ≤ |A| * (‖winT w L ω0‖ * ‖dirichlet L ω0‖ / L) := by
    rw [norm_mul, Complex.norm_real, Real.norm_eq_abs]
    refine (mul_le_mul_of_nonneg_right (sinusoid_mean_bound A ω0 φ s L hL) (norm_nonneg _)).trans_eq ?_
    ring
  rw [Cx.normSq_eq, Complex.normSq_eq_norm_sq, segDFT_order0_eq]
  exact calibration_sub Q A ω0 φ s L w hS1 _ _ r hT (by rw [div_div])

/-- the same for the calibrated power spectrum value `ps = 2·|X0|²/S1²`
    (mean over any K ≥ 1 segments with any starts), order 0 -/
theorem power_spectrum_calibrated_order0 (Q : ℕ → ℕ → ℝ) (A ω0 φ : ℝ) (K L : ℕ) (hK : 0 < K)
    (hL : 0 < L) (starts : ℕ → ℕ) (w : ℕ → ℝ) (hS1 : 0 < ∑ n ∈ Finset.range L, w n) :
    let S1 := ∑ n ∈ Finset.range L, w n
    let ρ := ‖winT w L (2 * ω0)‖ / S1
    let ρ0 := ‖winT w L ω0‖ * ‖dirichlet L ω0‖ / (L * S1)
    let r := ρ + 2 * ρ0
    let XX := (∑ k ∈ Finset.range K, Cx.normSq (Model.segDFT 0 Q
        (fun n => A * Real.cos (ω0 * n + φ)) (starts k) L w ω0)) / K
    |2 * XX / S1 ^ 2 - A ^ 2 / 2| ≤ A ^ 2 / 2 * (2 * r + r ^ 2) :=
  ps_of_segment_bound K hK _ A _ _ hS1
    (fun k _ => calibration_bound_order0 Q A ω0 φ (starts k) L hL w hS1)

example (Q : ℕ → ℕ → ℝ) (A ω0 φ : ℝ) (K L : ℕ) (hK : 0 < K)
    (starts : ℕ → ℕ) (w : ℕ → ℝ) (hS1 : 0 < ∑ n ∈ range L, w n) :
    let S1 := ∑ n ∈ range L, w n
    let ρ := ‖winT w L (2 * ω0)‖ / S1
    let XX := (∑ k ∈ range K, Cx.normSq (Model.segDFT (-1) Q
        (fun n => A * Real.cos (ω0 * n + φ)) (starts k) L w ω0)) / K
    |2 * XX / S1 ^ 2 - A ^ 2 / 2| ≤ A ^ 2 / 2 * (2 * ρ + ρ ^ 2) :=
  power_spectrum_calibrated Q A ω0 φ K L hK starts w hS1

/-- rectangular window of length 4: the hypotheses hold for every amplitude, frequency, phase
    and segment start -/
example (Q : ℕ → ℕ → ℝ) (A ω0 φ : ℝ) (s : ℕ) :
    let w : ℕ → ℝ := fun _ => 1
    let S1 := ∑ n ∈ Finset.range 4, w n
    let ρ := ‖winT w 4 (2 * ω0)‖ / S1
    let ρ0 := ‖winT w 4 ω0‖ * ‖dirichlet 4 ω0‖ / ((4 : ℕ) * S1)
    let r := ρ + 2 * ρ0
    |Cx.normSq (Model.segDFT 0 Q (fun n => A * Real.cos (ω0 * n + φ)) s 4 w ω0)
        - (A / 2) ^ 2 * S1 ^ 2|
      ≤ (A / 2) ^ 2 * S1 ^ 2 * (2 * r + r ^ 2) :=
  calibration_bound_order0 Q A ω0 φ s 4 (by norm_num) (fun _ => 1) (by norm_num)

/-- rectangular window of length 4 at `ω0 = π/2`: `W(2ω0) = 1 − 1 + 1 − 1 = 0` … -/
theorem winT_rect4_pi : winT (fun _ => 1) 4 (2 * (Real.pi / 2)) = 0 := by
  have h : ∀ n : ℕ, Complex.exp (-(((2 * (Real.pi / 2) : ℝ) : ℂ) * (n : ℂ) * I)) = (-1) ^ n := by
    intro n
    rw [← Complex.exp_neg_pi_mul_I, ← Complex.exp_nat_mul]
    congr 1; push_cast; ring
  simp only [winT, h, Finset.sum_range_succ, Finset.sum_range_zero]
  norm_num

/-- … and `D = 1 + i − 1 − i = 0` -/
theorem dirichlet4_half_pi : dirichlet 4 (Real.pi / 2) = 0 := by
  have h : ∀ n : ℕ, Complex.exp ((((Real.pi / 2) * n : ℝ) : ℂ) * I) = I ^ n := by
    intro n
    conv_rhs => rw [← Complex.exp_pi_div_two_mul_I, ← Complex.exp_nat_mul]
    congr 1; push_cast; ring
  simp only [dirichlet, h, Finset.sum_range_succ, Finset.sum_range_zero]
  linear_combination (1 + I) * Complex.I_sq

/-- so there `r = 0` and the bound gives exact calibration `|X0|² = (A/2)²·S1² = 4A²`
    (the bound is attained, in particular not vacuous) -/
example (Q : ℕ → ℕ → ℝ) (A φ : ℝ) (s : ℕ) :
    Cx.normSq (Model.segDFT 0 Q (fun n => A * Real.cos (Real.pi / 2 * n + φ)) s 4 (fun _ => 1)
      (Real.pi / 2)) = 4 * A ^ 2 := by
  have hS : ∑ _n ∈ range 4, (1 : ℝ) = 4 := by
    rw [Finset.sum_const, Finset.card_range, nsmul_eq_mul, mul_one, Nat.cast_ofNat]
  have h := calibration_bound_order0 Q A (Real.pi / 2) φ s 4 (Nat.succ_pos 3) (fun _ => 1)
    (hS ▸ four_pos)
  dsimp only at h
  rw [winT_rect4_pi, dirichlet4_half_pi] at h
  simp only [norm_zero, mul_zero, zero_div, add_zero, ne_eq, OfNat.ofNat_ne_zero,
    not_false_eq_true, zero_pow, abs_nonpos_iff, sub_eq_zero, hS] at h
  rw [h]
  ring

#print axioms segDFT_order0_eq
#print axioms sinusoid_mean_bound
#print axioms calibration_bound_order0
#print axioms power_spectrum_calibrated_order0
