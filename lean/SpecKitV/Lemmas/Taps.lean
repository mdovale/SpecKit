/-
  The closed-form fractional-delay taps `Model.tap h d k` are the Lagrange basis weights on the `2h` nodes `-(h-1), …, h` at `d`.
  In `k`, the Lagrange weights (`lag_rec`) and the code's taps (`tapRaw_rec`, from its running `factor`) obey the same division-free
  two-term recurrence, and they agree at the centre tap (`lag_center`); `eq_of_rec` carries the equality outwards.
-/
import SpecKitV.RealInst
import SpecKitV.Model.TimeShift
import Mathlib.LinearAlgebra.Lagrange

open Finset

/-- node of tap `k` (interpolation origin at 0) -/
noncomputable def tapNode (h k : ℕ) : ℝ := (k : ℝ) - ((h : ℝ) - 1)

namespace TapsAux

/-- Lagrange weight of node `k` -/
noncomputable def lag (h : ℕ) (d : ℝ) (k : ℕ) : ℝ :=
  ∏ m ∈ (range (2 * h)).erase k, (d - tapNode h m) / (tapNode h k - tapNode h m)

theorem prod_erase_range (k n : ℕ) (f : ℕ → ℝ) :
    ∏ m ∈ (range (k + 1 + n)).erase k, f m = (∏ m ∈ range k, f m) * ∏ i ∈ range n, f (k + 1 + i) := by
  have h1 : ∏ m ∈ (range (k + 1 + n)).erase k, f m
      = ∏ m ∈ (range (k + 1 + n)).erase k, (if m = k then 1 else f m) := by
    apply prod_congr rfl
    intro m hm
    rw [if_neg (ne_of_mem_erase hm)]
  rw [h1, prod_erase _ (by simp), prod_range_add, prod_range_succ]
  simp only [if_true, mul_one]
  congr 1
  · apply prod_congr rfl
    intro m hm
    rw [if_neg (by have := mem_range.mp hm; omega)]
  · apply prod_congr rfl
    intro i _
    rw [if_neg (by omega)]

/-- the distances `c - m` to the `c` numbers below `c`, read upwards -/
theorem prod_range_dist (g : ℝ → ℝ) (c : ℕ) : ∏ m ∈ range c, g ((c : ℝ) - m) = ∏ i ∈ range c, g ((i : ℝ) + 1) := by
  rw [← prod_range_reflect (fun i : ℕ => g ((i : ℝ) + 1))]
  refine prod_congr rfl (fun m hm => ?_)
  have hm' := mem_range.mp hm
  rw [← Nat.cast_add_one, show c - 1 - m + 1 = c - m by omega, Nat.cast_sub hm'.le]

/-- halves of a Lagrange denominator (`den_eq`): `k!` from the `k` nodes below, `(-1)ⁿ n!` from the `n` above -/
noncomputable def fa (k : ℕ) : ℝ := ∏ i ∈ range k, ((i : ℝ) + 1)
noncomputable def fb (n : ℕ) : ℝ := ∏ i ∈ range n, (-((i : ℝ) + 1))

theorem fa_succ (k : ℕ) : fa (k + 1) = fa k * ((k : ℝ) + 1) := prod_range_succ _ k

theorem fb_succ (n : ℕ) : fb (n + 1) = fb n * (-((n : ℝ) + 1)) := prod_range_succ _ n

theorem fa_ne (k : ℕ) : fa k ≠ 0 :=
  prod_ne_zero_iff.mpr (fun i _ => Nat.cast_add_one_ne_zero i)

theorem fb_ne (n : ℕ) : fb n ≠ 0 :=
  prod_ne_zero_iff.mpr (fun i _ => neg_ne_zero.mpr (Nat.cast_add_one_ne_zero i))

/-- Lagrange denominator of node `k` -/
noncomputable def den (h k : ℕ) : ℝ :=
  ∏ m ∈ (range (2 * h)).erase k, (tapNode h k - tapNode h m)

/-- nodal polynomial -/
noncomputable def nod (h : ℕ) (d : ℝ) : ℝ := ∏ m ∈ range (2 * h), (d - tapNode h m)

theorem den_eq (h k n : ℕ) (hn : 2 * h = k + 1 + n) : den h k = fa k * fb n := by
  unfold den
  rw [hn, prod_erase_range]
  unfold fa fb
  congr 1
  · rw [← prod_range_dist (fun t => t)]
    apply prod_congr rfl
    intro m _
    simp only [tapNode]; ring
  · apply prod_congr rfl
    intro i _
    simp only [tapNode]; push_cast; ring

theorem den_ne (h k : ℕ) (hk : k < 2 * h) : den h k ≠ 0 := by
  rw [den_eq h k (2 * h - 1 - k) (by omega)]
  exact mul_ne_zero (fa_ne _) (fb_ne _)

theorem lag_mul (h : ℕ) (d : ℝ) (k : ℕ) (hk : k < 2 * h) :
    lag h d k * (d - tapNode h k) = nod h d / den h k := by
  unfold lag nod den
  rw [prod_div_distrib, ← mul_prod_erase (range (2 * h)) _ (mem_range.mpr hk)]
  ring

theorem lag_rec (h : ℕ) (d : ℝ) (k n : ℕ) (hn : 2 * h = k + 2 + n) :
    lag h d (k + 1) * (d - tapNode h (k + 1)) * ((k : ℝ) + 1)
      = -(lag h d k * (d - tapNode h k) * ((n : ℝ) + 1)) := by
  rw [lag_mul h d (k + 1) (by omega), lag_mul h d k (by omega), den_eq h (k + 1) n (by omega), den_eq h k (n + 1) (by omega), fa_succ, fb_succ]
  have h1 := fa_ne k
  have h2 := fb_ne n
  have h3 := Nat.cast_add_one_ne_zero (R := ℝ) k
  have h4 := Nat.cast_add_one_ne_zero (R := ℝ) n
  field_simp

/-- the common factor applied to every tap for `h ≥ 2` (dsp.py:1339-1343) -/
noncomputable def cc (h : ℕ) (d : ℝ) : ℝ :=
  (∏ i ∈ range (h - 2), (1 - d / ((i + 2 : ℕ) : ℝ) * (d / ((i + 2 : ℕ) : ℝ)))) * ((1 + d) * (1 - d / (h : ℝ)))

theorem forRange_mul_prod (n : ℕ) (t : ℝ) (g : ℕ → ℝ) :
    forRange n t (fun i acc => acc * g i) = t * ∏ i ∈ range n, g i := by
  induction n with
  | zero => simp [forRange_zero]
  | succ m ih => rw [forRange_succ, ih, prod_range_succ, mul_assoc]

theorem tap_one (d : ℝ) (k : ℕ) : Model.tap 1 d k = if k = 0 then 1 - d else d := by
  rw [Model.tap, if_pos rfl, RL.one_eq]

theorem tap_eq_raw_mul (h : ℕ) (hh : h ≠ 1) (d : ℝ) (k : ℕ) :
    Model.tap h d k = Model.tapRaw h d k * cc h d := by
  unfold Model.tap cc
  rw [if_neg hh]
  simp only [RL.ofNat_eq, RL.one_eq]
  rw [forRange_mul_prod, mul_assoc]

theorem tapsFactor_zero (h : ℕ) (d : ℝ) : Model.tapsFactor h d 0 = d * (1 - d) := by
  simp [Model.tapsFactor]

theorem tapsFactor_succ (h : ℕ) (d : ℝ) (j : ℕ) :
    Model.tapsFactor h d (j + 1)
      = Model.tapsFactor h d j
        * (-1 * (1 - ((j : ℝ) + 1) / (h : ℝ)) / (1 + ((j : ℝ) + 1) / (h : ℝ))) := by
  simp [Model.tapsFactor]

/-- `a + 1 = h + (j + 1)` and `b + 1 = h - (j + 1)`, as natural numbers -/
theorem tapsFactor_rec (h : ℕ) (d : ℝ) (j a b : ℕ) (ha : a = h + j) (hb : h = b + j + 2) :
    Model.tapsFactor h d (j + 1) * ((a : ℝ) + 1) = -(Model.tapsFactor h d j * ((b : ℝ) + 1)) := by
  have h0 : (h : ℝ) ≠ 0 := Nat.cast_ne_zero.mpr (by omega)
  have h1 : (h : ℝ) + ((j : ℝ) + 1) ≠ 0 := by positivity
  rw [tapsFactor_succ, ha, hb]
  rw [hb] at h0 h1
  push_cast at h0 h1 ⊢
  field_simp
  ring

theorem tapRaw_centre (h : ℕ) (d : ℝ) (k : ℕ) (hk : k + 1 = h) : Model.tapRaw h d k = 1 - d := by
  rw [Model.tapRaw, if_pos hk, RL.one_eq]

theorem tapRaw_centre_succ (h : ℕ) (d : ℝ) : Model.tapRaw h d h = d := by
  rw [Model.tapRaw, if_neg (by omega), if_pos rfl]

/-- `j ≥ 1` places below the centre pair (taps `h - 1`, `h`), and above it -/
theorem tapRaw_low (h : ℕ) (d : ℝ) (k j : ℕ) (hj : 1 ≤ j) (hkj : h = k + j + 1) :
    Model.tapRaw h d k = Model.tapsFactor h d j / ((j : ℝ) + d) := by
  unfold Model.tapRaw
  rw [if_neg (by omega), if_neg (by omega), if_pos (by omega)]
  simp only [show h - 1 - k = j by omega, RL.ofNat_eq]

theorem tapRaw_up (h : ℕ) (d : ℝ) (j : ℕ) (hj : 1 ≤ j) :
    Model.tapRaw h d (h + j) = Model.tapsFactor h d j / ((j : ℝ) + 1 - d) := by
  unfold Model.tapRaw
  rw [if_neg (by omega), if_neg (by omega), if_neg (by omega)]
  simp only [show h + j - h = j by omega, RL.ofNat_eq, Nat.cast_add, Nat.cast_one]

/-- raw tap × its distance to `d` = ± the running `factor` of the pass that stored it (centre pair: `d (1 - d)`); `hne`: no
    division by zero there -/
theorem tapRaw_mul_low (h : ℕ) (d : ℝ) (k j : ℕ) (hkj : h = k + j + 1) (hne : k + 1 ≠ h → d - tapNode h k ≠ 0) :
    Model.tapRaw h d k * (d - tapNode h k) = Model.tapsFactor h d j := by
  have hn : d - tapNode h k = (j : ℝ) + d := by simp only [tapNode, hkj]; push_cast; ring
  rw [hn] at hne ⊢
  rcases Nat.eq_zero_or_pos j with rfl | hj
  · rw [tapRaw_centre h d k (by omega), tapsFactor_zero]
    push_cast; ring
  · rw [tapRaw_low h d k j hj hkj, div_mul_cancel₀ _ (hne (by omega))]

theorem tapRaw_mul_up (h : ℕ) (d : ℝ) (j : ℕ) (hne : 1 ≤ j → d - tapNode h (h + j) ≠ 0) :
    Model.tapRaw h d (h + j) * (d - tapNode h (h + j)) = -Model.tapsFactor h d j := by
  have hn : d - tapNode h (h + j) = -((j : ℝ) + 1 - d) := by simp only [tapNode]; push_cast; ring
  rw [hn, neg_ne_zero] at hne
  rw [hn, mul_neg, neg_inj]
  rcases Nat.eq_zero_or_pos j with rfl | hj
  · rw [Nat.add_zero, tapRaw_centre_succ, tapsFactor_zero]
    push_cast; ring
  · rw [tapRaw_up h d j hj, div_mul_cancel₀ _ (hne hj)]

theorem tapRaw_rec (h : ℕ) (d : ℝ) (hd : ∀ k < 2 * h, k + 1 ≠ h → d - tapNode h k ≠ 0) (k n : ℕ)
    (hn : 2 * h = k + 2 + n) :
    Model.tapRaw h d (k + 1) * (d - tapNode h (k + 1)) * ((k : ℝ) + 1)
      = -(Model.tapRaw h d k * (d - tapNode h k) * ((n : ℝ) + 1)) := by
  have hk1 : k + 1 < 2 * h := by omega
  have hk0 : k < 2 * h := by omega
  rcases lt_trichotomy (k + 1) h with c | c | c
  · obtain ⟨j, hj⟩ : ∃ j, h = k + 1 + j + 1 := Nat.exists_eq_add_of_lt c
    rw [tapRaw_mul_low h d (k + 1) j hj (hd _ hk1), tapRaw_mul_low h d k (j + 1) (by omega) (hd _ hk0)]
    linear_combination tapsFactor_rec h d j n k (by omega) (by omega)
  · rw [tapRaw_mul_low h d k 0 (by omega) (hd _ hk0), ← c, tapRaw_mul_up (k + 1) d 0 nofun, show n = k by omega]
    ring
  · obtain ⟨j, rfl⟩ : ∃ j, k = h + j := Nat.exists_eq_add_of_le (Nat.lt_succ_iff.mp c)
    rw [add_assoc, tapRaw_mul_up h d (j + 1) (fun _ => hd _ hk1 (by omega)),
      tapRaw_mul_up h d j (fun _ => hd _ hk0 (by omega))]
    linear_combination -tapsFactor_rec h d j (h + j) n rfl (by omega)

theorem lag_center (n : ℕ) (d : ℝ) :
    lag (n + 2) d (n + 1) = (1 - d) * cc (n + 2) d := by
  unfold lag
  rw [show 2 * (n + 2) = n + 1 + 1 + (n + 2) by omega, prod_erase_range]
  -- the nodes below the centre, read downwards, and those above it are `∓(i + 1)`: factors `1 ± d / (i + 1)`
  have e1 : ∏ m ∈ range (n + 1), (d - tapNode (n + 2) m) / (tapNode (n + 2) (n + 1) - tapNode (n + 2) m)
      = ∏ i ∈ range (n + 1), (1 + d / ((i : ℝ) + 1)) := by
    trans ∏ m ∈ range (n + 1), (((n + 1 : ℕ) : ℝ) - m + d) / (((n + 1 : ℕ) : ℝ) - m)
    · refine prod_congr rfl (fun m _ => ?_)
      simp only [tapNode]
      congr 1
      · push_cast; ring
      · push_cast; ring
    · rw [prod_range_dist (fun t => (t + d) / t)]
      refine prod_congr rfl (fun i _ => ?_)
      rw [add_div, div_self (Nat.cast_add_one_ne_zero i)]
  have e2 : ∏ i ∈ range (n + 2), (d - tapNode (n + 2) (n + 1 + 1 + i))
        / (tapNode (n + 2) (n + 1) - tapNode (n + 2) (n + 1 + 1 + i))
      = ∏ i ∈ range (n + 2), (1 - d / ((i : ℝ) + 1)) := by
    refine prod_congr rfl (fun i _ => ?_)
    have hi := Nat.cast_add_one_ne_zero (R := ℝ) i
    have hden : tapNode (n + 2) (n + 1) - tapNode (n + 2) (n + 1 + 1 + i) = -((i : ℝ) + 1) := by
      simp only [tapNode]; push_cast; ring
    have hnum : d - tapNode (n + 2) (n + 1 + 1 + i) = -((i : ℝ) + 1) + d := by simp only [tapNode]; push_cast; ring
    rw [hden, hnum, add_div, div_self (neg_ne_zero.mpr hi), div_neg, sub_eq_add_neg]
  -- pair them: `(1 + d/i)(1 - d/i) = 1 - (d/i)²`; `i = 1` and the unpaired top node `n + 2` give the three outer factors
  rw [e1, e2, cc, show n + 2 - 2 = n by omega, prod_range_succ (fun i : ℕ => (1 - d / ((i : ℝ) + 1))) (n + 1), ← mul_assoc,
    ← prod_mul_distrib, prod_range_succ']
  have e3 : ∏ k ∈ range n, (1 + d / (((k + 1 : ℕ) : ℝ) + 1)) * (1 - d / (((k + 1 : ℕ) : ℝ) + 1))
      = ∏ i ∈ range n, (1 - d / ((i + 2 : ℕ) : ℝ) * (d / ((i + 2 : ℕ) : ℝ))) := by
    refine prod_congr rfl (fun i _ => ?_)
    push_cast
    rw [show ((i : ℝ) + 1 + 1) = (i : ℝ) + 2 by ring]
    ring
  rw [e3]
  push_cast
  ring

/-- `ha`, `hb`: the coefficient cancelled on the way out from `c` -/
theorem eq_of_rec {u v a b : ℕ → ℝ} {N c : ℕ} (hu : ∀ k, k + 1 < N → u (k + 1) * a k = u k * b k)
    (hv : ∀ k, k + 1 < N → v (k + 1) * a k = v k * b k) (hc : u c = v c)
    (ha : ∀ k, c ≤ k → k + 1 < N → a k ≠ 0) (hb : ∀ k, k < c → b k ≠ 0) (hcN : c < N) : ∀ k < N, u k = v k := by
  have up : ∀ k, c ≤ k → k < N → u k = v k := by
    intro k hk
    induction k, hk using Nat.le_induction with
    | base => exact fun _ => hc
    | succ k hk ih =>
      intro hkN
      apply mul_right_cancel₀ (ha k hk hkN)
      rw [hu k hkN, hv k hkN, ih (by omega)]
  have down : ∀ m k, k + m = c → u k = v k := by
    intro m
    induction m with
    | zero => intro k hk; rw [show k = c by omega]; exact hc
    | succ m ih =>
      intro k hk
      apply mul_right_cancel₀ (hb k (by omega))
      rw [← hu k (by omega), ← hv k (by omega), ih (k + 1) (by omega)]
  intro k hk
  rcases le_total c k with h | h
  · exact up k h hk
  · exact down (c - k) k (by omega)

theorem lag_eq_tapRaw (h : ℕ) (hh : 2 ≤ h) (d : ℝ) (hd : ∀ k < 2 * h, k + 1 ≠ h → d - tapNode h k ≠ 0) :
    ∀ k < 2 * h, lag h d k = Model.tapRaw h d k * cc h d := by
  refine eq_of_rec (a := fun k => (d - tapNode h (k + 1)) * ((k : ℝ) + 1))
    (b := fun k => -((d - tapNode h k) * (((2 * h - 2 - k : ℕ) : ℝ) + 1))) (c := h - 1) ?_ ?_ ?_ ?_ ?_ (by omega)
  · intro k hk
    linear_combination lag_rec h d k (2 * h - 2 - k) (by omega)
  · intro k hk
    linear_combination (cc h d) * tapRaw_rec h d hd k (2 * h - 2 - k) (by omega)
  · obtain ⟨n, rfl⟩ : ∃ n, h = n + 2 := Nat.exists_eq_add_of_le' hh
    rw [show n + 2 - 1 = n + 1 by omega, lag_center, tapRaw_centre _ _ _ rfl]
  · intro k hk hk2
    exact mul_ne_zero (hd (k + 1) hk2 (by omega)) (Nat.cast_add_one_ne_zero k)
  · intro k hk
    exact neg_ne_zero.mpr (mul_ne_zero (hd k (by omega) (by omega)) (Nat.cast_add_one_ne_zero _))

/-- a fractional shift `0 ≤ d < 1` meets no node but the centre one (node `0`, tap `h - 1`) -/
theorem sub_tapNode_ne (h k : ℕ) (hk : k + 1 ≠ h) (d : ℝ) (hd0 : 0 ≤ d) (hd1 : d < 1) : d - tapNode h k ≠ 0 := by
  intro e
  rw [sub_eq_zero.mp e, tapNode] at hd0 hd1
  have h1 : h ≤ k + 1 := by exact_mod_cast (by linarith : (h : ℝ) ≤ k + 1)
  have h2 : k < h := by exact_mod_cast (by linarith : (k : ℝ) < h)
  omega

theorem tapNode_injOn (h : ℕ) (s : Set ℕ) : Set.InjOn (tapNode h) s := by
  intro a _ b _ hab
  simp only [tapNode, sub_left_inj] at hab
  exact_mod_cast hab

theorem lag_eq_eval_basis (h : ℕ) (d : ℝ) (k : ℕ) :
    lag h d k = Polynomial.eval d (Lagrange.basis (range (2 * h)) (tapNode h) k) := by
  unfold lag Lagrange.basis
  rw [Polynomial.eval_prod]
  apply prod_congr rfl
  intro m _
  simp [Lagrange.basisDivisor, div_eq_inv_mul]

theorem lag_node (h j k : ℕ) (hj : j < 2 * h) : lag h (tapNode h j) k = if k = j then 1 else 0 := by
  rw [lag_eq_eval_basis]
  split_ifs with e
  · rw [e]
    exact Lagrange.eval_basis_self (tapNode_injOn h _) (mem_range.mpr hj)
  · exact Lagrange.eval_basis_of_ne e (mem_range.mpr hj)

end TapsAux

open TapsAux

/-- for every real `d` at which the code does not divide by zero: off the non-centre nodes -/
theorem tap_eq_lagrange_off_nodes (h : ℕ) (hh : 1 ≤ h) (d : ℝ) (hd : ∀ k < 2 * h, k + 1 ≠ h → d - tapNode h k ≠ 0) (k : ℕ)
    (hk : k < 2 * h) :
    Model.tap h d k
      = ∏ m ∈ (Finset.range (2 * h)).erase k, (d - tapNode h m) / (tapNode h k - tapNode h m) := by
  change Model.tap h d k = lag h d k
  rcases Nat.eq_or_lt_of_le hh with h1 | h2
  · subst h1
    -- two nodes: one factor each
    obtain rfl | rfl : k = 0 ∨ k = 1 := by omega
    · rw [lag, show 2 * 1 = 0 + 1 + 1 from rfl, prod_erase_range, prod_range_zero, prod_range_one, tap_one, if_pos rfl]
      simp only [tapNode]
      push_cast
      ring
    · rw [lag, show 2 * 1 = 1 + 1 + 0 from rfl, prod_erase_range, prod_range_zero, prod_range_one, tap_one, if_neg one_ne_zero]
      simp only [tapNode]
      norm_num
  · rw [tap_eq_raw_mul h (by omega), lag_eq_tapRaw h h2 d hd k hk]

theorem tap_eq_lagrange (h : ℕ) (hh : 1 ≤ h) (d : ℝ) (hd0 : 0 ≤ d) (hd1 : d < 1) (k : ℕ) (hk : k < 2 * h) :
    Model.tap h d k
      = ∏ m ∈ (Finset.range (2 * h)).erase k, (d - tapNode h m) / (tapNode h k - tapNode h m) :=
  tap_eq_lagrange_off_nodes h hh d (fun k _ hk => sub_tapNode_ne h k hk d hd0 hd1) k hk

theorem taps_reproduce_poly (h : ℕ) (hh : 1 ≤ h) (d : ℝ) (hd0 : 0 ≤ d) (hd1 : d < 1)
    (p : Polynomial ℝ) (hp : p.natDegree < 2 * h) :
    ∑ k ∈ Finset.range (2 * h), Model.tap h d k * p.eval (tapNode h k) = p.eval d := by
  have hdeg : p.degree < ((range (2 * h)).card : WithBot ℕ) := by
    rw [card_range]
    exact lt_of_le_of_lt Polynomial.degree_le_natDegree (by exact_mod_cast hp)
  have hint := Lagrange.eq_interpolate (s := range (2 * h)) (v := tapNode h) (f := p)
    (tapNode_injOn h _) hdeg
  conv_rhs => rw [hint]
  rw [Lagrange.interpolate_apply, Polynomial.eval_finsetSum]
  apply sum_congr rfl
  intro k hk
  rw [Polynomial.eval_mul, Polynomial.eval_C, tap_eq_lagrange h hh d hd0 hd1 k (mem_range.mp hk)]
  change lag h d k * _ = _
  rw [lag_eq_eval_basis, mul_comm]

theorem taps_sum_one (h : ℕ) (hh : 1 ≤ h) (d : ℝ) (hd0 : 0 ≤ d) (hd1 : d < 1) :
    ∑ k ∈ Finset.range (2 * h), Model.tap h d k = 1 := by
  have := taps_reproduce_poly h hh d hd0 hd1 1 (by rw [Polynomial.natDegree_one]; omega)
  simpa only [Polynomial.eval_one, mul_one] using this

theorem tap_at_zero (h : ℕ) (hh : 1 ≤ h) (k : ℕ) (hk : k < 2 * h) :
    Model.tap h (0 : ℝ) k = if k + 1 = h then 1 else 0 := by
  have hz : tapNode h (h - 1) = (0 : ℝ) := by
    rw [tapNode, Nat.cast_sub hh, Nat.cast_one, sub_self]
  have := lag_node h (h - 1) k (by omega)
  rw [hz] at this
  rw [tap_eq_lagrange h hh 0 le_rfl one_pos k hk]
  exact this.trans (if_congr (by omega) rfl rfl)

#print axioms tap_eq_lagrange
#print axioms taps_sum_one
#print axioms taps_reproduce_poly
#print axioms tap_at_zero
