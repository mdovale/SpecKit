/-
  SpecKitV.Lemmas.SchedNewVec — per-bin and walk facts of the multi-stage scheduler
  (`Model.newStep`, `Model.newWalk`; namespace `NewMono`, which Props/C04New continues) and of the
  vectorised scheduler (`Model.vecGridPoint`, `Model.searchLeft`, `Model.vecWalk`).
  Both report their bins through `Sched.binAt` with half-even rounding; the grid map of the
  vectorised scheduler is `Sched.stepAt` with that rounding.
-/
import SpecKitV.Lemmas.SchedLtf

namespace SchedNV

/-- The fields of root `Adm`; inside `namespace SchedNV` a bare `Adm` is this one.  The statements the checks list
    (`vk/props/C02.py`, `C03.py`: THEOREMS) take it, the shared lemmas `_root_.Adm`; `h.root`, `h.nv` convert. -/
structure Adm (c : Model.Cfg ℝ) : Prop where
  hN : 8 ≤ c.N
  hfs : 0 < c.fs
  holap0 : 0 ≤ c.olap
  holap1 : c.olap < 1
  hbmin1 : 1 ≤ c.bmin
  hbminN : c.bmin < (c.N : ℝ) / 2
  hLmin1 : 1 ≤ c.Lmin
  hLminN : c.Lmin ≤ c.N
  hJ : 1 ≤ c.Jdes
  hK : 1 ≤ c.Kdes

theorem Adm.root {c : Model.Cfg ℝ} (h : Adm c) : _root_.Adm c :=
  ⟨h.hN, h.hfs, h.holap0, h.holap1, h.hbmin1, h.hbminN, h.hLmin1, h.hLminN, h.hJ, h.hK⟩

end SchedNV

theorem Adm.nv {c : Model.Cfg ℝ} (h : Adm c) : SchedNV.Adm c :=
  ⟨h.hN, h.hfs, h.holap0, h.holap1, h.hbmin1, h.hbminN, h.hLmin1, h.hLminN, h.hJ, h.hK⟩

namespace SchedNV

theorem RLadd (a b : ℝ) : @HAdd.hAdd ℝ ℝ ℝ (@instHAdd ℝ instRealLikeReal.toAdd) a b = a + b := rfl
theorem RLsub (a b : ℝ) : @HSub.hSub ℝ ℝ ℝ (@instHSub ℝ instRealLikeReal.toSub) a b = a - b := rfl
theorem RLmul (a b : ℝ) : @HMul.hMul ℝ ℝ ℝ (@instHMul ℝ instRealLikeReal.toMul) a b = a * b := rfl
theorem RLdiv (a b : ℝ) : @HDiv.hDiv ℝ ℝ ℝ (@instHDiv ℝ instRealLikeReal.toDiv) a b = a / b := rfl

theorem roundEven_abs_sub_le (x : ℝ) : |((RealLike.roundEven x : ℤ) : ℝ) - x| ≤ 1 / 2 :=
  _root_.roundEven_abs_sub_le x

theorem roundEven_mono {x y : ℝ} (h : x ≤ y) : RealLike.roundEven x ≤ RealLike.roundEven y :=
  roundEven_nearest.mono h

end SchedNV

namespace NewMono
open Model Sched

/-- part A of `newStep`, copied from the model and tied to it by `rfl` (`newStep_state`, `newStep_out_raw`):
    a model edit shows up there as a type mismatch -/
noncomputable def partA (c : Cfg ℝ) (k : Consts ℝ) (s : NewState ℝ) : Int × Bool × ℝ × Nat × Int :=
  if s.stage3 then ((c.Lmin : Int), s.stage2, s.alpha, s.kStage2, s.crossover)
  else if s.stage2 then
    (RealLike.roundEven (RealLike.ofInt s.crossover * RealLike.exp (s.alpha * RealLike.ofNat s.kStage2)),
      s.stage2, s.alpha, s.kStage2 + 1, s.crossover)
  else
    let fresIdeal := s.fi * k.logfact
    if RealLike.ge fresIdeal k.freslim then
      let ptsLeft : Int := (c.Jdes : Int) - (s.j : Int)
      let alpha := if ptsLeft > 1 && s.crossover > 0 then
          RealLike.log (RealLike.ofNat c.Lmin / RealLike.ofInt s.crossover) / RealLike.ofInt (ptsLeft - 1)
        else s.alpha
      let d := RealLike.roundEven (c.fs / fresIdeal)
      (d, true, alpha, s.kStage2, d)
    else if RealLike.gt (RealLike.pow (k.freslim * fresIdeal) (RealLike.ofSci 5 true 1)) k.fresmin then
      let d := RealLike.roundEven (c.fs / RealLike.pow (k.freslim * fresIdeal) (RealLike.ofSci 5 true 1))
      (d, s.stage2, s.alpha, s.kStage2, d)
    else
      let d := RealLike.roundEven (c.fs / k.fresmin)
      (d, s.stage2, s.alpha, s.kStage2, d)

/-- part B, first line: `(stage3, dftlen)` -/
noncomputable def partB (c : Cfg ℝ) (k : Consts ℝ) (s : NewState ℝ) : Bool × Int :=
  if (partA c k s).2.1 && (partA c k s).1 < (c.Lmin : Int) then (true, (c.Lmin : Int))
  else (s.stage3, (partA c k s).1)

theorem newStep_state (c : Cfg ℝ) (k : Consts ℝ) (s : NewState ℝ) :
    (newStep c k s).2 =
      { fi := s.fi + (newStep c k s).1.1, j := s.j + 1, stage2 := (partA c k s).2.1,
        stage3 := (partB c k s).1, alpha := (partA c k s).2.2.1, kStage2 := (partA c k s).2.2.2.1,
        crossover := (partA c k s).2.2.2.2 } := by
  rfl

/-- clamped stage length, before the single-segment and bmin rules -/
noncomputable def len (c : Cfg ℝ) (k : Consts ℝ) (s : NewState ℝ) : ℕ :=
  clampL c.N c.Lmin (partB c k s).2

/-- the clamped length the bmin rule asks for -/
noncomputable def lenBmin (c : Cfg ℝ) (fi : ℝ) : ℕ := clampL c.N c.Lmin ⌈c.fs * c.bmin / fi⌉

/-- the second half of `newStep` (schedulers.py:447-465) with the clamped stage length named -/
theorem newStep_out_raw (c : Cfg ℝ) (k : Consts ℝ) (s : NewState ℝ) :
    (newStep c k s).1 =
      (let L0 : Nat := len c k s
       let nseg : Int := RealLike.roundEven (RealLike.ofInt ((c.N : Int) - (L0 : Int)) / (k.xov * RealLike.ofNat L0) + RealLike.one)
       let L : Nat := if nseg == 1 then c.N else L0
       let fres := c.fs / RealLike.ofNat L
       let fbin := s.fi / fres
       let r : Nat × Int × ℝ × ℝ :=
         if RealLike.lt fbin c.bmin then
           let L := clampL c.N c.Lmin (RealLike.ceil (c.fs * c.bmin / s.fi))
           let nseg : Int := RealLike.roundEven (RealLike.ofInt ((c.N : Int) - (L : Int)) / (k.xov * RealLike.ofNat L) + RealLike.one)
           let L : Nat := if nseg == 1 then c.N else L
           let fres := c.fs / RealLike.ofNat L
           (L, nseg, fres, s.fi / fres)
         else (L, nseg, fres, fbin)
       (r.2.2.1, r.2.2.2, r.1, capK c.N r.1 r.2.1)) := by
  rfl

theorem newStep_out (c : Cfg ℝ) (k : Consts ℝ) (s : NewState ℝ) :
    (newStep c k s).1 =
      if s.fi / (c.fs / (ruleL RealLike.roundEven c.N k.xov (len c k s) : ℝ)) < c.bmin then
        binAt RealLike.roundEven c k.xov s.fi (lenBmin c s.fi)
      else binAt RealLike.roundEven c k.xov s.fi (len c k s) := by
  rw [newStep_out_raw]
  simp only [cnt_fold, ruleL_fold]
  simp only [RL.lt_eq, RL.ceil_eq, RL.ofNat_eq, decide_eq_true_eq]
  split_ifs <;> rfl

theorem len_bounds {c : Cfg ℝ} (h : Adm c) (k : Consts ℝ) (s : NewState ℝ) :
    c.Lmin ≤ len c k s ∧ len c k s ≤ c.N :=
  clampL_bounds _ _ h.hLminN _

theorem lenBmin_bounds {c : Cfg ℝ} (h : Adm c) (fi : ℝ) : c.Lmin ≤ lenBmin c fi ∧ lenBmin c fi ≤ c.N :=
  clampL_bounds _ _ h.hLminN _

end NewMono

namespace SchedNV
open Model Sched NewMono

theorem newStep_ok {c : Cfg ℝ} (h : _root_.Adm c) (s : NewState ℝ) :
    BinOK c (newStep c (consts c) s).1.1 (newStep c (consts c) s).1.2.2.1
      (newStep c (consts c) s).1.2.2.2 := by
  have hl := len_bounds h (consts c) s
  have hB := lenBmin_bounds h s.fi
  rw [newStep_out]
  split_ifs
  · exact binAt_ok roundEven_nearest h (xov_pos h) s.fi hB.1 hB.2
  · exact binAt_ok roundEven_nearest h (xov_pos h) s.fi hl.1 hl.2

-- `hfi` unused in the next four
set_option linter.unusedVariables false in
theorem newStep_L_bounds (c : Model.Cfg ℝ) (h : Adm c) (s : Model.NewState ℝ) (hfi : 0 < s.fi) :
    let o := (Model.newStep c (Model.consts c) s).1
    max 1 c.Lmin ≤ o.2.2.1 ∧ o.2.2.1 ≤ c.N :=
  ⟨(newStep_ok h.root s).L_ge, (newStep_ok h.root s).L_le⟩

set_option linter.unusedVariables false in
theorem newStep_rL (c : Model.Cfg ℝ) (h : Adm c) (s : Model.NewState ℝ) (hfi : 0 < s.fi) :
    let o := (Model.newStep c (Model.consts c) s).1
    o.1 * (o.2.2.1 : ℝ) = c.fs ∧ 0 < o.1 ∧ c.fs / c.N ≤ o.1 :=
  have o := newStep_ok h.root s
  ⟨o.rL, o.r_pos h.hfs, o.r_ge h.hfs⟩

set_option linter.unusedVariables false in
theorem newStep_bin (c : Model.Cfg ℝ) (h : Adm c) (s : Model.NewState ℝ) (hfi : 0 < s.fi) :
    let o := (Model.newStep c (Model.consts c) s).1
    o.2.1 = s.fi / o.1 ∧ o.2.1 = s.fi * (o.2.2.1 : ℝ) / c.fs := by
  have e : (Model.newStep c (Model.consts c) s).1.2.1 = s.fi / (Model.newStep c (Model.consts c) s).1.1 := by
    rw [newStep_out]
    split_ifs <;> rfl
  exact ⟨e, e.trans ((newStep_ok h.root s).bin_eq s.fi)⟩

set_option linter.unusedVariables false in
theorem newStep_K (c : Model.Cfg ℝ) (h : Adm c) (s : Model.NewState ℝ) (hfi : 0 < s.fi) :
    let o := (Model.newStep c (Model.consts c) s).1
    1 ≤ o.2.2.2 ∧ o.2.2.2 ≤ (c.N : ℤ) - o.2.2.1 + 1 ∧ (o.2.2.2 = 1 → o.2.2.1 = c.N) :=
  have o := newStep_ok h.root s
  ⟨o.K_ge, o.K_le, o.K_one⟩

theorem newStep_next (c : Model.Cfg ℝ) (s : Model.NewState ℝ) :
    (Model.newStep c (Model.consts c) s).2.fi = s.fi + (Model.newStep c (Model.consts c) s).1.1 ∧
    (Model.newStep c (Model.consts c) s).2.j = s.j + 1 := by
  rw [newStep_state]
  exact ⟨rfl, rfl⟩

/-- the bin number never drops below bmin (the enforcement uses ceil) -/
theorem newStep_bmin (c : Model.Cfg ℝ) (h : Adm c) (s : Model.NewState ℝ)
    (hfi : c.fs / c.N * c.bmin ≤ s.fi) :
    c.bmin ≤ (Model.newStep c (Model.consts c) s).1.2.1 := by
  have hA := h.root
  have hfi0 : 0 < s.fi := lt_of_lt_of_le (fmin_pos hA) hfi
  rw [newStep_out]
  split_ifs with hc
  · -- the length `⌈fs·bmin/fi⌉` survives the clamp and the single-segment rule, or `L = N`
    have hx : c.fs * c.bmin / s.fi ≤ (ruleL RealLike.roundEven c.N (consts c).xov (lenBmin c s.fi) : ℝ) :=
      le_ruleL_clampL c.N c.Lmin _ (bminLen_le hA hfi) (Int.le_ceil _)
    show c.bmin ≤ s.fi / (c.fs / (ruleL RealLike.roundEven c.N (consts c).xov (lenBmin c s.fi) : ℝ))
    rw [div_div_eq_mul_div, le_div_iff₀ h.hfs]
    rw [div_le_iff₀ hfi0] at hx
    linarith
  · exact not_lt.mp hc

theorem newWalk_succ (n : ℕ) (c : Cfg ℝ) (k : Consts ℝ) (s : NewState ℝ) :
    newWalk (n + 1) c k s =
      if RealLike.lt s.fi k.fmax then (s.fi, (newStep c k s).1) :: newWalk n c k (newStep c k s).2
      else [] := rfl

theorem newWalk_eq_genWalk (c : Cfg ℝ) (k : Consts ℝ) : ∀ (fuel : ℕ) (s : NewState ℝ),
    newWalk fuel c k s = genWalk (fun s => RealLike.lt s.fi k.fmax)
      (fun s => (s.fi, (newStep c k s).1)) (fun s => (newStep c k s).2) fuel s
  | 0, _ => rfl
  | n + 1, s => by rw [newWalk_succ, genWalk.succ, newWalk_eq_genWalk c k n]

theorem newStep_fi_lt {c : Cfg ℝ} (h : _root_.Adm c) (s : NewState ℝ) :
    s.fi < (newStep c (consts c) s).2.fi := by
  rw [(newStep_next c s).1]
  exact lt_add_of_pos_right _ ((newStep_ok h s).r_pos h.hfs)

theorem newWalk_below (fuel : ℕ) (c : Model.Cfg ℝ) (s : Model.NewState ℝ) :
    ∀ e ∈ Model.newWalk fuel c (Model.consts c) s, e.1 < (Model.consts c).fmax := by
  rw [newWalk_eq_genWalk]
  refine genWalk.forall_mem' ?_
  exact fun _ hc => of_decide_eq_true hc

theorem newWalk_stepping (fuel : ℕ) (c : Model.Cfg ℝ) (s : Model.NewState ℝ) :
    (Model.newWalk fuel c (Model.consts c) s).IsChain (fun a b => b.1 = a.1 + a.2.1) := by
  rw [newWalk_eq_genWalk]
  refine genWalk.isChain' ?_
  exact fun s _ _ => (newStep_next c s).1

theorem newWalk_bins (fuel : ℕ) (c : Model.Cfg ℝ) (h : Adm c) (s : Model.NewState ℝ) (hfi : 0 < s.fi) :
    ∀ e ∈ Model.newWalk fuel c (Model.consts c) s,
      0 < e.1 ∧ e.2.1 * (e.2.2.2.1 : ℝ) = c.fs ∧ max 1 c.Lmin ≤ e.2.2.2.1 ∧ e.2.2.2.1 ≤ c.N ∧
      1 ≤ e.2.2.2.2 ∧ e.2.2.2.2 ≤ (c.N : ℤ) - e.2.2.2.1 + 1 ∧ (e.2.2.2.2 = 1 → e.2.2.2.1 = c.N) ∧
      e.2.2.1 = e.1 / e.2.1 := by
  rw [newWalk_eq_genWalk]
  refine genWalk.forall_mem (I := fun s => 0 < s.fi) (fun s hs _ => ?_) ?_ fuel s hfi
  · exact hs.trans (newStep_fi_lt h.root s)
  intro s hs _
  have o := newStep_ok h.root s
  exact ⟨hs, o.rL, o.L_ge, o.L_le, o.K_ge, o.K_le, o.K_one, (newStep_bin c h s hs).1⟩

theorem newWalk_forall {c : Cfg ℝ} (h : _root_.Adm c) {P : ℝ × ℝ × ℝ × ℕ × ℤ → Prop}
    (hP : ∀ s : NewState ℝ, (consts c).fmin ≤ s.fi → s.fi < (consts c).fmax →
      P (s.fi, (newStep c (consts c) s).1))
    (fuel : ℕ) (s : NewState ℝ) (hs : (consts c).fmin ≤ s.fi) :
    ∀ e ∈ newWalk fuel c (consts c) s, P e := by
  rw [newWalk_eq_genWalk]
  exact genWalk.forall_mem (I := fun s => (consts c).fmin ≤ s.fi)
    (fun s hs _ => hs.trans (newStep_fi_lt h s).le)
    (fun s hs hc => hP s hs (of_decide_eq_true hc)) fuel s hs

theorem newWalk_fuel (c : Model.Cfg ℝ) (h : Adm c) (s : Model.NewState ℝ)
    (hfi : (Model.consts c).fmin ≤ s.fi) (extra : ℕ) :
    Model.newWalk (c.N + extra) c (Model.consts c) s = Model.newWalk c.N c (Model.consts c) s := by
  have hA := h.root
  have hδ := fresmin_pos hA
  rw [newWalk_eq_genWalk, newWalk_eq_genWalk]
  exact genWalk.fuel_enough (I := fun _ => True)
    (μ := fun s => ((consts c).fmax - s.fi) / (c.fs / c.N) + 1) (fun _ _ _ => trivial)
    (fun s _ hc => by
      rw [(newStep_next c s).1]
      exact fuel_step hδ ((newStep_ok hA s).r_ge h.hfs) (of_decide_eq_true hc))
    c.N s trivial (fuel_N hA hfi) extra

theorem vecGridPoint_eq_stepAt {c : Cfg ℝ} (hLmin : c.Lmin ≤ c.N) {xov rmin ravg clog fg : ℝ} :
    vecGridPoint c xov rmin ravg clog fg =
      ((stepAt RealLike.roundEven c xov rmin ravg clog fg).1,
       (stepAt RealLike.roundEven c xov rmin ravg clog fg).2.2.1,
       (stepAt RealLike.roundEven c xov rmin ravg clog fg).2.2.2) := by
  unfold vecGridPoint stepAt binAt
  simp only [cnt_fold, ruleL_fold, clampClip_eq_clampL hLmin]
  rw [cnt_ruleL roundEven_nearest]
  simp only [RL.ge_eq, RL.gt_eq, RL.lt_eq, RL.sqrt_eq, RL.ofNat_eq, decide_eq_true_eq]
  rfl

theorem vecGridPoint_ok {c : Cfg ℝ} (h : _root_.Adm c) {xov : ℝ} (hx : 0 < xov)
    {rmin ravg clog fg : ℝ} :
    BinOK c (vecGridPoint c xov rmin ravg clog fg).1 (vecGridPoint c xov rmin ravg clog fg).2.1
      (vecGridPoint c xov rmin ravg clog fg).2.2 := by
  rw [vecGridPoint_eq_stepAt h.hLminN]
  exact stepAt_ok roundEven_nearest h hx fg

-- `hr hra hc hfg` unused
set_option linter.unusedVariables false in
theorem vecGridPoint_props (c : Model.Cfg ℝ) (h : Adm c) (xov rmin ravg clog fg : ℝ)
    (hx : xov = 1 - c.olap) (hr : 0 < rmin) (hra : rmin ≤ ravg) (hc : 0 < clog) (hfg : 0 < fg) :
    let o := Model.vecGridPoint c xov rmin ravg clog fg
    o.1 * (o.2.1 : ℝ) = c.fs ∧ c.fs / c.N ≤ o.1 ∧ max 1 c.Lmin ≤ o.2.1 ∧ o.2.1 ≤ c.N ∧
    1 ≤ o.2.2 ∧ o.2.2 ≤ (c.N : ℤ) - o.2.1 + 1 ∧ (o.2.2 = 1 → o.2.1 = c.N) := by
  intro o
  have ok : BinOK c o.1 o.2.1 o.2.2 := vecGridPoint_ok h.root (hx ▸ sub_pos.mpr h.holap1)
  exact ⟨ok.rL, ok.r_ge h.hfs, ok.L_ge, ok.L_le, ok.K_ge, ok.K_le, ok.K_one⟩

theorem searchLeft_zero (grid : ℕ → ℝ) (v : ℝ) : Model.searchLeft grid 0 v = 0 := by
  unfold Model.searchLeft; rw [forRange_zero]

theorem searchLeft_succ (grid : ℕ → ℝ) (n : ℕ) (v : ℝ) :
    Model.searchLeft grid (n + 1) v =
      if grid n < v then Model.searchLeft grid n v + 1 else Model.searchLeft grid n v := by
  unfold Model.searchLeft
  rw [forRange_succ]
  simp only [RL.lt_eq, decide_eq_true_eq]

theorem searchLeft_le (grid : ℕ → ℝ) (n : ℕ) (v : ℝ) : Model.searchLeft grid n v ≤ n := by
  induction n with
  | zero => rw [searchLeft_zero]
  | succ k ih => rw [searchLeft_succ]; split_ifs <;> omega

theorem searchLeft_spec (grid : ℕ → ℝ) (n : ℕ) (hmono : ∀ i j, i ≤ j → j < n → grid i ≤ grid j) (v : ℝ) :
    (∀ i < Model.searchLeft grid n v, grid i < v) ∧
    (∀ i, Model.searchLeft grid n v ≤ i → i < n → v ≤ grid i) := by
  induction n with
  | zero =>
    rw [searchLeft_zero]
    exact ⟨fun i hi => absurd hi (Nat.not_lt_zero i), fun i _ hi => absurd hi (Nat.not_lt_zero i)⟩
  | succ k ih =>
    have ih' := ih (fun i j hij hj => hmono i j hij (Nat.lt_succ_of_lt hj))
    have hle := searchLeft_le grid k v
    rw [searchLeft_succ]
    by_cases hk : grid k < v
    · rw [if_pos hk]
      constructor
      · intro i hi
        exact lt_of_le_of_lt (hmono i k (by omega) (Nat.lt_succ_self k)) hk
      · intro i hi1 hi2
        exfalso
        -- the count is k: otherwise v ≤ grid (count) ≤ grid k < v
        by_cases hc : Model.searchLeft grid k v < k
        · have h1 := ih'.2 _ (le_refl _) hc
          have h2 := hmono _ k (le_of_lt hc) (Nat.lt_succ_self k)
          exact (h1.trans h2).not_gt hk
        · omega
    · rw [if_neg hk]
      constructor
      · exact ih'.1
      · intro i hi1 hi2
        rcases Nat.lt_succ_iff_lt_or_eq.mp hi2 with hlt | rfl
        · exact ih'.2 i hi1 hlt
        · exact not_lt.mp hk

theorem searchLeft_mono (grid : ℕ → ℝ) (n : ℕ) {u v : ℝ} (h : u ≤ v) :
    Model.searchLeft grid n u ≤ Model.searchLeft grid n v := by
  induction n with
  | zero => rw [searchLeft_zero, searchLeft_zero]
  | succ k ih =>
    rw [searchLeft_succ, searchLeft_succ]
    by_cases hu : grid k < u
    · have hv : grid k < v := lt_of_lt_of_le hu h
      rw [if_pos hu, if_pos hv]; omega
    · rw [if_neg hu]; split_ifs <;> omega

theorem vecWalk_succ (m : ℕ) (fmax : ℝ) (grid : ℕ → ℝ) (n : ℕ) (map : ℕ → ℝ × ℕ × ℤ) (fi : ℝ) :
    vecWalk (m + 1) fmax grid n map fi =
      if RealLike.lt fi fmax then
        if searchLeft grid n fi ≥ n then []
        else (fi, map (searchLeft grid n fi)) ::
          vecWalk m fmax grid n map (fi + (map (searchLeft grid n fi)).1)
      else [] := rfl

theorem vecWalk_eq_genWalk (fmax : ℝ) (grid : ℕ → ℝ) (n : ℕ) (map : ℕ → ℝ × ℕ × ℤ) :
    ∀ (fuel : ℕ) (fi : ℝ), vecWalk fuel fmax grid n map fi =
      genWalk (fun f => RealLike.lt f fmax && decide (searchLeft grid n f < n))
        (fun f => (f, map (searchLeft grid n f))) (fun f => f + (map (searchLeft grid n f)).1) fuel fi
  | 0, _ => rfl
  | m + 1, fi => by
    rw [vecWalk_succ, genWalk.succ, vecWalk_eq_genWalk fmax grid n map m]
    simp only [Bool.and_eq_true, decide_eq_true_eq, ite_and, ge_iff_le, ← not_lt, ite_not]

theorem vecWalk_below (fuel : ℕ) (fmax : ℝ) (grid : ℕ → ℝ) (n : ℕ) (map : ℕ → ℝ × ℕ × ℤ) (fi : ℝ) :
    ∀ e ∈ Model.vecWalk fuel fmax grid n map fi, e.1 < fmax := by
  rw [vecWalk_eq_genWalk]
  refine genWalk.forall_mem' ?_
  exact fun _ hc => of_decide_eq_true (Bool.and_eq_true_iff.mp hc).1

theorem vecWalk_stepping (fuel : ℕ) (fmax : ℝ) (grid : ℕ → ℝ) (n : ℕ) (map : ℕ → ℝ × ℕ × ℤ) (fi : ℝ) :
    (Model.vecWalk fuel fmax grid n map fi).IsChain (fun a b => b.1 = a.1 + a.2.1) := by
  rw [vecWalk_eq_genWalk]
  refine genWalk.isChain' ?_
  exact fun _ _ _ => rfl

theorem vecWalk_entry_from_map (fuel : ℕ) (fmax : ℝ) (grid : ℕ → ℝ) (n : ℕ) (map : ℕ → ℝ × ℕ × ℤ) (fi : ℝ) :
    ∀ e ∈ Model.vecWalk fuel fmax grid n map fi,
      ∃ idx < n, e.2 = map idx ∧ idx = Model.searchLeft grid n e.1 := by
  rw [vecWalk_eq_genWalk]
  refine genWalk.forall_mem' ?_
  exact fun f hc => ⟨_, of_decide_eq_true (Bool.and_eq_true_iff.mp hc).2, rfl, rfl⟩

example : Adm { N := 1000, fs := 2, olap := 1/2, bmin := 1, Lmin := 1, Jdes := 100, Kdes := 10 } := by
  constructor <;> norm_num

end SchedNV

#print axioms SchedNV.roundEven_abs_sub_le
#print axioms SchedNV.roundEven_mono
#print axioms SchedNV.newStep_L_bounds
#print axioms SchedNV.newStep_rL
#print axioms SchedNV.newStep_bin
#print axioms SchedNV.newStep_K
#print axioms SchedNV.newStep_next
#print axioms SchedNV.newStep_bmin
#print axioms SchedNV.newWalk_below
#print axioms SchedNV.newWalk_stepping
#print axioms SchedNV.newWalk_bins
#print axioms SchedNV.newWalk_fuel
#print axioms SchedNV.vecGridPoint_props
#print axioms SchedNV.vecWalk_below
#print axioms SchedNV.vecWalk_stepping
#print axioms SchedNV.vecWalk_entry_from_map
#print axioms SchedNV.searchLeft_le
#print axioms SchedNV.searchLeft_spec
#print axioms SchedNV.searchLeft_mono
#print axioms NewMono.newStep_out
