/-
  SpecKitV.Lemmas.Walk — the fuelled loop "while the guard holds, record an entry and move on" that
  `Model.walk`, `Model.newWalk` and `Model.vecWalk` are instances of: what holds of every entry, what
  relates consecutive entries (primed: under no invariant), and how much fuel is enough.
-/
import SpecKitV.RealInst

def genWalk {σ β : Type} (cont : σ → Bool) (out : σ → β) (next : σ → σ) : ℕ → σ → List β
  | 0, _ => []
  | n + 1, s => if cont s then out s :: genWalk cont out next n (next s) else []

namespace genWalk
variable {σ β : Type} {cont : σ → Bool} {out : σ → β} {next : σ → σ}

theorem succ (n : ℕ) (s : σ) : genWalk cont out next (n + 1) s =
    if cont s then out s :: genWalk cont out next n (next s) else [] := rfl

theorem head (fuel : ℕ) (s : σ) :
    ∀ y ∈ (genWalk cont out next fuel s).head?, cont s = true ∧ y = out s := by
  cases fuel with
  | zero => simp [genWalk]
  | succ n => rw [succ]; split_ifs with hc <;> simp [hc]

section invariant
variable {I : σ → Prop} (hI : ∀ s, I s → cont s = true → I (next s))
include hI

theorem forall_mem {P : β → Prop} (hP : ∀ s, I s → cont s = true → P (out s)) :
    ∀ (fuel : ℕ) (s : σ), I s → ∀ e ∈ genWalk cont out next fuel s, P e
  | 0, _, _ => by simp [genWalk]
  | n + 1, s, hs => by
    rw [succ]
    split_ifs with hc
    · rw [List.forall_mem_cons]
      exact ⟨hP s hs hc, forall_mem hP n _ (hI s hs hc)⟩
    · simp

theorem isChain {R : β → β → Prop}
    (hR : ∀ s, I s → cont s = true → cont (next s) = true → R (out s) (out (next s))) :
    ∀ (fuel : ℕ) (s : σ), I s → (genWalk cont out next fuel s).IsChain R
  | 0, _, _ => List.IsChain.nil
  | n + 1, s, hs => by
    rw [succ]
    split_ifs with hc
    · refine List.isChain_cons.mpr ⟨fun y hy => ?_, isChain hR n _ (hI s hs hc)⟩
      obtain ⟨hc', rfl⟩ := head n _ y hy
      exact hR s hs hc hc'
    · exact List.IsChain.nil

/-- a real-valued measure that is positive under the guard and drops by at least one per step bounds
    the fuel the loop can use -/
theorem fuel_enough {μ : σ → ℝ} (hμ : ∀ s, I s → cont s = true → 0 < μ s ∧ μ (next s) + 1 ≤ μ s) :
    ∀ (fuel : ℕ) (s : σ), I s → μ s ≤ fuel → ∀ extra : ℕ,
      genWalk cont out next (fuel + extra) s = genWalk cont out next fuel s
  | 0, s, hs, hf, extra => by
    rw [Nat.cast_zero] at hf
    have hc : ¬ cont s = true := fun hc => ((hμ s hs hc).1.trans_le hf).false
    cases extra with
    | zero => rfl
    | succ e => rw [Nat.zero_add, succ, if_neg hc]; rfl
  | n + 1, s, hs, hf, extra => by
    rw [Nat.cast_succ] at hf
    rw [Nat.add_right_comm, succ, succ]
    split_ifs with hc
    · rw [fuel_enough hμ n _ (hI s hs hc) (le_of_add_le_add_right ((hμ s hs hc).2.trans hf))]
    · rfl

end invariant

theorem forall_mem' {P : β → Prop} (hP : ∀ s, cont s = true → P (out s)) {fuel : ℕ} {s : σ} :
    ∀ e ∈ genWalk cont out next fuel s, P e :=
  forall_mem (I := fun _ => True) (fun _ _ _ => trivial) (fun s _ => hP s) fuel s trivial

theorem isChain' {R : β → β → Prop}
    (hR : ∀ s, cont s = true → cont (next s) = true → R (out s) (out (next s))) {fuel : ℕ} {s : σ} :
    (genWalk cont out next fuel s).IsChain R :=
  isChain (I := fun _ => True) (fun _ _ _ => trivial) (fun s _ => hR s) fuel s trivial

end genWalk
