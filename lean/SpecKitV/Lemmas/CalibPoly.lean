/-
  SpecKitV.Lemmas.CalibPoly — calibration of the reference estimator's windowed DFT for a pure
  sinusoid `x n = A cos(ω0 n + φ)` with polynomial detrending (orders p ≥ 1, `x − Q Qᵀ x`).

  `X_p = X_{−1} − Σ_{k<p+1} c_k · B_k(ω)`, `c_k = Σ_m Q m k · x (s+m)` the projection coefficient,
  `B_k(ω) = Σ_n w n · Q n k · e^{−iωn}` the window-weighted transform of basis column `k`;
  `|c_k| ≤ |A| · C_k(ω0)` with `C_k(θ) = ‖Σ_m Q m k e^{iθm}‖`; hence the on-peak power is within
  `(2r + r²)` of `(A/2)² S1²`, `r = ρ + 2 Σ_k ρ_k`, `ρ = |W(2ω0)|/S1`, `ρ_k = C_k(ω0)·|B_k(ω0)|/S1`.

  None of the bounds needs the columns of `Q` to be orthonormal (the identity is linearity and the
  bound is the triangle inequality); orthonormality gives in addition `C_k ≤ √L` and
  `|B_k| ≤ √(Σ w²)`.  The order-0 bound of `Calib0.lean` is the one-column instance `Q n 0 = 1/√L`.
-/
import SpecKitV.Lemmas.Calib0
import Mathlib.Tactic.IntervalCases
open Finset Complex

/-- `B_k(ω)`: window-weighted transform of basis column `k` -/
noncomputable def basisT (w : ℕ → ℝ) (Q : ℕ → ℕ → ℝ) (L k : ℕ) (ω : ℝ) : ℂ :=
  ∑ n ∈ range L, ((w n * Q n k : ℝ) : ℂ) * Complex.exp (-(ω * n * I))

/-- `C_k(θ)` is the norm of this (unweighted, conjugate) transform of basis column `k` -/
noncomputable def basisC (Q : ℕ → ℕ → ℝ) (L k : ℕ) (θ : ℝ) : ℂ :=
  ∑ m ∈ range L, (Q m k : ℂ) * Complex.exp (((θ * m : ℝ) : ℂ) * I)

/-- order p ≥ 1 = order −1 minus Σ_k (projection coefficient k) × (transform of column k) -/
theorem segDFT_poly_eq (p : ℕ) (hp : 1 ≤ p) (Q : ℕ → ℕ → ℝ) (x : ℕ → ℝ) (s L : ℕ) (w : ℕ → ℝ)
    (ω : ℝ) :
    Cx.toC (Model.segDFT (p : ℤ) Q x s L w ω)
      = Cx.toC (Model.segDFT (-1) Q x s L w ω)
        - ∑ k ∈ range (p + 1),
            ((∑ m ∈ range L, Q m k * x (s + m) : ℝ) : ℂ) * basisT w Q L k ω := by
  rw [segDFT_toC, segDFT_toC]
  simp only [basisT, Finset.mul_sum]
  rw [Finset.sum_comm, ← Finset.sum_sub_distrib]
  refine Finset.sum_congr rfl (fun n _ => ?_)
  rw [detr_poly_eq p hp, detr_neg_one, mul_sub, Complex.ofReal_sub, sub_mul, Finset.mul_sum,
    Complex.ofReal_sum, Finset.sum_mul]
  congr 1
  refine Finset.sum_congr rfl (fun k _ => ?_)
  push_cast
  ring

theorem proj_coeff_bound (Q : ℕ → ℕ → ℝ) (A ω0 φ : ℝ) (s L k : ℕ) :
    |∑ m ∈ range L, Q m k * (A * Real.cos (ω0 * ((s + m : ℕ) : ℝ) + φ))|
      ≤ |A| * ‖basisC Q L k ω0‖ :=
  abs_sum_mul_sinusoid_le (fun m => Q m k) A ω0 φ s L

/-- Cauchy–Schwarz against a unit vector `q` -/
theorem sum_abs_mul_le_sqrt (L : ℕ) (a : ℕ → ℝ) {q : ℕ → ℝ} (hq : ∑ n ∈ range L, q n * q n = 1) :
    ∑ n ∈ range L, |a n * q n| ≤ Real.sqrt (∑ n ∈ range L, a n ^ 2) := by
  simpa only [sq_abs, ← abs_mul, sq (q _), hq, Real.sqrt_one, mul_one]
    using Real.sum_mul_le_sqrt_mul_sqrt (range L) (fun n => |a n|) (fun n => |q n|)

theorem basis_coeff_le_sqrt (Q : ℕ → ℕ → ℝ) (L p1 : ℕ) (hQ : OrthoCols Q L p1) (k : ℕ)
    (hk : k < p1) (θ : ℝ) :
    ‖basisC Q L k θ‖ ≤ Real.sqrt L := by
  have h := sum_abs_mul_le_sqrt L (fun _ => 1) ((hQ k hk k hk).trans (if_pos rfl))
  simp only [one_pow, Finset.sum_const, Finset.card_range, nsmul_eq_mul, mul_one, one_mul] at h
  exact (norm_sum_le_of_le _ fun n _ => (Sinusoid.norm_ofReal_mul_exp (by simp)).le).trans h

theorem basisT_le_sqrt (w : ℕ → ℝ) (Q : ℕ → ℕ → ℝ) (L p1 : ℕ) (hQ : OrthoCols Q L p1) (k : ℕ)
    (hk : k < p1) (ω : ℝ) :
    ‖basisT w Q L k ω‖ ≤ Real.sqrt (∑ n ∈ range L, w n ^ 2) :=
  (norm_sum_le_of_le _ fun n _ => (Sinusoid.norm_ofReal_mul_exp (by simp)).le).trans
    (sum_abs_mul_le_sqrt L w ((hQ k hk k hk).trans (if_pos rfl)))

/-- `calibration_sub` with `T = Σ_{k<p1} c_k B_k(ω0)` for any coefficients `|c_k| ≤ |A|·C k`
    (`Q'` is the unused basis argument of the order −1 transform) -/
theorem calibration_core (p1 : ℕ) (Q Q' : ℕ → ℕ → ℝ) (A ω0 φ : ℝ) (s L : ℕ) (w : ℕ → ℝ)
    (hS1 : 0 < ∑ n ∈ range L, w n) (c C : ℕ → ℝ)
    (hc : ∀ k < p1, |c k| ≤ |A| * C k) :
    let S1 := ∑ n ∈ range L, w n
    let ρ := ‖winT w L (2 * ω0)‖ / S1
    let r := ρ + 2 * ∑ k ∈ range p1, C k * ‖basisT w Q L k ω0‖ / S1
    |‖Cx.toC (Model.segDFT (-1) Q' (fun n => A * Real.cos (ω0 * n + φ)) s L w ω0)
          - ∑ k ∈ range p1, (c k : ℂ) * basisT w Q L k ω0‖ ^ 2 - (A / 2) ^ 2 * S1 ^ 2|
      ≤ (A / 2) ^ 2 * S1 ^ 2 * (2 * r + r ^ 2) := by
  intro S1 ρ r
  have hT : ‖∑ k ∈ range p1, (c k : ℂ) * basisT w Q L k ω0‖
      ≤ |A| * ∑ k ∈ range p1, C k * ‖basisT w Q L k ω0‖ := by
    rw [Finset.mul_sum]
    refine norm_sum_le_of_le _ (fun k hk => ?_)
    rw [norm_mul, Complex.norm_real, Real.norm_eq_abs, ← mul_assoc]
    exact mul_le_mul_of_nonneg_right (hc k (Finset.mem_range.1 hk)) (norm_nonneg _)
  exact calibration_sub Q' A ω0 φ s L w hS1 _ _ r hT (by rw [Finset.sum_div])

/-- order p ≥ 1, at the sinusoid's own frequency: `|X_p|²` is within `(2r + r²)` of `(A/2)²·S1²`,
    `r = ρ + 2 Σ_{k<p+1} ρ_k` -/
theorem calibration_bound_poly (p : ℕ) (hp : 1 ≤ p) (Q : ℕ → ℕ → ℝ) (A ω0 φ : ℝ) (s L : ℕ)
    (w : ℕ → ℝ) (hS1 : 0 < ∑ n ∈ range L, w n) :
    let S1 := ∑ n ∈ range L, w n
    let ρ := ‖winT w L (2 * ω0)‖ / S1
    let r := ρ + 2 * ∑ k ∈ range (p + 1), ‖basisC Q L k ω0‖ * ‖basisT w Q L k ω0‖ / S1
    |Cx.normSq (Model.segDFT (p : ℤ) Q (fun n => A * Real.cos (ω0 * n + φ)) s L w ω0)
        - (A / 2) ^ 2 * S1 ^ 2|
      ≤ (A / 2) ^ 2 * S1 ^ 2 * (2 * r + r ^ 2) := by
  rw [Cx.normSq_eq, Complex.normSq_eq_norm_sq, segDFT_poly_eq p hp]
  exact calibration_core (p + 1) Q Q A ω0 φ s L w hS1 _ _
    (fun k _ => proj_coeff_bound Q A ω0 φ s L k)

/-- with orthonormal columns the coefficient factor `C_k(ω0)` may be replaced by `√L`:
    `r = ρ + 2 √L Σ_{k<p+1} |B_k(ω0)| / S1` -/
theorem calibration_bound_poly_sqrt (p : ℕ) (hp : 1 ≤ p) (Q : ℕ → ℕ → ℝ) (A ω0 φ : ℝ) (s L : ℕ)
    (hQ : OrthoCols Q L (p + 1)) (w : ℕ → ℝ) (hS1 : 0 < ∑ n ∈ range L, w n) :
    let S1 := ∑ n ∈ range L, w n
    let ρ := ‖winT w L (2 * ω0)‖ / S1
    let r := ρ + 2 * ∑ k ∈ range (p + 1), Real.sqrt L * ‖basisT w Q L k ω0‖ / S1
    |Cx.normSq (Model.segDFT (p : ℤ) Q (fun n => A * Real.cos (ω0 * n + φ)) s L w ω0)
        - (A / 2) ^ 2 * S1 ^ 2|
      ≤ (A / 2) ^ 2 * S1 ^ 2 * (2 * r + r ^ 2) := by
  rw [Cx.normSq_eq, Complex.normSq_eq_norm_sq, segDFT_poly_eq p hp]
  exact calibration_core (p + 1) Q Q A ω0 φ s L w hS1 _ _
    (fun k hk => (proj_coeff_bound Q A ω0 φ s L k).trans
      (mul_le_mul_of_nonneg_left (basis_coeff_le_sqrt Q L (p + 1) hQ k hk ω0) (abs_nonneg A)))

/-- the same for the calibrated power spectrum value `ps = 2·mean|X_p|²/S1²`
    (mean over any K ≥ 1 segments with any starts), order p ≥ 1 -/
theorem power_spectrum_calibrated_poly (p : ℕ) (hp : 1 ≤ p) (Q : ℕ → ℕ → ℝ) (A ω0 φ : ℝ)
    (K L : ℕ) (hK : 0 < K) (starts : ℕ → ℕ) (w : ℕ → ℝ) (hS1 : 0 < ∑ n ∈ range L, w n) :
    let S1 := ∑ n ∈ range L, w n
    let ρ := ‖winT w L (2 * ω0)‖ / S1
    let r := ρ + 2 * ∑ k ∈ range (p + 1), ‖basisC Q L k ω0‖ * ‖basisT w Q L k ω0‖ / S1
    let XX := (∑ j ∈ range K, Cx.normSq (Model.segDFT (p : ℤ) Q
        (fun n => A * Real.cos (ω0 * n + φ)) (starts j) L w ω0)) / K
    |2 * XX / S1 ^ 2 - A ^ 2 / 2| ≤ A ^ 2 / 2 * (2 * r + r ^ 2) :=
  ps_of_segment_bound K hK _ A _ _ hS1
    (fun j _ => calibration_bound_poly p hp Q A ω0 φ (starts j) L w hS1)

theorem basisT_const (w : ℕ → ℝ) (q : ℝ) (L k : ℕ) (ω : ℝ) :
    basisT w (fun _ _ => q) L k ω = (q : ℂ) * winT w L ω := by
  unfold basisT winT
  rw [Finset.mul_sum]
  refine Finset.sum_congr rfl (fun n _ => ?_)
  push_cast
  ring

theorem basisC_const (q : ℝ) (L k : ℕ) (θ : ℝ) :
    basisC (fun _ _ => q) L k θ = (q : ℂ) * dirichlet L θ := by
  unfold basisC dirichlet
  rw [Finset.mul_sum]

theorem one_div_sqrt_mul_self (L : ℕ) : 1 / Real.sqrt L * (1 / Real.sqrt L) = 1 / (L : ℝ) := by
  rw [div_mul_div_comm, one_mul, Real.mul_self_sqrt (Nat.cast_nonneg L)]

/-- the constant unit column reproduces the order-0 quantity `ρ0 = |W(ω0)|·|D(ω0)|/(L·S1)` -/
theorem rho_const_column (w : ℕ → ℝ) (L k : ℕ) (ω0 S1 : ℝ) :
    ‖basisC (fun _ _ => 1 / Real.sqrt L) L k ω0‖ * ‖basisT w (fun _ _ => 1 / Real.sqrt L) L k ω0‖ / S1
      = ‖winT w L ω0‖ * ‖dirichlet L ω0‖ / (L * S1) := by
  rw [basisC_const, basisT_const, norm_mul, norm_mul, Complex.norm_real,
    Real.norm_of_nonneg (one_div_nonneg.2 (Real.sqrt_nonneg _)), mul_mul_mul_comm, one_div_sqrt_mul_self]
  ring

theorem orthoCols_const (L : ℕ) (hL : 0 < L) : OrthoCols (fun _ _ => 1 / Real.sqrt L) L 1 := by
  intro k hk k' hk'
  obtain rfl : k = 0 := by omega
  obtain rfl : k' = 0 := by omega
  rw [if_pos rfl, Finset.sum_const, Finset.card_range, nsmul_eq_mul, one_div_sqrt_mul_self,
    mul_one_div_cancel (Nat.cast_ne_zero.2 hL.ne')]

section
set_option linter.unusedVariables false  -- `hL` (`hS1` implies it) is in the statement of `calibration_bound_order0`

/-- the statement of `calibration_bound_order0`, from the projection core with the one-column basis
    `Q n 0 = 1/√L`: the general formula specialises to the order-0 one -/
theorem calibration_bound_order0_of_poly (Q : ℕ → ℕ → ℝ) (A ω0 φ : ℝ) (s L : ℕ) (hL : 0 < L)
    (w : ℕ → ℝ) (hS1 : 0 < ∑ n ∈ Finset.range L, w n) :
    let S1 := ∑ n ∈ Finset.range L, w n
    let ρ := ‖winT w L (2 * ω0)‖ / S1
    let ρ0 := ‖winT w L ω0‖ * ‖dirichlet L ω0‖ / (L * S1)
    let r := ρ + 2 * ρ0
    |Cx.normSq (Model.segDFT 0 Q (fun n => A * Real.cos (ω0 * n + φ)) s L w ω0) - (A / 2) ^ 2 * S1 ^ 2|
      ≤ (A / 2) ^ 2 * S1 ^ 2 * (2 * r + r ^ 2) := by
  have h := calibration_core 1 (fun _ _ => 1 / Real.sqrt L) Q A ω0 φ s L w hS1 _ _
    (fun k _ => proj_coeff_bound (fun _ _ => 1 / Real.sqrt L) A ω0 φ s L k)
  dsimp only at h
  -- the projection coefficient times the column's transform is (segment mean) × W(ω0)
  rw [Finset.sum_range_one, Finset.sum_range_one, rho_const_column, basisT_const, ← mul_assoc,
    ← Complex.ofReal_mul, ← Finset.mul_sum, mul_right_comm, one_div_sqrt_mul_self,
    one_div_mul_eq_div] at h
  rwa [Cx.normSq_eq, Complex.normSq_eq_norm_sq, segDFT_order0_eq]

end

/-- orthonormalised `1, n, n²` on the 4-point grid (what `np.linalg.qr` of the Vandermonde matrix
    returns up to signs): `1/2`, `(2n−3)/(2√5)`, `(n²−3n+1)/2` -/
noncomputable def Q4 (n k : ℕ) : ℝ :=
  if k = 0 then 1 / 2
  else if k = 1 then (2 * (n : ℝ) - 3) / (2 * Real.sqrt 5)
  else ((n : ℝ) ^ 2 - 3 * n + 1) / 2

theorem Q4_zero (n : ℕ) : Q4 n 0 = 1 / 2 := if_pos rfl

theorem Q4_one (n : ℕ) : Q4 n 1 = (2 * (n : ℝ) - 3) / (2 * Real.sqrt 5) := by
  rw [Q4, if_neg one_ne_zero, if_pos rfl]

theorem Q4_two (n : ℕ) : Q4 n 2 = ((n : ℝ) ^ 2 - 3 * n + 1) / 2 := by
  rw [Q4, if_neg two_ne_zero, if_neg (by decide)]

/-- the columns are `(1,1,1,1)/2`, `(−3,−1,1,3)/(2√5)`, `(1,−1,−1,1)/2`: the mixed sums cancel term
    by term, and only the middle column's square needs `√5·√5 = 5` -/
theorem orthoCols_Q4 : OrthoCols Q4 4 3 := by
  have h5 : (Real.sqrt 5)⁻¹ * (Real.sqrt 5)⁻¹ = 1 / 5 := by
    rw [← mul_inv, Real.mul_self_sqrt (by norm_num), one_div]
  intro k hk k' hk'
  simp only [Finset.sum_range_succ, Finset.sum_range_zero, zero_add]
  interval_cases k <;> interval_cases k'
  all_goals simp only [Q4_zero, Q4_one, Q4_two, reduceIte, Nat.reduceEqDiff]
  · ring
  · ring
  · ring
  · ring
  · linear_combination 5 * h5
  · ring
  · ring
  · ring
  · ring

theorem orthoCols_mono (Q : ℕ → ℕ → ℝ) (L p1 p2 : ℕ) (h : p1 ≤ p2) (hQ : OrthoCols Q L p2) :
    OrthoCols Q L p1 :=
  fun k hk k' hk' => hQ k (hk.trans_le h) k' (hk'.trans_le h)

/-- order 1 (linear detrend), rectangular window of length 4, the basis `Q4`: the hypotheses
    hold for every amplitude, frequency, phase and segment start -/
example (A ω0 φ : ℝ) (s : ℕ) :
    let w : ℕ → ℝ := fun _ => 1
    let S1 := ∑ n ∈ range 4, w n
    let ρ := ‖winT w 4 (2 * ω0)‖ / S1
    let r := ρ + 2 * ∑ k ∈ range (1 + 1), ‖basisC Q4 4 k ω0‖ * ‖basisT w Q4 4 k ω0‖ / S1
    |Cx.normSq (Model.segDFT ((1 : ℕ) : ℤ) Q4 (fun n => A * Real.cos (ω0 * n + φ)) s 4 w ω0)
        - (A / 2) ^ 2 * S1 ^ 2|
      ≤ (A / 2) ^ 2 * S1 ^ 2 * (2 * r + r ^ 2) :=
  calibration_bound_poly 1 le_rfl Q4 A ω0 φ s 4 (fun _ => 1) (by norm_num)

/-- order 2 (quadratic detrend), same data, with the `√L` form that uses orthonormality -/
example (A ω0 φ : ℝ) (s : ℕ) :
    let w : ℕ → ℝ := fun _ => 1
    let S1 := ∑ n ∈ range 4, w n
    let ρ := ‖winT w 4 (2 * ω0)‖ / S1
    let r := ρ + 2 * ∑ k ∈ range (2 + 1), Real.sqrt (4 : ℕ) * ‖basisT w Q4 4 k ω0‖ / S1
    |Cx.normSq (Model.segDFT ((2 : ℕ) : ℤ) Q4 (fun n => A * Real.cos (ω0 * n + φ)) s 4 w ω0)
        - (A / 2) ^ 2 * S1 ^ 2|
      ≤ (A / 2) ^ 2 * S1 ^ 2 * (2 * r + r ^ 2) :=
  calibration_bound_poly_sqrt 2 (by norm_num) Q4 A ω0 φ s 4 orthoCols_Q4 (fun _ => 1) (by norm_num)

example (θ : ℝ) : ‖basisC Q4 4 1 θ‖ ≤ Real.sqrt (4 : ℕ) :=
  basis_coeff_le_sqrt Q4 4 2 (orthoCols_mono Q4 4 2 3 (by norm_num) orthoCols_Q4) 1 (by norm_num) θ

#print axioms segDFT_poly_eq
#print axioms proj_coeff_bound
#print axioms basis_coeff_le_sqrt
#print axioms basisT_le_sqrt
#print axioms calibration_core
#print axioms calibration_bound_poly
#print axioms calibration_bound_poly_sqrt
#print axioms power_spectrum_calibrated_poly
#print axioms calibration_bound_order0_of_poly
#print axioms orthoCols_Q4
