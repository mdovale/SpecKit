/-
  SpecKitV.Lemmas.SchedLtf — namespace `Sched`: what the schedulers share once a frequency is
  given (derived constants, target resolution, clamp, single-segment rule, reported bin), and
  `stepAt`, the step built from them for an arbitrary nearest-integer rounding.  Then the
  iterative LTF scheduler at `ℝ` (helpers in `SchedLtf`, what the checks list at root): `Model.ltfStep`
  is `stepAt` with `round_half_up`, and `Model.walk` is a `genWalk`.
-/
import SpecKitV.Lemmas.Starts
import SpecKitV.Lemmas.Walk

/-- an admissible configuration (DESIGN §4 C02); of `8 ≤ N` the proofs use only `2 < N` -/
structure Adm (c : Model.Cfg ℝ) : Prop where
  hN : 8 ≤ c.N
  hfs : 0 < c.fs
  holap0 : 0 ≤ c.olap
  holap1 : c.olap < 1
  hbmin1 : 1 ≤ c.bmin
  hbminN : c.bmin < (c.N : ℝ) / 2
  hLmin1 : 1 ≤ c.Lmin
  hLminN : c.Lmin ≤ c.N
  hJ : 1 ≤ c.Jdes
  hK : 1 ≤ c.Kdes

namespace Sched
open Model

theorem consts_eq (c : Cfg ℝ) : consts c =
    { xov := 1 - c.olap, fmin := c.fs / (c.N : ℝ) * c.bmin, fmax := c.fs / 2,
      fresmin := c.fs / (c.N : ℝ),
      freslim := c.fs / (c.N : ℝ) * (1 + (1 - c.olap) * ((c.Kdes : ℝ) - 1)),
      logfact := ((c.N : ℝ) / 2) ^ ((1 : ℝ) / (c.Jdes : ℝ)) - 1 } := by
  unfold consts
  simp only [RL.one_eq, RL.two_eq, RL.pow_eq, RL.ofNat_eq]

theorem xov_eq (c : Cfg ℝ) : (consts c).xov = 1 - c.olap := congrArg Consts.xov (consts_eq c)

theorem fmin_eq (c : Cfg ℝ) : (consts c).fmin = c.fs / (c.N : ℝ) * c.bmin := rfl

theorem fmax_eq (c : Cfg ℝ) : (consts c).fmax = c.fs / 2 := congrArg Consts.fmax (consts_eq c)

theorem fresmin_eq (c : Cfg ℝ) : (consts c).fresmin = c.fs / (c.N : ℝ) := rfl

theorem freslim_eq (c : Cfg ℝ) :
    (consts c).freslim = c.fs / (c.N : ℝ) * (1 + (1 - c.olap) * ((c.Kdes : ℝ) - 1)) :=
  congrArg Consts.freslim (consts_eq c)

theorem logfact_eq (c : Cfg ℝ) :
    (consts c).logfact = ((c.N : ℝ) / 2) ^ ((1 : ℝ) / (c.Jdes : ℝ)) - 1 :=
  congrArg Consts.logfact (consts_eq c)

section
variable {c : Cfg ℝ} (h : Adm c)
include h

theorem N_pos : (0 : ℝ) < (c.N : ℝ) := Nat.cast_pos.mpr (lt_of_lt_of_le (by norm_num) h.hN)

theorem xov_pos : 0 < (consts c).xov := by
  rw [xov_eq]
  exact sub_pos.mpr h.holap1

theorem fresmin_pos : 0 < (consts c).fresmin := div_pos h.hfs (N_pos h)

theorem fmin_pos : 0 < (consts c).fmin := mul_pos (fresmin_pos h) (one_pos.trans_le h.hbmin1)

theorem fmin_lt_fmax : (consts c).fmin < (consts c).fmax := by
  rw [fmin_eq, fmax_eq]
  calc c.fs / c.N * c.bmin < c.fs / c.N * (c.N / 2) :=
        mul_lt_mul_of_pos_left h.hbminN (fresmin_pos h)
    _ = c.fs / 2 := by rw [div_mul_div_comm, mul_comm, mul_div_mul_left _ _ (N_pos h).ne']

theorem fresmin_le_freslim : (consts c).fresmin ≤ (consts c).freslim := by
  rw [freslim_eq, fresmin_eq]
  have hK : (1 : ℝ) ≤ (c.Kdes : ℝ) := by exact_mod_cast h.hK
  have : 0 ≤ (1 - c.olap) * ((c.Kdes : ℝ) - 1) :=
    mul_nonneg (sub_nonneg.mpr h.holap1.le) (sub_nonneg.mpr hK)
  exact le_mul_of_one_le_right (fresmin_pos h).le (le_add_of_nonneg_right this)

theorem logfact_pos : 0 < (consts c).logfact := by
  rw [logfact_eq]
  have hN : (8 : ℝ) ≤ (c.N : ℝ) := by exact_mod_cast h.hN
  have hJ : (0 : ℝ) < (c.Jdes : ℝ) := Nat.cast_pos.mpr h.hJ
  exact sub_pos.mpr (Real.one_lt_rpow (by linarith) (by positivity))

/-- a frequency at or above the first one asks for at most the whole record -/
theorem bminLen_le {f : ℝ} (hf : (consts c).fmin ≤ f) : c.fs * c.bmin / f ≤ c.N := by
  have hN := N_pos h
  rw [div_le_iff₀ (lt_of_lt_of_le (fmin_pos h) hf)]
  calc c.fs * c.bmin = c.fs / c.N * c.bmin * c.N := by field_simp
    _ ≤ f * c.N := mul_le_mul_of_nonneg_right hf hN.le
    _ = c.N * f := mul_comm _ _

/-- from the first frequency on, `N` steps of at least `fs/N` each pass `fs/2` -/
theorem fuel_N {f : ℝ} (hf : (consts c).fmin ≤ f) :
    ((consts c).fmax - f) / (c.fs / c.N) + 1 ≤ (c.N : ℝ) := by
  have hδ := fresmin_pos h
  rw [fresmin_eq] at hδ
  have hmin : c.fs / c.N ≤ (consts c).fmin := le_mul_of_one_le_right hδ.le h.hbmin1
  have e : (c.N : ℝ) * (c.fs / c.N) = c.fs := mul_div_cancel₀ _ (N_pos h).ne'
  rw [fmax_eq, div_add_one hδ.ne', div_le_iff₀ hδ, e]
  linarith [h.hfs]

end

/-- the walks' fuel measure is `(fmax − f)/δ + 1` -/
theorem fuel_step {fmax δ f r : ℝ} (hδ : 0 < δ) (hr : δ ≤ r) (hlt : f < fmax) :
    0 < (fmax - f) / δ + 1 ∧ (fmax - (f + r)) / δ + 1 + 1 ≤ (fmax - f) / δ + 1 := by
  refine ⟨add_pos (div_pos (sub_pos.mpr hlt) hδ) one_pos, ?_⟩
  rw [← sub_sub, sub_div]
  linarith [(one_le_div hδ).mpr hr]

/-- the resolution aimed for before the `bmin` rule (schedulers.py:181-187, 319-328, 421-434):
    `x = f·logfact` itself in the logarithmic regime `x ≥ lim`, `√(lim·x)` below it, never under `rmin`.
    Arguments in the model's order (`fresmin, freslim` / `rmin, ravg`), as in `tres`, `stepAt`. -/
noncomputable def gres (rmin lim x : ℝ) : ℝ :=
  if lim ≤ x then x else if rmin < Real.sqrt (lim * x) then Real.sqrt (lim * x) else rmin

theorem gres_eq_max (rmin lim x : ℝ) :
    gres rmin lim x = if lim ≤ x then x else max (Real.sqrt (lim * x)) rmin := by
  unfold gres
  split_ifs with h1 h2
  · rfl
  · exact (max_eq_left h2.le).symm
  · exact (max_eq_right (not_lt.mp h2)).symm

theorem gres_pos {rmin lim x : ℝ} (hr : 0 < rmin) (hl : rmin ≤ lim) : 0 < gres rmin lim x := by
  rw [gres_eq_max]
  split_ifs with h1
  · linarith
  · exact lt_of_lt_of_le hr (le_max_right _ _)

theorem gres_mono {rmin lim : ℝ} (hr : 0 < rmin) (hl : rmin ≤ lim) : Monotone (gres rmin lim) := by
  intro x1 x2 h12
  have hlim : 0 ≤ lim := by linarith
  rw [gres_eq_max, gres_eq_max]
  by_cases h1 : lim ≤ x1
  · rw [if_pos h1, if_pos (le_trans h1 h12)]; exact h12
  · rw [if_neg h1]
    by_cases h2 : lim ≤ x2
    · rw [if_pos h2]
      apply max_le
      · calc Real.sqrt (lim * x1) ≤ Real.sqrt (lim * lim) :=
              Real.sqrt_le_sqrt (mul_le_mul_of_nonneg_left (not_le.mp h1).le hlim)
          _ = lim := Real.sqrt_mul_self hlim
          _ ≤ x2 := h2
      · linarith
    · rw [if_neg h2]
      exact max_le_max (Real.sqrt_le_sqrt (mul_le_mul_of_nonneg_left h12 hlim)) le_rfl

/-- the resolution after the `bmin` rule (schedulers.py:189-192, 330-331): `gres`, lowered to `f / bmin`
    where the bin number `f / gres` would fall under `bmin` -/
noncomputable def tres (bmin rmin lim lf f : ℝ) : ℝ :=
  if f / gres rmin lim (f * lf) < bmin then f / bmin else gres rmin lim (f * lf)

section tres
variable {bmin rmin lim lf : ℝ} (hb : 0 < bmin) (hr : 0 < rmin) (hl : rmin ≤ lim)
include hb hr hl

theorem tres_eq_min (f : ℝ) : tres bmin rmin lim lf f = min (gres rmin lim (f * lf)) (f / bmin) := by
  have hg : 0 < gres rmin lim (f * lf) := gres_pos hr hl
  have hiff : f / gres rmin lim (f * lf) < bmin ↔ f / bmin < gres rmin lim (f * lf) := by
    rw [div_lt_iff₀ hg, div_lt_iff₀' hb]
  unfold tres
  split_ifs with h1
  · exact (min_eq_right (hiff.mp h1).le).symm
  · exact (min_eq_left (not_lt.mp (mt hiff.mpr h1))).symm

theorem tres_pos {f : ℝ} (hf : 0 < f) : 0 < tres bmin rmin lim lf f := by
  rw [tres_eq_min hb hr hl]
  exact lt_min (gres_pos hr hl) (div_pos hf hb)

theorem tres_le (f : ℝ) : tres bmin rmin lim lf f ≤ f / bmin := by
  rw [tres_eq_min hb hr hl]
  exact min_le_right _ _

theorem tres_mono (hlf : 0 ≤ lf) : Monotone (tres bmin rmin lim lf) := by
  intro f1 f2 h12
  rw [tres_eq_min hb hr hl, tres_eq_min hb hr hl]
  exact min_le_min (gres_mono hr hl (mul_le_mul_of_nonneg_right h12 hlf))
    (div_le_div_of_nonneg_right h12 hb.le)

end tres

theorem clampL_cast (N Lmin : ℕ) (l : ℤ) :
    ((clampL N Lmin l : ℕ) : ℤ) = max (min l N) Lmin := by
  unfold clampL
  dsimp only
  rw [← min_def_lt, ← max_def_lt, min_comm, Int.toNat_of_nonneg (by positivity)]

/-- `np.clip(L, Lmin, N)` clamps in the other order -/
theorem clampClip_cast (N Lmin : ℕ) (l : ℤ) :
    ((vecGridPoint.clampClip N Lmin l : ℕ) : ℤ) = min (max l Lmin) N := by
  unfold vecGridPoint.clampClip
  dsimp only
  rw [← max_def_lt, ← min_def_lt, min_comm, Int.toNat_of_nonneg (by positivity)]

theorem clampClip_eq_clampL {N Lmin : ℕ} (h : Lmin ≤ N) (l : ℤ) :
    vecGridPoint.clampClip N Lmin l = clampL N Lmin l := by
  apply Int.ofNat_inj.mp
  rw [clampClip_cast, clampL_cast, max_min_distrib_right, max_eq_left (Int.ofNat_le.mpr h)]

theorem clampL_bounds (N Lmin : ℕ) (h : Lmin ≤ N) (l : ℤ) :
    Lmin ≤ clampL N Lmin l ∧ clampL N Lmin l ≤ N := by
  rw [← Int.ofNat_le, ← Int.ofNat_le, clampL_cast]
  exact ⟨le_max_right _ _, max_le (min_le_right _ _) (Int.ofNat_le.mpr h)⟩

theorem clampL_of_le {N Lmin : ℕ} {l : ℤ} (hl : l ≤ Lmin) :
    clampL N Lmin l = Lmin := by
  rw [← Int.ofNat_inj, clampL_cast]
  exact max_eq_right ((min_le_left _ _).trans hl)

theorem clampL_mono (N Lmin : ℕ) {l1 l2 : ℤ} (h : l1 ≤ l2) :
    clampL N Lmin l1 ≤ clampL N Lmin l2 := by
  rw [← Int.ofNat_le, clampL_cast, clampL_cast]
  exact max_le_max_right _ (min_le_min_right _ h)

variable (rd : ℝ → ℤ)

/-- the single-segment rule (schedulers.py:201, :336, :448): a count of one means one segment
    over the whole record -/
noncomputable def ruleL (N : ℕ) (xov : ℝ) (L : ℕ) : ℕ := if cnt rd N xov L == 1 then N else L

/-- the bin `(fres, fbin, L, K)` every scheduler reports once it has settled on a clamped
    length `L0` (schedulers.py:200-206, 335-341, 447-453 and 465) -/
noncomputable def binAt (c : Cfg ℝ) (xov fi : ℝ) (L0 : ℕ) : ℝ × ℝ × ℕ × ℤ :=
  (c.fs / (ruleL rd c.N xov L0 : ℝ), fi / (c.fs / (ruleL rd c.N xov L0 : ℝ)), ruleL rd c.N xov L0,
    capK c.N (ruleL rd c.N xov L0) (cnt rd c.N xov L0))

theorem ruleL_fold (N : ℕ) (xov : ℝ) (L : ℕ) : (if cnt rd N xov L == 1 then N else L) = ruleL rd N xov L := rfl

variable {rd}

variable (rd) in
theorem ruleL_cases (N : ℕ) (xov : ℝ) (L : ℕ) :
    (cnt rd N xov L = 1 ∧ ruleL rd N xov L = N) ∨ (cnt rd N xov L ≠ 1 ∧ ruleL rd N xov L = L) := by
  unfold ruleL
  by_cases h : cnt rd N xov L = 1
  · exact Or.inl ⟨h, if_pos (beq_iff_eq.mpr h)⟩
  · exact Or.inr ⟨h, if_neg (mt beq_iff_eq.mp h)⟩

theorem ruleL_bounds (N : ℕ) (xov : ℝ) {a L : ℕ} (ha : a ≤ L) (hL : L ≤ N) :
    a ≤ ruleL rd N xov L ∧ ruleL rd N xov L ≤ N := by
  rcases ruleL_cases rd N xov L with ⟨_, e⟩ | ⟨_, e⟩ <;> rw [e]
  · exact ⟨ha.trans hL, le_rfl⟩
  · exact ⟨ha, hL⟩

theorem ruleL_idem (N : ℕ) (xov : ℝ) (L : ℕ) :
    ruleL rd N xov (ruleL rd N xov L) = ruleL rd N xov L := by
  rcases ruleL_cases rd N xov L with ⟨_, e⟩ | ⟨_, e⟩
  · rw [e]
    rcases ruleL_cases rd N xov N with ⟨_, e'⟩ | ⟨_, e'⟩ <;> exact e'
  · rw [e, e]

/-- the clamp and the rule lower a length only down to `N` -/
theorem le_ruleL_clampL (N Lmin : ℕ) (xov : ℝ) {x : ℝ} {l : ℤ} (hN : x ≤ N) (hl : x ≤ l) :
    x ≤ (ruleL rd N xov (clampL N Lmin l) : ℝ) := by
  rcases ruleL_cases rd N xov (clampL N Lmin l) with ⟨_, e⟩ | ⟨_, e⟩
  · rwa [e]
  · have h1 : min l N ≤ (clampL N Lmin l : ℤ) :=
      (le_max_left _ _).trans_eq (clampL_cast N Lmin l).symm
    rw [e]
    exact (le_min hl hN).trans (by exact_mod_cast h1)

/-- what every scheduler guarantees of one bin's resolution `r`, length `L` and count `K` -/
structure BinOK (c : Cfg ℝ) (r : ℝ) (L : ℕ) (K : ℤ) : Prop where
  rL : r * (L : ℝ) = c.fs
  L_ge : max 1 c.Lmin ≤ L
  L_le : L ≤ c.N
  K_ge : 1 ≤ K
  K_le : K ≤ (c.N : ℤ) - L + 1
  K_one : K = 1 → L = c.N

namespace BinOK
variable {c : Cfg ℝ} {r : ℝ} {L : ℕ} {K : ℤ} (o : BinOK c r L K)
include o

theorem one_le_L : 1 ≤ L := (le_max_left 1 c.Lmin).trans o.L_ge

theorem L_pos : (0 : ℝ) < (L : ℝ) := Nat.cast_pos.mpr o.one_le_L

theorem r_eq : r = c.fs / (L : ℝ) := eq_div_of_mul_eq o.L_pos.ne' o.rL

theorem r_pos (hfs : 0 < c.fs) : 0 < r := by rw [o.r_eq]; exact div_pos hfs o.L_pos

theorem r_ge (hfs : 0 < c.fs) : c.fs / (c.N : ℝ) ≤ r := by
  rw [o.r_eq]
  exact div_le_div_of_nonneg_left hfs.le o.L_pos (Nat.cast_le.mpr o.L_le)

theorem bin_eq (fi : ℝ) : fi / r = fi * (L : ℝ) / c.fs := by rw [o.r_eq, div_div_eq_mul_div]

end BinOK

section
variable (h : Nearest rd)
include h

theorem cnt_ruleL (N : ℕ) (xov : ℝ) (L : ℕ) : cnt rd N xov (ruleL rd N xov L) = cnt rd N xov L := by
  rcases ruleL_cases rd N xov L with ⟨e1, e2⟩ | ⟨_, e2⟩
  · rw [e2, cnt_self h, e1]
  · rw [e2]

/-- the rule preserves the order of the lengths, because a longer segment has no more segments -/
theorem ruleL_mono {N : ℕ} {xov : ℝ} (hx : 0 < xov) {a b : ℕ} (ha : 1 ≤ a) (hab : a ≤ b) (hb : b ≤ N) :
    ruleL rd N xov a ≤ ruleL rd N xov b := by
  have hn := cnt_anti h (N := N) hx ha hab
  have hb1 := cnt_ge_one h hx (ha.trans hab) hb
  rcases ruleL_cases rd N xov a with ⟨e1, e2⟩ | ⟨_, e2⟩ <;>
    rcases ruleL_cases rd N xov b with ⟨e3, e4⟩ | ⟨e3, e4⟩ <;> rw [e2, e4]
  · exact absurd (le_antisymm (hn.trans e1.le) hb1) e3
  · exact hab.trans hb
  · exact hab

theorem binAt_K {c : Cfg ℝ} {xov fi : ℝ} {L0 : ℕ} :
    (binAt rd c xov fi L0).2.2.2 =
      capK c.N (binAt rd c xov fi L0).2.2.1 (cnt rd c.N xov (binAt rd c xov fi L0).2.2.1) := by
  show capK c.N (ruleL rd c.N xov L0) (cnt rd c.N xov L0)
    = capK c.N (ruleL rd c.N xov L0) (cnt rd c.N xov (ruleL rd c.N xov L0))
  rw [cnt_ruleL h]

theorem binAt_mono {c : Cfg ℝ} {xov : ℝ} (hx : 0 < xov) {a b : ℕ} (ha : 1 ≤ a) (hab : a ≤ b)
    (hb : b ≤ c.N) {fa fb : ℝ} :
    (binAt rd c xov fa a).2.2.1 ≤ (binAt rd c xov fb b).2.2.1 ∧
    (binAt rd c xov fb b).2.2.2 ≤ (binAt rd c xov fa a).2.2.2 := by
  have hL := ruleL_mono h hx ha hab hb
  exact ⟨hL, capK_anti hL (cnt_anti h hx ha hab)⟩

theorem binAt_ok {c : Cfg ℝ} (hA : Adm c) {xov : ℝ} (hx : 0 < xov) (fi : ℝ) {L0 : ℕ}
    (hl : c.Lmin ≤ L0) (hu : L0 ≤ c.N) :
    BinOK c (binAt rd c xov fi L0).1 (binAt rd c xov fi L0).2.2.1 (binAt rd c xov fi L0).2.2.2 := by
  have h1 : 1 ≤ L0 := hA.hLmin1.trans hl
  have hc := cnt_ge_one h hx h1 hu
  obtain ⟨hL1, hLN⟩ := ruleL_bounds (rd := rd) c.N xov h1 hu
  dsimp only [binAt]
  refine ⟨div_mul_cancel₀ _ (Nat.cast_pos.mpr hL1).ne', max_le hL1 (ruleL_bounds c.N xov hl hu).1, hLN,
    capK_ge_one _ _ hLN _ hc, capK_le _ _ _, fun e => ?_⟩
  -- a count other than one is capped to one only where `N − L + 1 = 1`
  rcases ruleL_cases rd c.N xov L0 with ⟨_, e2⟩ | ⟨e1, _⟩
  · exact e2
  · rw [capK_eq] at e
    omega

end

variable (rd) in
/-- the scheduler step at frequency `f` under the rounding `rd`: `Model.ltfStep` is this with
    `round_half_up`, the grid map of `vectorized_ltf_plan` with `np.round` -/
noncomputable def stepAt (c : Cfg ℝ) (xov rmin lim lf f : ℝ) : ℝ × ℝ × ℕ × ℤ :=
  binAt rd c xov f (clampL c.N c.Lmin (rd (c.fs / tres c.bmin rmin lim lf f)))

theorem stepAt_logspaced (h : Nearest rd) {c : Cfg ℝ} {xov rmin lim lf f : ℝ} (hf : 0 < f)
    (hbr : lim ≤ f * lf) (hb : c.bmin ≤ 1 / lf)
    (hcl : (c.Lmin : ℤ) ≤ rd (c.fs / (f * lf)) ∧ rd (c.fs / (f * lf)) ≤ c.N)
    (hk : cnt rd c.N xov (rd (c.fs / (f * lf))).toNat ≠ 1) :
    |((stepAt rd c xov rmin lim lf f).2.2.1 : ℝ) - c.fs / (f * lf)| ≤ 1 / 2 := by
  have e1 : tres c.bmin rmin lim lf f = f * lf := by
    unfold tres
    rw [gres, if_pos hbr, if_neg]
    rw [div_mul_cancel_left₀ hf.ne', ← one_div]
    exact not_lt.mpr hb
  have hz := h (c.fs / (f * lf))
  unfold stepAt
  rw [e1]
  -- `z` is the rounded length; neither the clamp nor the rule changes it
  generalize rd (c.fs / (f * lf)) = z at hcl hk hz ⊢
  have hcast := clampL_cast c.N c.Lmin z
  have e2 : clampL c.N c.Lmin z = z.toNat := by omega
  have e3 : ((z.toNat : ℕ) : ℝ) = (z : ℝ) := by
    exact_mod_cast Int.toNat_of_nonneg ((Int.natCast_nonneg _).trans hcl.1)
  show |((ruleL rd c.N xov (clampL c.N c.Lmin z) : ℕ) : ℝ) - _| ≤ _
  rwa [e2, ((ruleL_cases rd c.N xov _).resolve_left fun hh => hk hh.1).2, e3]

section stepAt
variable (h : Nearest rd) {c : Cfg ℝ} (hA : Adm c) {xov rmin lim lf : ℝ} (hx : 0 < xov)
include h hA hx

theorem stepAt_ok (f : ℝ) :
    BinOK c (stepAt rd c xov rmin lim lf f).1 (stepAt rd c xov rmin lim lf f).2.2.1
      (stepAt rd c xov rmin lim lf f).2.2.2 :=
  have hb := clampL_bounds c.N c.Lmin hA.hLminN (rd (c.fs / tres c.bmin rmin lim lf f))
  binAt_ok h hA hx f hb.1 hb.2

theorem stepAt_mono (hr : 0 < rmin) (hl : rmin ≤ lim) (hlf : 0 ≤ lf) {f1 f2 : ℝ} (h1 : 0 < f1)
    (h12 : f1 ≤ f2) :
    (stepAt rd c xov rmin lim lf f2).2.2.1 ≤ (stepAt rd c xov rmin lim lf f1).2.2.1 ∧
    (stepAt rd c xov rmin lim lf f1).2.2.2 ≤ (stepAt rd c xov rmin lim lf f2).2.2.2 := by
  have hb0 : 0 < c.bmin := one_pos.trans_le hA.hbmin1
  have hb1 := clampL_bounds c.N c.Lmin hA.hLminN (rd (c.fs / tres c.bmin rmin lim lf f1))
  have hb2 := clampL_bounds c.N c.Lmin hA.hLminN (rd (c.fs / tres c.bmin rmin lim lf f2))
  refine binAt_mono h hx (hA.hLmin1.trans hb2.1) (clampL_mono _ _ (h.mono ?_)) hb1.2
  exact div_le_div_of_nonneg_left hA.hfs.le (tres_pos hb0 hr hl h1) (tres_mono hb0 hr hl hlf h12)

theorem stepAt_bmin_slack (hr : 0 < rmin) (hl : rmin ≤ lim) (f : ℝ) (hf : (consts c).fmin ≤ f) :
    c.bmin - f / (2 * c.fs) ≤ (stepAt rd c xov rmin lim lf f).2.1 := by
  have hfs := hA.hfs
  have hb0 : 0 < c.bmin := one_pos.trans_le hA.hbmin1
  have hf0 : 0 < f := lt_of_lt_of_le (fmin_pos hA) hf
  -- the length is at least `fs·bmin/f − 1/2`, or it is `N`
  have hlen : c.fs * c.bmin / f - 1 / 2 ≤ ((stepAt rd c xov rmin lim lf f).2.2.1 : ℝ) := by
    have h1 : c.fs * c.bmin / f ≤ c.fs / tres c.bmin rmin lim lf f := by
      rw [← div_div_eq_mul_div]
      exact div_le_div_of_nonneg_left hfs.le (tres_pos hb0 hr hl hf0) (tres_le hb0 hr hl f)
    exact le_ruleL_clampL c.N c.Lmin xov
      ((sub_le_self _ one_half_pos.le).trans (bminLen_le hA hf))
      ((sub_le_sub_right h1 _).trans (h.sub_le _))
  show _ ≤ f / (stepAt rd c xov rmin lim lf f).1
  rw [(stepAt_ok h hA hx f).bin_eq f]
  calc c.bmin - f / (2 * c.fs) = f * (c.fs * c.bmin / f - 1 / 2) / c.fs := by field_simp
    _ ≤ f * ((stepAt rd c xov rmin lim lf f).2.2.1 : ℝ) / c.fs :=
      div_le_div_of_nonneg_right (mul_le_mul_of_nonneg_left hlen hf0.le) hfs.le

end stepAt

end Sched

namespace SchedLtf
open Model Sched

/-- the stages of `Model.ltfStep` in the interface's spelling (`ltfStep_eq` is `rfl`): `res0` is `gres`,
    `res1` is `tres`, `lenF` is `ruleL` with `round_half_up` (`res0_eq`, `res1_eq`, `lenF_eq`) -/
noncomputable def res0 (k : Consts ℝ) (fi : ℝ) : ℝ :=
  let fres := fi * k.logfact
  if RealLike.ge fres k.freslim then fres
  else if RealLike.lt fres k.freslim &&
      RealLike.gt (RealLike.pow (k.freslim * fres) (RealLike.ofSci 5 true 1)) k.fresmin then
    RealLike.pow (k.freslim * fres) (RealLike.ofSci 5 true 1)
  else k.fresmin

noncomputable def res1 (c : Cfg ℝ) (k : Consts ℝ) (fi : ℝ) : ℝ :=
  if RealLike.lt (fi / res0 k fi) c.bmin then fi / c.bmin else res0 k fi

noncomputable def len0 (c : Cfg ℝ) (k : Consts ℝ) (fi : ℝ) : ℕ :=
  clampL c.N c.Lmin (roundHalfUp (c.fs / res1 c k fi))

noncomputable def lenF (N : ℕ) (xov : ℝ) (L0 : ℕ) : ℕ :=
  if nsegRaw N xov L0 == 1 then N else L0

theorem ltfStep_eq (c : Cfg ℝ) (k : Consts ℝ) (fi : ℝ) :
    ltfStep c k fi =
      (c.fs / RealLike.ofNat (lenF c.N k.xov (len0 c k fi)),
       fi / (c.fs / RealLike.ofNat (lenF c.N k.xov (len0 c k fi))),
       lenF c.N k.xov (len0 c k fi),
       capK c.N (lenF c.N k.xov (len0 c k fi)) (nsegRaw c.N k.xov (len0 c k fi))) := rfl

theorem res0_eq (k : Consts ℝ) (fi : ℝ) :
    res0 k fi = gres k.fresmin k.freslim (fi * k.logfact) := by
  unfold res0 gres
  simp only [RL.ge_eq, RL.lt_eq, RL.gt_eq, RL.pow_eq, RL.lit_half, ← Real.sqrt_eq_rpow,
    decide_eq_true_eq, Bool.and_eq_true]
  by_cases h1 : k.freslim ≤ fi * k.logfact
  · rw [if_pos h1, if_pos h1]
  · rw [if_neg h1, if_neg h1]
    simp only [not_le.mp h1, true_and]

theorem res1_eq (c : Cfg ℝ) (k : Consts ℝ) (fi : ℝ) :
    res1 c k fi = tres c.bmin k.fresmin k.freslim k.logfact fi := by
  unfold res1 tres
  simp only [RL.lt_eq, decide_eq_true_eq, res0_eq]

theorem lenF_eq (N : ℕ) (xov : ℝ) (L : ℕ) : lenF N xov L = ruleL roundHalfUp N xov L := by
  unfold lenF ruleL
  rw [nsegRaw_eq_cnt]

theorem ltfStep_eq_stepAt (c : Cfg ℝ) (k : Consts ℝ) (fi : ℝ) :
    ltfStep c k fi = stepAt roundHalfUp c k.xov k.fresmin k.freslim k.logfact fi := by
  rw [ltfStep_eq, lenF_eq, nsegRaw_eq_cnt, len0, res1_eq]
  rfl

theorem walk_succ (n : ℕ) (fmax : ℝ) (step : ℝ → ℝ × ℝ × ℕ × ℤ) (fi : ℝ) :
    walk (n + 1) fmax step fi =
      if RealLike.lt fi fmax then (fi, step fi) :: walk n fmax step (fi + (step fi).1) else [] := rfl

theorem walk_eq_genWalk (fmax : ℝ) (step : ℝ → ℝ × ℝ × ℕ × ℤ) : ∀ (fuel : ℕ) (fi : ℝ),
    walk fuel fmax step fi =
      genWalk (fun f => RealLike.lt f fmax) (fun f => (f, step f)) (fun f => f + (step f).1) fuel fi
  | 0, _ => rfl
  | n + 1, fi => by rw [walk_succ, genWalk.succ, walk_eq_genWalk fmax step n]

end SchedLtf

open Sched SchedLtf

theorem ltfStep_ok {c : Model.Cfg ℝ} (h : Adm c) (fi : ℝ) :
    BinOK c (Model.ltfStep c (Model.consts c) fi).1 (Model.ltfStep c (Model.consts c) fi).2.2.1
      (Model.ltfStep c (Model.consts c) fi).2.2.2 := by
  rw [ltfStep_eq_stepAt]
  exact stepAt_ok roundHalfUp_nearest h (xov_pos h) fi

-- the checks list these statements (`vk/props/C02.py`, `C03.py`, `C04.py`: THEOREMS); unused: `hfi` in the next four (the step is total
-- in `fi`), `h` in `ltfStep_logspaced`
set_option linter.unusedVariables false in
theorem ltfStep_L_bounds (c : Model.Cfg ℝ) (h : Adm c) (fi : ℝ) (hfi : 0 < fi) :
    let o := Model.ltfStep c (Model.consts c) fi
    max 1 c.Lmin ≤ o.2.2.1 ∧ o.2.2.1 ≤ c.N :=
  ⟨(ltfStep_ok h fi).L_ge, (ltfStep_ok h fi).L_le⟩

set_option linter.unusedVariables false in
theorem ltfStep_rL (c : Model.Cfg ℝ) (h : Adm c) (fi : ℝ) (hfi : 0 < fi) :
    let o := Model.ltfStep c (Model.consts c) fi
    o.1 * (o.2.2.1 : ℝ) = c.fs ∧ 0 < o.1 ∧ c.fs / c.N ≤ o.1 :=
  have o := ltfStep_ok h fi
  ⟨o.rL, o.r_pos h.hfs, o.r_ge h.hfs⟩

set_option linter.unusedVariables false in
theorem ltfStep_bin (c : Model.Cfg ℝ) (h : Adm c) (fi : ℝ) (hfi : 0 < fi) :
    let o := Model.ltfStep c (Model.consts c) fi
    o.2.1 = fi / o.1 ∧ o.2.1 = fi * (o.2.2.1 : ℝ) / c.fs :=
  ⟨rfl, (ltfStep_ok h fi).bin_eq fi⟩

set_option linter.unusedVariables false in
theorem ltfStep_K (c : Model.Cfg ℝ) (h : Adm c) (fi : ℝ) (hfi : 0 < fi) :
    let o := Model.ltfStep c (Model.consts c) fi
    1 ≤ o.2.2.2 ∧ o.2.2.2 ≤ (c.N : ℤ) - o.2.2.1 + 1 ∧ (o.2.2.2 = 1 → o.2.2.1 = c.N) ∧
    o.2.2.2 = Model.capK c.N o.2.2.1 (Model.nsegRaw c.N (1 - c.olap) o.2.2.1) := by
  have o := ltfStep_ok h fi
  refine ⟨o.K_ge, o.K_le, o.K_one, ?_⟩
  rw [nsegRaw_eq_cnt, ← xov_eq, ltfStep_eq_stepAt]
  exact binAt_K roundHalfUp_nearest

/-- no bin falls below bmin by more than the rounding of L allows (for frequencies at or above the first one) -/
theorem ltfStep_bmin_slack (c : Model.Cfg ℝ) (h : Adm c) (fi : ℝ) (hfi : c.fs / c.N * c.bmin ≤ fi) :
    let o := Model.ltfStep c (Model.consts c) fi
    c.bmin - fi / (2 * c.fs) ≤ o.2.1 := by
  rw [ltfStep_eq_stepAt]
  exact stepAt_bmin_slack roundHalfUp_nearest h (xov_pos h) (fresmin_pos h)
    (fresmin_le_freslim h) fi hfi

/-- monotone in frequency: L never increases, K never decreases -/
theorem ltfStep_mono (c : Model.Cfg ℝ) (h : Adm c) (f1 f2 : ℝ) (h1 : 0 < f1) (h12 : f1 ≤ f2) :
    (Model.ltfStep c (Model.consts c) f2).2.2.1 ≤ (Model.ltfStep c (Model.consts c) f1).2.2.1 ∧
    (Model.ltfStep c (Model.consts c) f1).2.2.2 ≤ (Model.ltfStep c (Model.consts c) f2).2.2.2 := by
  rw [ltfStep_eq_stepAt, ltfStep_eq_stepAt]
  exact stepAt_mono roundHalfUp_nearest h (xov_pos h) (fresmin_pos h)
    (fresmin_le_freslim h) (logfact_pos h).le h1 h12

set_option linter.unusedVariables false in
/-- log spacing where nothing clamps: in the branch fi·logfact ≥ freslim, if no clamp changed L then |L − fs/(fi·logfact)| ≤ 1/2 -/
theorem ltfStep_logspaced (c : Model.Cfg ℝ) (h : Adm c) (fi : ℝ) (hfi : 0 < fi)
    (hbr : (Model.consts c).freslim ≤ fi * (Model.consts c).logfact)
    (hb : c.bmin ≤ 1 / (Model.consts c).logfact)
    (hcl : (c.Lmin : ℤ) ≤ ⌊c.fs / (fi * (Model.consts c).logfact) + 1 / 2⌋ ∧ ⌊c.fs / (fi * (Model.consts c).logfact) + 1 / 2⌋ ≤ c.N)
    (hk : Model.nsegRaw c.N (1 - c.olap) (⌊c.fs / (fi * (Model.consts c).logfact) + 1 / 2⌋).toNat ≠ 1) :
    let o := Model.ltfStep c (Model.consts c) fi
    |(o.2.2.1 : ℝ) - c.fs / (fi * (Model.consts c).logfact)| ≤ 1 / 2 := by
  rw [← roundHalfUp_eq] at hcl hk
  rw [nsegRaw_eq_cnt, ← xov_eq] at hk
  rw [ltfStep_eq_stepAt]
  exact stepAt_logspaced roundHalfUp_nearest hfi hbr hb hcl hk

theorem walk_first (fuel : ℕ) (fmax : ℝ) (step : ℝ → ℝ × ℝ × ℕ × ℤ) (fi : ℝ) (hf : 0 < fuel) (hlt : fi < fmax) :
    (Model.walk fuel fmax step fi).head? = some (fi, (step fi).1, (step fi).2.1, (step fi).2.2.1, (step fi).2.2.2) := by
  obtain ⟨n, rfl⟩ := Nat.exists_eq_add_one_of_ne_zero hf.ne'
  rw [walk_succ, RL.lt_eq, if_pos (decide_eq_true hlt)]
  rfl

theorem walk_below (fuel : ℕ) (fmax : ℝ) (step : ℝ → ℝ × ℝ × ℕ × ℤ) (fi : ℝ) :
    ∀ e ∈ Model.walk fuel fmax step fi, e.1 < fmax := by
  rw [walk_eq_genWalk]
  refine genWalk.forall_mem' ?_
  exact fun _ hc => of_decide_eq_true hc

theorem walk_entry_is_step (fuel : ℕ) (fmax : ℝ) (step : ℝ → ℝ × ℝ × ℕ × ℤ) (fi : ℝ) :
    ∀ e ∈ Model.walk fuel fmax step fi, e.2 = step e.1 := by
  rw [walk_eq_genWalk]
  refine genWalk.forall_mem' ?_
  exact fun _ _ => rfl

theorem walk_stepping (fuel : ℕ) (fmax : ℝ) (step : ℝ → ℝ × ℝ × ℕ × ℤ) (fi : ℝ) :
    (Model.walk fuel fmax step fi).IsChain (fun a b => b.1 = a.1 + a.2.1) := by
  rw [walk_eq_genWalk]
  refine genWalk.isChain' ?_
  exact fun _ _ _ => rfl

/-- with every step at least δ > 0, fuel ≥ (fmax − fi)/δ + 1 is enough: more fuel changes nothing -/
theorem walk_fuel_enough (fmax δ : ℝ) (hδ : 0 < δ) (step : ℝ → ℝ × ℝ × ℕ × ℤ) (hstep : ∀ f, δ ≤ (step f).1)
    (fuel : ℕ) (fi : ℝ) (hfuel : (fmax - fi) / δ + 1 ≤ fuel) (extra : ℕ) :
    Model.walk (fuel + extra) fmax step fi = Model.walk fuel fmax step fi := by
  rw [walk_eq_genWalk, walk_eq_genWalk]
  exact genWalk.fuel_enough (I := fun _ => True) (μ := fun f => (fmax - f) / δ + 1)
    (fun _ _ _ => trivial) (fun f _ hc => fuel_step hδ (hstep f) (of_decide_eq_true hc))
    fuel fi trivial hfuel extra

namespace SchedLtf
open Model

theorem fmin_le_next {c : Cfg ℝ} (h : Adm c) {f : ℝ} (hf : (consts c).fmin ≤ f) :
    (consts c).fmin ≤ f + (ltfStep c (consts c) f).1 :=
  hf.trans (le_add_of_nonneg_right ((ltfStep_ok h f).r_pos h.hfs).le)

theorem walk_forall {c : Cfg ℝ} (h : Adm c) {P : ℝ × ℝ × ℝ × ℕ × ℤ → Prop}
    (hP : ∀ f, (consts c).fmin ≤ f → f < (consts c).fmax → P (f, ltfStep c (consts c) f))
    (fuel : ℕ) : ∀ e ∈ walk fuel (consts c).fmax (ltfStep c (consts c)) (consts c).fmin, P e := by
  rw [walk_eq_genWalk]
  exact genWalk.forall_mem (I := fun f => (consts c).fmin ≤ f)
    (fun f hf _ => fmin_le_next h hf) (fun f hf hc => hP f hf (of_decide_eq_true hc)) fuel _ le_rfl

end SchedLtf

theorem ltf_walk_fuel (c : Model.Cfg ℝ) (h : Adm c) (extra : ℕ) :
    Model.walk (c.N + extra) (Model.consts c).fmax (Model.ltfStep c (Model.consts c)) (Model.consts c).fmin
      = Model.walk c.N (Model.consts c).fmax (Model.ltfStep c (Model.consts c)) (Model.consts c).fmin :=
  walk_fuel_enough _ (c.fs / c.N) (fresmin_pos h) _ (fun f => (ltfStep_ok h f).r_ge h.hfs) c.N _
    (fuel_N h le_rfl) extra

theorem ltf_walk_nonempty (c : Model.Cfg ℝ) (h : Adm c) :
    Model.walk c.N (Model.consts c).fmax (Model.ltfStep c (Model.consts c)) (Model.consts c).fmin ≠ [] := by
  intro hnil
  have := walk_first c.N _ (Model.ltfStep c (Model.consts c)) _ (Nat.cast_pos.mp (N_pos h))
    (fmin_lt_fmax h)
  rw [hnil] at this
  cases this

theorem ltf_walk_ge_fmin (c : Model.Cfg ℝ) (h : Adm c) :
    ∀ e ∈ Model.walk c.N (Model.consts c).fmax (Model.ltfStep c (Model.consts c)) (Model.consts c).fmin,
      (Model.consts c).fmin ≤ e.1 :=
  walk_forall h (fun _ hf _ => hf) c.N

example : Adm { N := 1000, fs := 2, olap := 1/2, bmin := 1, Lmin := 1, Jdes := 100, Kdes := 10 } := by
  constructor <;> norm_num

#print axioms ltfStep_L_bounds
#print axioms ltfStep_rL
#print axioms ltfStep_bin
#print axioms ltfStep_K
#print axioms ltfStep_bmin_slack
#print axioms ltfStep_mono
#print axioms ltfStep_logspaced
#print axioms walk_first
#print axioms walk_below
#print axioms walk_entry_is_step
#print axioms walk_stepping
#print axioms walk_fuel_enough
#print axioms ltf_walk_fuel
#print axioms ltf_walk_nonempty
#print axioms ltf_walk_ge_fmin
