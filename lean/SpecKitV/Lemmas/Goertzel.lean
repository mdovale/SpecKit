/-
  SpecKitV.Lemmas.Goertzel — the Goertzel recurrence computes the direct DFT sum up to a unit
  factor, which cancels in `|X|²` and in `X · conj Y`.  The sample stream is a variable; only
  `forRange_goertzel` knows how the translator spells the loop.
-/
import SpecKitV.RealInst
import SpecKitV.Lemmas.CxC
import SpecKitV.Model.Ref
import Mathlib.Analysis.SpecialFunctions.Trigonometric.Basic
import Mathlib.Analysis.Complex.Trigonometric
open Finset Complex

/-- Goertzel state `(s1, s2)` after `L` steps on samples `v` with coefficient `c = 2cos ω` -/
noncomputable def goertzelS (c : ℝ) (v : ℕ → ℝ) : ℕ → ℝ × ℝ
  | 0 => (0, 0)
  | n+1 => (v n + c * (goertzelS c v n).1 - (goertzelS c v n).2, (goertzelS c v n).1)

@[simp] theorem goertzelS_zero (c : ℝ) (v : ℕ → ℝ) : goertzelS c v 0 = (0, 0) := rfl

theorem goertzelS_succ (c : ℝ) (v : ℕ → ℝ) (n : ℕ) :
    goertzelS c v (n+1)
      = (v n + c * (goertzelS c v n).1 - (goertzelS c v n).2, (goertzelS c v n).1) := rfl

/-- the state only depends on the first `L` samples -/
theorem goertzelS_congr (c : ℝ) (v v' : ℕ → ℝ) (L : ℕ) (h : ∀ n < L, v n = v' n) :
    goertzelS c v L = goertzelS c v' L := by
  induction L with
  | zero => rfl
  | succ k ih =>
    rw [goertzelS_succ, goertzelS_succ, ih (fun n hn => h n (Nat.lt_succ_of_lt hn)),
      h k (Nat.lt_succ_self k)]

theorem Goertzel.exp_mul_exp_neg (ω : ℝ) :
    Complex.exp (ω * I) * Complex.exp (-(ω * I)) = 1 := by
  rw [← Complex.exp_add]; simp

theorem Goertzel.two_cos_eq_exp (ω : ℝ) :
    (2 : ℂ) * Complex.cos (ω : ℂ) = Complex.exp (ω * I) + Complex.exp (-(ω * I)) := by
  rw [Complex.two_cos]; simp

theorem Goertzel.exp_neg_eq_cos_sub_sin (ω : ℝ) :
    Complex.exp (-(ω * I)) = Complex.cos ω - Complex.sin ω * I := by
  rw [← neg_mul, Complex.exp_mul_I, Complex.cos_neg, Complex.sin_neg]
  ring

theorem Goertzel.exp_pow_mul_exp_neg (ω : ℝ) (n : ℕ) :
    Complex.exp (ω * I) ^ n * Complex.exp (-(ω * n * I)) = 1 := by
  rw [← Complex.exp_nat_mul, ← Complex.exp_add]
  have : (n : ℂ) * ((ω : ℂ) * I) + -((ω : ℂ) * n * I) = 0 := by ring
  rw [this, Complex.exp_zero]

/-- key invariant: with `E = e^{iω}`, `E (s1 − e^{−iω} s2) = E^L Σ_{n<L} v n e^{−iωn}` (the factor `E` on the left avoids `L − 1`) -/
theorem goertzelS_inv (ω : ℝ) (v : ℕ → ℝ) (L : ℕ) :
    Complex.exp (ω * I) * ((((goertzelS (2 * Real.cos ω) v L).1 : ℝ) : ℂ)
        - Complex.exp (-(ω * I)) * (((goertzelS (2 * Real.cos ω) v L).2 : ℝ) : ℂ))
      = Complex.exp (ω * I) ^ L * ∑ n ∈ range L, (v n : ℂ) * Complex.exp (-(ω * n * I)) := by
  induction L with
  | zero => simp
  | succ L ih =>
    rw [Finset.sum_range_succ, goertzelS_succ]
    generalize (goertzelS (2 * Real.cos ω) v L).1 = s1 at ih ⊢
    generalize (goertzelS (2 * Real.cos ω) v L).2 = s2 at ih ⊢
    push_cast
    linear_combination Complex.exp (ω * I) * ih + Complex.exp (ω * I) * s1 * Goertzel.two_cos_eq_exp ω
      + Complex.exp (ω * I) * s2 * Goertzel.exp_mul_exp_neg ω - Complex.exp (ω * I) * v L * Goertzel.exp_pow_mul_exp_neg ω L

/-- the Goertzel output `(s1 − s2 cos ω) + i (s2 sin ω)` is the direct DFT sum times the unit
    factor `e^{iω(L−1)}` -/
theorem goertzelS_dft (ω : ℝ) (v : ℕ → ℝ) (L : ℕ) :
    (((goertzelS (2 * Real.cos ω) v L).1 - (goertzelS (2 * Real.cos ω) v L).2 * Real.cos ω : ℝ) : ℂ)
      + (((goertzelS (2 * Real.cos ω) v L).2 * Real.sin ω : ℝ) : ℂ) * Complex.I
      = Complex.exp (ω * Complex.I) ^ (L - 1)
          * ∑ n ∈ Finset.range L, (v n : ℂ) * Complex.exp (-(ω * n * Complex.I)) := by
  have h := goertzelS_inv ω v L
  cases L with
  | zero => simp
  | succ L =>
    rw [pow_succ', mul_assoc] at h
    rw [Nat.add_sub_cancel, ← mul_left_cancel₀ (Complex.exp_ne_zero _) h, Goertzel.exp_neg_eq_cos_sub_sin]
    push_cast
    ring

/-- the 3-tuple fold exactly as generated: state `(s0, s1, s2)`,
    body `(v n + c*s1 - s2, v n + c*s1 - s2, s1)` -/
theorem forRange_goertzel (c : ℝ) (v : ℕ → ℝ) (L : ℕ) :
    forRange L ((0:ℝ), (0:ℝ), (0:ℝ))
        (fun n st => (v n + c * st.2.1 - st.2.2, v n + c * st.2.1 - st.2.2, st.2.1))
      = ((goertzelS c v L).1, (goertzelS c v L).1, (goertzelS c v L).2) := by
  induction L with
  | zero => rw [forRange_zero]; rfl
  | succ k ih => rw [forRange_succ, ih, goertzelS_succ]

theorem Goertzel.exp_neg_mul_nat_I (θ : ℝ) (n : ℕ) :
    Complex.exp (-((θ : ℂ) * (n : ℂ) * I)) = ⟨Real.cos (θ * n), -Real.sin (θ * n)⟩ := by
  rw [show -((θ : ℂ) * (n : ℂ) * I) = ((-(θ * n) : ℝ) : ℂ) * I by push_cast; ring]
  exact Complex.ext (by rw [Complex.exp_ofReal_mul_I_re, Real.cos_neg]) (by rw [Complex.exp_ofReal_mul_I_im, Real.sin_neg])

/-- the model's windowed, detrended DFT as a complex sum (every detrending order) -/
theorem segDFT_toC (order : ℤ) (Q : ℕ → ℕ → ℝ) (x : ℕ → ℝ) (s L : ℕ) (w : ℕ → ℝ) (ω : ℝ) :
    Cx.toC (Model.segDFT order Q x s L w ω)
      = ∑ n ∈ range L, ((w n * Model.detr order Q x s L n : ℝ) : ℂ)
          * Complex.exp (-(ω * n * I)) := by
  apply Complex.ext
  · rw [Complex.re_sum]
    simp only [Cx.toC_re, Model.segDFT, sumRange_eq_sum, RL.cos_eq, RL.ofNat_eq,
      Complex.re_ofReal_mul, Goertzel.exp_neg_mul_nat_I]
  · rw [Complex.im_sum]
    simp only [Cx.toC_im, Model.segDFT, sumRange_eq_sum, RL.sin_eq, RL.ofNat_eq,
      RL.zero_eq, Complex.im_ofReal_mul, Goertzel.exp_neg_mul_nat_I, mul_neg, sum_neg_distrib, zero_sub]

/-- the Goertzel result pair `(r, i) = (s1 − s2 cos ω, s2 sin ω)` -/
noncomputable def goertzelRI (ω : ℝ) (v : ℕ → ℝ) (L : ℕ) : ℝ × ℝ :=
  ((goertzelS (2 * Real.cos ω) v L).1 - (goertzelS (2 * Real.cos ω) v L).2 * Real.cos ω,
   (goertzelS (2 * Real.cos ω) v L).2 * Real.sin ω)

theorem goertzelRI_congr (ω : ℝ) (v v' : ℕ → ℝ) (L : ℕ) (h : ∀ n < L, v n = v' n) :
    goertzelRI ω v L = goertzelRI ω v' L := by
  unfold goertzelRI; rw [goertzelS_congr _ v v' L h]

theorem goertzelRI_toC (ω : ℝ) (v : ℕ → ℝ) (L : ℕ) :
    (⟨(goertzelRI ω v L).1, (goertzelRI ω v L).2⟩ : ℂ)
      = Complex.exp (ω * I) ^ (L - 1)
          * ∑ n ∈ range L, (v n : ℂ) * Complex.exp (-(ω * n * I)) := by
  rw [← goertzelS_dft, Complex.mk_eq_add_mul_I]
  rfl

theorem Goertzel.normSq_exp_pow (ω : ℝ) (k : ℕ) : Complex.normSq (Complex.exp (ω * I) ^ k) = 1 := by
  rw [map_pow, Complex.normSq_eq_norm_sq, Complex.norm_exp_ofReal_mul_I]; simp

/-- the four per-segment outputs computed from two Goertzel results equal `|X|²`, `|Y|²`,
    `Re X conj Y`, `Im X conj Y` of the DIRECT sums `X`, `Y` -/
theorem goertzel_pair_outputs (ω : ℝ) (v1 v2 : ℕ → ℝ) (L : ℕ) (X Y : Cx ℝ)
    (hX : Cx.toC X = ∑ n ∈ range L, (v1 n : ℂ) * Complex.exp (-(ω * n * I)))
    (hY : Cx.toC Y = ∑ n ∈ range L, (v2 n : ℂ) * Complex.exp (-(ω * n * I))) :
    let r1 := (goertzelRI ω v1 L).1
    let i1 := (goertzelRI ω v1 L).2
    let r2 := (goertzelRI ω v2 L).1
    let i2 := (goertzelRI ω v2 L).2
    r1 * r1 + i1 * i1 = Cx.normSq X ∧ r2 * r2 + i2 * i2 = Cx.normSq Y
      ∧ r1 * r2 + i1 * i2 = (X * Cx.conj Y).re ∧ i1 * r2 - r1 * i2 = (X * Cx.conj Y).im := by
  intro r1 i1 r2 i2
  set U : ℂ := Complex.exp (ω * I) ^ (L - 1)
  have hUn : Complex.normSq U = 1 := Goertzel.normSq_exp_pow ω (L - 1)
  have h1 : (⟨r1, i1⟩ : ℂ) = U * Cx.toC X := by rw [hX]; exact goertzelRI_toC ω v1 L
  have h2 : (⟨r2, i2⟩ : ℂ) = U * Cx.toC Y := by rw [hY]; exact goertzelRI_toC ω v2 L
  have hUU : U * (starRingEnd ℂ) U = 1 := by
    rw [Complex.mul_conj, hUn]; simp
  have hcross : (⟨r1, i1⟩ : ℂ) * (starRingEnd ℂ) (⟨r2, i2⟩ : ℂ)
      = Cx.toC (X * Cx.conj Y) := by
    rw [h1, h2, map_mul, Cx.toC_mul, Cx.toC_conj, mul_mul_mul_comm, hUU, one_mul]
  refine ⟨?_, ?_, ?_, ?_⟩
  · have := congrArg Complex.normSq h1
    rwa [map_mul, hUn, one_mul, Complex.normSq_mk, ← Cx.normSq_eq] at this
  · have := congrArg Complex.normSq h2
    rwa [map_mul, hUn, one_mul, Complex.normSq_mk, ← Cx.normSq_eq] at this
  · have := congrArg Complex.re hcross
    simp only [Complex.mul_re, Complex.conj_re, Complex.conj_im, Cx.toC_re] at this
    rw [← this]; ring
  · have := congrArg Complex.im hcross
    simp only [Complex.mul_im, Complex.conj_re, Complex.conj_im, Cx.toC_im] at this
    rw [← this]; ring

/-- the same for the model's `segDFT`: any sample streams `v1`, `v2` that agree (on `n < L`) with detrended sample × window -/
theorem goertzel_pair_segDFT (ω : ℝ) (order : ℤ) (Q : ℕ → ℕ → ℝ) (x y : ℕ → ℝ) (s L : ℕ)
    (w : ℕ → ℝ) (v1 v2 : ℕ → ℝ)
    (hv1 : ∀ n < L, v1 n = Model.detr order Q x s L n * w n)
    (hv2 : ∀ n < L, v2 n = Model.detr order Q y s L n * w n) :
    let X := Model.segDFT order Q x s L w ω
    let Y := Model.segDFT order Q y s L w ω
    let r1 := (goertzelRI ω v1 L).1
    let i1 := (goertzelRI ω v1 L).2
    let r2 := (goertzelRI ω v2 L).1
    let i2 := (goertzelRI ω v2 L).2
    r1 * r1 + i1 * i1 = Cx.normSq X ∧ r2 * r2 + i2 * i2 = Cx.normSq Y
      ∧ r1 * r2 + i1 * i2 = (X * Cx.conj Y).re ∧ i1 * r2 - r1 * i2 = (X * Cx.conj Y).im :=
  have stream (x v : ℕ → ℝ) (hv : ∀ n < L, v n = Model.detr order Q x s L n * w n) :
      Cx.toC (Model.segDFT order Q x s L w ω) = ∑ n ∈ range L, (v n : ℂ) * Complex.exp (-(ω * n * I)) :=
    (segDFT_toC order Q x s L w ω).trans (sum_congr rfl fun n hn => by rw [hv n (mem_range.1 hn), mul_comm (w n)])
  goertzel_pair_outputs ω v1 v2 L _ _ (stream x v1 hv1) (stream y v2 hv2)

/-- auto mode: one Goertzel result, `r² + i² = |X|²` -/
theorem goertzel_auto_segDFT (ω : ℝ) {order : ℤ} {Q : ℕ → ℕ → ℝ} {x : ℕ → ℝ} {s L : ℕ}
    {w v : ℕ → ℝ} (hv : ∀ n < L, v n = Model.detr order Q x s L n * w n) :
    (goertzelRI ω v L).1 * (goertzelRI ω v L).1 + (goertzelRI ω v L).2 * (goertzelRI ω v L).2
      = Cx.normSq (Model.segDFT order Q x s L w ω) :=
  (goertzel_pair_segDFT ω order Q x x s L w v v hv hv).1

theorem forRange_acc_sum (L : ℕ) (f : ℕ → ℝ) :
    forRange L (0:ℝ) (fun n acc => acc + f n) = ∑ n ∈ range L, f n :=
  (forRange_sum id f L 0 _ fun _ _ _ => rfl).trans (zero_add _)

theorem forRange_acc_sum2 (L : ℕ) (f g : ℕ → ℝ) :
    forRange L ((0:ℝ), (0:ℝ)) (fun n st => (st.1 + f n, st.2 + g n))
      = (∑ n ∈ range L, f n, ∑ n ∈ range L, g n) := by
  induction L with
  | zero => simp [forRange_zero]
  | succ k ih => rw [forRange_succ, ih, Finset.sum_range_succ, Finset.sum_range_succ]

#print axioms goertzelS_dft
#print axioms forRange_goertzel
#print axioms segDFT_toC
#print axioms goertzel_pair_outputs
#print axioms goertzel_pair_segDFT
#print axioms goertzel_auto_segDFT
