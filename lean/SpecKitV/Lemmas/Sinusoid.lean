/-
  SpecKitV.Lemmas.Sinusoid — exact response of the reference estimator's windowed DFT
  (`Model.segDFT`, no detrending) to a pure sinusoid `x n = A cos(ω0 n + φ)`:
  two images of the window transform, the calibration statement (power spectrum `A²/2` up to an
  explicit leakage term), and the reduction of side-lobe leakage to the window transform.
-/
import SpecKitV.Lemmas.Detrend
import SpecKitV.Lemmas.Goertzel
open Finset Complex

/-- window transform W(θ) = Σ_{n<L} w n e^{-iθn} -/
noncomputable def winT (w : ℕ → ℝ) (L : ℕ) (θ : ℝ) : ℂ :=
  ∑ n ∈ range L, (w n : ℂ) * Complex.exp (-(θ * n * I))

namespace Sinusoid

/-- the phase factors come in several cast spellings; each is `exp z` with `z.re = 0` by `simp` -/
theorem norm_exp_eq_one {z : ℂ} (h : z.re = 0) : ‖Complex.exp z‖ = 1 := by
  rw [Complex.norm_exp, h, Real.exp_zero]

theorem norm_ofReal_mul_exp {r : ℝ} {z : ℂ} (h : z.re = 0) : ‖(r : ℂ) * Complex.exp z‖ = |r| := by
  rw [norm_mul, norm_exp_eq_one h, mul_one, Complex.norm_real, Real.norm_eq_abs]

theorem norm_exp_neg_mul_nat_I (θ : ℝ) (n : ℕ) :
    ‖Complex.exp (-((θ : ℂ) * (n : ℂ) * I))‖ = 1 :=
  norm_exp_eq_one (by simp)

theorem norm_half (A : ℝ) : ‖(A / 2 : ℂ)‖ = |A| / 2 := by
  rw [norm_div, Complex.norm_real, Real.norm_eq_abs, Complex.norm_ofNat]

end Sinusoid

theorem winT_zero (w : ℕ → ℝ) (L : ℕ) : winT w L 0 = ((∑ n ∈ range L, w n : ℝ) : ℂ) := by
  simp [winT]

theorem winT_le_sum (w : ℕ → ℝ) (L : ℕ) (hw : ∀ n < L, 0 ≤ w n) (θ : ℝ) :
    ‖winT w L θ‖ ≤ ∑ n ∈ range L, w n := by
  refine norm_sum_le_of_le _ (fun n hn => ?_)
  rw [Sinusoid.norm_ofReal_mul_exp (by simp), abs_of_nonneg (hw n (Finset.mem_range.mp hn))]

theorem segDFT_raw_toC (Q : ℕ → ℕ → ℝ) (x : ℕ → ℝ) (s L : ℕ) (w : ℕ → ℝ) (ω : ℝ) :
    Cx.toC (Model.segDFT (-1) Q x s L w ω)
      = ∑ n ∈ range L, ((w n * x (s + n) : ℝ) : ℂ) * Complex.exp (-(ω * n * I)) := by
  simp only [segDFT_toC, detr_neg_one]

/-- exact response to x n = A cos(ω0 n + φ): two images of the window transform -/
theorem sinusoid_identity (Q : ℕ → ℕ → ℝ) (A ω0 φ : ℝ) (s L : ℕ) (w : ℕ → ℝ) (ω : ℝ) :
    Cx.toC (Model.segDFT (-1) Q (fun n => A * Real.cos (ω0 * n + φ)) s L w ω)
      = (A / 2 : ℂ) * (Complex.exp ((φ + ω0 * s) * I) * winT w L (ω - ω0)
                       + Complex.exp (-((φ + ω0 * s) * I)) * winT w L (ω + ω0)) := by
  rw [segDFT_raw_toC]
  simp only [winT, Finset.mul_sum, ← Finset.sum_add_distrib]
  refine Finset.sum_congr rfl (fun n _ => ?_)
  push_cast
  rw [Complex.cos]
  -- either exponential of the cosine, times `e^{−iωn}`, is the phase at the segment start times
  -- one term of a window transform
  have h1 : Complex.exp (((φ : ℂ) + ω0 * s) * I) * Complex.exp (-(((ω : ℂ) - ω0) * n * I))
      = Complex.exp (((ω0 : ℂ) * (s + n) + φ) * I) * Complex.exp (-((ω : ℂ) * n * I)) := by
    rw [← Complex.exp_add, ← Complex.exp_add]; congr 1; ring
  have h2 : Complex.exp (-(((φ : ℂ) + ω0 * s) * I)) * Complex.exp (-(((ω : ℂ) + ω0) * n * I))
      = Complex.exp (-((ω0 : ℂ) * (s + n) + φ) * I) * Complex.exp (-((ω : ℂ) * n * I)) := by
    rw [← Complex.exp_add, ← Complex.exp_add]; congr 1; ring
  linear_combination (-(A / 2 : ℂ) * (w n : ℂ)) * h1 + (-(A / 2 : ℂ) * (w n : ℂ)) * h2

/-- the inner product of the segment with a real vector `q` is
    `A · Re (e^{i(ω0 s + φ)} Σ_m q m e^{iω0 m})` (`h` below), hence the bound -/
theorem abs_sum_mul_sinusoid_le (q : ℕ → ℝ) (A ω0 φ : ℝ) (s L : ℕ) :
    |∑ m ∈ range L, q m * (A * Real.cos (ω0 * ((s + m : ℕ) : ℝ) + φ))|
      ≤ |A| * ‖∑ m ∈ range L, (q m : ℂ) * Complex.exp (((ω0 * m : ℝ) : ℂ) * I)‖ := by
  have h : ∑ m ∈ range L, q m * (A * Real.cos (ω0 * ((s + m : ℕ) : ℝ) + φ))
      = A * (Complex.exp (((ω0 * s + φ : ℝ) : ℂ) * I)
          * ∑ m ∈ range L, (q m : ℂ) * Complex.exp (((ω0 * m : ℝ) : ℂ) * I)).re := by
    rw [Finset.mul_sum, Complex.re_sum, Finset.mul_sum]
    refine Finset.sum_congr rfl (fun m _ => ?_)
    rw [mul_left_comm (Complex.exp _), ← Complex.exp_add, ← add_mul, ← Complex.ofReal_add,
      Complex.re_ofReal_mul, Complex.exp_ofReal_mul_I_re, Nat.cast_add, mul_add, add_right_comm]
    ring
  rw [h, abs_mul]
  refine mul_le_mul_of_nonneg_left ((Complex.abs_re_le_norm _).trans_eq ?_) (abs_nonneg A)
  rw [norm_mul, Complex.norm_exp_ofReal_mul_I, one_mul]

/-- on the peak: main image `P` plus negative-frequency image `c`; only their sizes are used -/
theorem sinusoid_onpeak_split (Q : ℕ → ℕ → ℝ) (A ω0 φ : ℝ) (s L : ℕ) (w : ℕ → ℝ) :
    ∃ P c : ℂ,
      Cx.toC (Model.segDFT (-1) Q (fun n => A * Real.cos (ω0 * n + φ)) s L w ω0) = P + c
      ∧ ‖P‖ = |A| / 2 * |∑ n ∈ range L, w n| ∧ ‖c‖ = |A| / 2 * ‖winT w L (2 * ω0)‖ := by
  refine ⟨(A / 2 : ℂ) * (Complex.exp ((φ + ω0 * s) * I) * winT w L 0),
    (A / 2 : ℂ) * (Complex.exp (-((φ + ω0 * s) * I)) * winT w L (2 * ω0)), ?_, ?_, ?_⟩
  · rw [sinusoid_identity, sub_self, ← two_mul, mul_add]
  · rw [norm_mul, norm_mul, Sinusoid.norm_half, Sinusoid.norm_exp_eq_one (by simp), one_mul, winT_zero,
      Complex.norm_real, Real.norm_eq_abs]
  · rw [norm_mul, norm_mul, Sinusoid.norm_half, Sinusoid.norm_exp_eq_one (by simp), one_mul]

theorem abs_normSq_perturb {P c : ℂ} {p r : ℝ} (hP : ‖P‖ = p) (hc : ‖c‖ ≤ p * r) :
    |‖P + c‖ ^ 2 - p ^ 2| ≤ p ^ 2 * (2 * r + r ^ 2) := by
  subst hP
  have h1 : |‖P + c‖ - ‖P‖| ≤ ‖P‖ * r := by
    have h := abs_norm_sub_norm_le (P + c) P
    rw [add_sub_cancel_left] at h
    exact h.trans hc
  have h2 : ‖P + c‖ + ‖P‖ ≤ 2 * ‖P‖ + ‖P‖ * r := by linarith [norm_add_le P c]
  have h0 : 0 ≤ ‖P + c‖ + ‖P‖ := add_nonneg (norm_nonneg _) (norm_nonneg _)
  calc |‖P + c‖ ^ 2 - ‖P‖ ^ 2| = (‖P + c‖ + ‖P‖) * |‖P + c‖ - ‖P‖| := by
        rw [sq_sub_sq, abs_mul, abs_of_nonneg h0]
    _ ≤ (2 * ‖P‖ + ‖P‖ * r) * (‖P‖ * r) :=
        mul_le_mul h2 h1 (abs_nonneg _) (h0.trans h2)
    _ = ‖P‖ ^ 2 * (2 * r + r ^ 2) := by ring

/-- on-peak power when any `T` with `‖T‖ ≤ |A|·t` is taken off the raw transform; the detrending
    orders differ only in `T` (nothing, mean × `W(ω0)`, projection on the basis columns).
    `2·t/S1` in `r`: the main image has size `|A|/2·S1` -/
theorem calibration_sub (Q : ℕ → ℕ → ℝ) (A ω0 φ : ℝ) (s L : ℕ) (w : ℕ → ℝ)
    (hS1 : 0 < ∑ n ∈ range L, w n) (T : ℂ) (t r : ℝ) (hT : ‖T‖ ≤ |A| * t)
    (hr : r = ‖winT w L (2 * ω0)‖ / (∑ n ∈ range L, w n) + 2 * (t / ∑ n ∈ range L, w n)) :
    |‖Cx.toC (Model.segDFT (-1) Q (fun n => A * Real.cos (ω0 * n + φ)) s L w ω0) - T‖ ^ 2
        - (A / 2) ^ 2 * (∑ n ∈ range L, w n) ^ 2|
      ≤ (A / 2) ^ 2 * (∑ n ∈ range L, w n) ^ 2 * (2 * r + r ^ 2) := by
  obtain ⟨P, c, hX, hP, hc⟩ := sinusoid_onpeak_split Q A ω0 φ s L w
  rw [abs_of_pos hS1] at hP
  generalize ∑ n ∈ range L, w n = S1 at *
  have hpr : |A| / 2 * S1 * r = |A| / 2 * ‖winT w L (2 * ω0)‖ + |A| * t := by
    have h : ∀ y, S1 * (y / S1) = y := fun y => mul_div_cancel₀ y (ne_of_gt hS1)
    rw [hr, mul_assoc, mul_add, h, mul_left_comm S1, h]
    ring
  have hcT : ‖c - T‖ ≤ |A| / 2 * S1 * r := by
    rw [hpr, ← hc]
    exact (norm_sub_le c T).trans (add_le_add_right hT _)
  have h := abs_normSq_perturb hP hcT
  rwa [← add_sub_assoc, ← hX, mul_pow, div_pow, sq_abs, ← div_pow] at h

/-- at the sinusoid's own frequency: |X|² is within (2ρ+ρ²) of (A/2)²·S1², ρ = |W(2ω0)|/S1 -/
theorem calibration_bound (Q : ℕ → ℕ → ℝ) (A ω0 φ : ℝ) (s L : ℕ) (w : ℕ → ℝ)
    (hS1 : 0 < ∑ n ∈ range L, w n) :
    let S1 := ∑ n ∈ range L, w n
    let ρ := ‖winT w L (2 * ω0)‖ / S1
    |Cx.normSq (Model.segDFT (-1) Q (fun n => A * Real.cos (ω0 * n + φ)) s L w ω0)
        - (A / 2) ^ 2 * S1 ^ 2|
      ≤ (A / 2) ^ 2 * S1 ^ 2 * (2 * ρ + ρ ^ 2) := by
  intro S1 ρ
  have h := calibration_sub Q A ω0 φ s L w hS1 0 0 ρ (by rw [norm_zero, mul_zero])
    (by rw [zero_div, mul_zero, add_zero])
  rwa [sub_zero, ← Complex.normSq_eq_norm_sq, ← Cx.normSq_eq] at h

theorem abs_mean_sub_le {K : ℕ} (hK : 0 < K) {f : ℕ → ℝ} {c e : ℝ}
    (h : ∀ k < K, |f k - c| ≤ e) :
    |(∑ k ∈ range K, f k) / K - c| ≤ e := by
  have hKr : (0 : ℝ) < K := by exact_mod_cast hK
  have h1 : (∑ k ∈ range K, f k) / K - c = (∑ k ∈ range K, (f k - c)) / K := by
    rw [Finset.sum_sub_distrib, Finset.sum_const, Finset.card_range, nsmul_eq_mul, sub_div,
      mul_div_cancel_left₀ c hKr.ne']
  rw [h1, abs_div, abs_of_pos hKr, div_le_iff₀ hKr]
  refine (Finset.abs_sum_le_sum_abs _ _).trans ?_
  refine (Finset.sum_le_sum (fun k hk => h k (Finset.mem_range.1 hk))).trans_eq ?_
  rw [Finset.sum_const, Finset.card_range, nsmul_eq_mul, mul_comm]

/-- a relative bound on each segment's power `f k` carries over to `ps = 2·mean f/S1²` -/
theorem ps_of_segment_bound (K : ℕ) (hK : 0 < K) (f : ℕ → ℝ) (A S1 e : ℝ) (hS1 : 0 < S1)
    (h : ∀ k < K, |f k - (A / 2) ^ 2 * S1 ^ 2| ≤ (A / 2) ^ 2 * S1 ^ 2 * e) :
    |2 * ((∑ k ∈ range K, f k) / K) / S1 ^ 2 - A ^ 2 / 2| ≤ A ^ 2 / 2 * e := by
  have hu : 0 < S1 ^ 2 := pow_pos hS1 2
  have h2 : ∀ m : ℝ, 2 * m - S1 ^ 2 * (A ^ 2 / 2) = 2 * (m - (A / 2) ^ 2 * S1 ^ 2) :=
    fun m => by ring
  rw [div_sub' hu.ne', abs_div, abs_of_pos hu, div_le_iff₀ hu, h2, abs_mul, abs_two]
  calc _ ≤ 2 * ((A / 2) ^ 2 * S1 ^ 2 * e) :=
        mul_le_mul_of_nonneg_left (abs_mean_sub_le hK h) zero_le_two
    _ = A ^ 2 / 2 * e * S1 ^ 2 := by ring

/-- the same for the calibrated power spectrum value ps = 2·|X|²/S1²
    (mean over any K ≥ 1 segments with any starts) -/
theorem power_spectrum_calibrated (Q : ℕ → ℕ → ℝ) (A ω0 φ : ℝ) (K L : ℕ) (hK : 0 < K)
    (starts : ℕ → ℕ) (w : ℕ → ℝ) (hS1 : 0 < ∑ n ∈ range L, w n) :
    let S1 := ∑ n ∈ range L, w n
    let ρ := ‖winT w L (2 * ω0)‖ / S1
    let XX := (∑ k ∈ range K, Cx.normSq (Model.segDFT (-1) Q
        (fun n => A * Real.cos (ω0 * n + φ)) (starts k) L w ω0)) / K
    |2 * XX / S1 ^ 2 - A ^ 2 / 2| ≤ A ^ 2 / 2 * (2 * ρ + ρ ^ 2) :=
  ps_of_segment_bound K hK _ A _ _ hS1 (fun k _ => calibration_bound Q A ω0 φ (starts k) L w hS1)

/-- leakage: away from ω0 the response is bounded by the two window-transform images -/
theorem leakage_bound (Q : ℕ → ℕ → ℝ) (A ω0 φ : ℝ) (s L : ℕ) (w : ℕ → ℝ) (ω : ℝ) :
    Cx.abs (Model.segDFT (-1) Q (fun n => A * Real.cos (ω0 * n + φ)) s L w ω)
      ≤ |A| / 2 * (‖winT w L (ω - ω0)‖ + ‖winT w L (ω + ω0)‖) := by
  rw [Cx.abs_eq, sinusoid_identity, norm_mul, Sinusoid.norm_half]
  refine mul_le_mul_of_nonneg_left ((norm_add_le _ _).trans_eq ?_) (div_nonneg (abs_nonneg A) zero_le_two)
  rw [norm_mul, norm_mul, Sinusoid.norm_exp_eq_one (by simp), Sinusoid.norm_exp_eq_one (by simp), one_mul, one_mul]

/-- and at ω0 it is at least (|A|/2)(S1 − |W(2ω0)|) -/
theorem onpeak_lower (Q : ℕ → ℕ → ℝ) (A ω0 φ : ℝ) (s L : ℕ) (w : ℕ → ℝ)
    (hS1 : 0 ≤ ∑ n ∈ range L, w n) :
    |A| / 2 * ((∑ n ∈ range L, w n) - ‖winT w L (2 * ω0)‖)
      ≤ Cx.abs (Model.segDFT (-1) Q (fun n => A * Real.cos (ω0 * n + φ)) s L w ω0) := by
  obtain ⟨P, c, hX, hP, hc⟩ := sinusoid_onpeak_split Q A ω0 φ s L w
  rw [abs_of_nonneg hS1] at hP
  rw [Cx.abs_eq, hX, mul_sub, ← hP, ← hc]
  have h := norm_sub_le (P + c) c
  rw [add_sub_cancel_right] at h
  linarith

#print axioms segDFT_raw_toC
#print axioms sinusoid_identity
#print axioms calibration_bound
#print axioms power_spectrum_calibrated
#print axioms leakage_bound
#print axioms onpeak_lower
#print axioms winT_le_sum
#print axioms winT_zero
#print axioms abs_normSq_perturb
#print axioms abs_mean_sub_le
#print axioms ps_of_segment_bound
