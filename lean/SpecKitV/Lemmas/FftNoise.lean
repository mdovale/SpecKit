/-
  SpecKitV.Lemmas.FftNoise — the FFT noise synthesiser's spectrum (`Model.fftnoiseSpectrum`):
  Hermitian symmetry, real DC/Nyquist, prescribed magnitudes, zero bins, realness of the inverse DFT;
  symmetry of the band mask on the two-sided FFT frequency grid; log-equispaced corner frequencies
  of the 1/f^alpha filter cascade.
-/
import SpecKitV.RealInst
import SpecKitV.Lemmas.CxC
import SpecKitV.Model.Noise
import Mathlib.Analysis.SpecialFunctions.Trigonometric.Basic
import Mathlib.Algebra.BigOperators.Intervals
open Finset

/-! ### the four kinds of bin: DC, the rotated bins `1..(N−1)//2`, their mirror images, and for even `N` Nyquist `N//2` between them -/

section bins
variable (f rot : ℕ → Cx ℝ) {N k : ℕ}

theorem fftnoiseSpectrum_dc : Model.fftnoiseSpectrum f rot N 0 = Cx.ofReal (f 0).re := by
  simp only [Model.fftnoiseSpectrum, if_true]

theorem fftnoiseSpectrum_nyquist (hN : 2 ≤ N) (hev : N % 2 = 0) :
    Model.fftnoiseSpectrum f rot N (N / 2) = Cx.ofReal (f (N / 2)).re := by
  simp only [Model.fftnoiseSpectrum, hev, and_self, if_true]
  exact if_neg (by omega)

theorem fftnoiseSpectrum_pos (hk0 : 0 < k) (hk : k ≤ (N - 1) / 2) :
    Model.fftnoiseSpectrum f rot N k = f k * rot (k - 1) := by
  simp only [Model.fftnoiseSpectrum]
  rw [if_neg hk0.ne', if_neg (by omega), if_pos hk]

/-- the mirror image `j = N − k` of a rotated bin `k`, with the two indices on an equal footing -/
theorem fftnoiseSpectrum_neg {j : ℕ} (hjk : j + k = N) (hk0 : 0 < k) (hk : k ≤ (N - 1) / 2) :
    Model.fftnoiseSpectrum f rot N j = Cx.conj (f k * rot (k - 1)) := by
  have h : j ≠ 0 ∧ ¬ (N % 2 = 0 ∧ j = N / 2) ∧ ¬ j ≤ (N - 1) / 2 ∧ N - j = k := by omega
  simp only [Model.fftnoiseSpectrum, if_neg h.1, if_neg h.2.1, if_neg h.2.2.1, h.2.2.2]

theorem fftnoise_cases (hk0 : 0 < k) (hk : k < N) :
    k ≤ (N - 1) / 2 ∨ (N % 2 = 0 ∧ k = N / 2) ∨ (0 < N - k ∧ N - k ≤ (N - 1) / 2) := by
  omega

end bins

/-- in linear form, for index arithmetic: `m = (N − 1) // 2` is given by `2 m + 1 ≤ N ≤ 2 m + 2` -/
theorem fftnoiseSpectrum_half (f rot : ℕ → Cx ℝ) (N m k : ℕ) (hlo : 2 * m + 1 ≤ N) (hhi : N ≤ 2 * m + 2) :
    Model.fftnoiseSpectrum f rot N k
      = if k = 0 then Cx.ofReal (f 0).re else if N = 2 * m + 2 ∧ k = m + 1 then Cx.ofReal (f k).re
        else if k ≤ m then f k * rot (k - 1) else Cx.conj (f (N - k) * rot (N - k - 1)) := by
  have h : (N - 1) / 2 = m ∧ (N % 2 = 0 ∧ k = N / 2 ↔ N = 2 * m + 2 ∧ k = m + 1) := by omega
  simp only [Model.fftnoiseSpectrum, h.1, h.2]

namespace Cx

theorem normSq_ofReal (x : ℝ) : Cx.normSq (Cx.ofReal x) = x ^ 2 := by
  simp only [Cx.normSq, Cx.ofReal, RL.ofNat_eq, Nat.cast_zero, mul_zero, add_zero]
  ring

theorem normSq_mul (a b : Cx ℝ) : Cx.normSq (a * b) = Cx.normSq a * Cx.normSq b := by
  rw [Cx.normSq_eq, Cx.normSq_eq, Cx.normSq_eq, Cx.toC_mul, Complex.normSq_mul]

theorem mk_zero_mul (b : Cx ℝ) : (⟨0, 0⟩ : Cx ℝ) * b = ⟨0, 0⟩ := by
  rw [Cx.ext_iff, Cx.mul_re, Cx.mul_im]
  norm_num

theorem conj_mk_zero : Cx.conj (⟨0, 0⟩ : Cx ℝ) = ⟨0, 0⟩ := by
  simp [Cx.conj]

theorem ofReal_re_mk_zero : Cx.ofReal (⟨0, 0⟩ : Cx ℝ).re = ⟨0, 0⟩ := by
  simp [Cx.ofReal]

end Cx

theorem fftnoise_hermitian (f rot : ℕ → Cx ℝ) (N k : ℕ) (hN : 2 ≤ N) (hk0 : 0 < k) (hk : k < N) :
    Cx.toC (Model.fftnoiseSpectrum f rot N (N - k)) =
      (starRingEnd ℂ) (Cx.toC (Model.fftnoiseSpectrum f rot N k)) := by
  rcases fftnoise_cases hk0 hk with h | ⟨hev, rfl⟩ | ⟨h0, h⟩
  · rw [fftnoiseSpectrum_neg f rot (Nat.sub_add_cancel hk.le) hk0 h, fftnoiseSpectrum_pos f rot hk0 h, Cx.toC_conj]
  · rw [show N - N / 2 = N / 2 by omega, fftnoiseSpectrum_nyquist f rot hN hev, Cx.toC_ofReal, Complex.conj_ofReal]
  · rw [fftnoiseSpectrum_neg f rot (Nat.add_sub_cancel' hk.le) h0 h, fftnoiseSpectrum_pos f rot h0 h, Cx.toC_conj,
      Complex.conj_conj]

theorem fftnoise_dc_real (f rot : ℕ → Cx ℝ) (N : ℕ) :
    (Model.fftnoiseSpectrum f rot N 0).im = 0 := by
  rw [fftnoiseSpectrum_dc, Cx.ofReal_im, RL.ofNat_eq, Nat.cast_zero]

theorem fftnoise_nyquist_real (f rot : ℕ → Cx ℝ) (N : ℕ) (hN : 2 ≤ N) (hev : N % 2 = 0) :
    (Model.fftnoiseSpectrum f rot N (N / 2)).im = 0 := by
  rw [fftnoiseSpectrum_nyquist f rot hN hev, Cx.ofReal_im, RL.ofNat_eq, Nat.cast_zero]

/-- magnitudes are exactly the prescribed ones on the positive side, mirrored on the negative side -/
theorem fftnoise_magnitude_pos (f rot : ℕ → Cx ℝ) (N k : ℕ) (hk0 : 0 < k) (hk : k ≤ (N - 1) / 2)
    (hrot : ∀ j, Cx.normSq (rot j) = 1) :
    Cx.normSq (Model.fftnoiseSpectrum f rot N k) = Cx.normSq (f k) := by
  rw [fftnoiseSpectrum_pos f rot hk0 hk, Cx.normSq_mul, hrot, mul_one]

set_option linter.unusedVariables false in  -- `hN`
theorem fftnoise_magnitude_neg (f rot : ℕ → Cx ℝ) (N k : ℕ) (hN : 2 ≤ N) (hk0 : 0 < k)
    (hk : k ≤ (N - 1) / 2) (hrot : ∀ j, Cx.normSq (rot j) = 1) :
    Cx.normSq (Model.fftnoiseSpectrum f rot N (N - k)) = Cx.normSq (f k) := by
  have hkN : k ≤ N := hk.trans ((Nat.div_le_self _ 2).trans (Nat.sub_le N 1))
  rw [fftnoiseSpectrum_neg f rot (Nat.sub_add_cancel hkN) hk0 hk, Cx.normSq_conj, Cx.normSq_mul, hrot, mul_one]

theorem fftnoise_dc_magnitude (f rot : ℕ → Cx ℝ) (N : ℕ) :
    Cx.normSq (Model.fftnoiseSpectrum f rot N 0) = (f 0).re ^ 2 := by
  rw [fftnoiseSpectrum_dc, Cx.normSq_ofReal]

theorem fftnoise_nyquist_magnitude (f rot : ℕ → Cx ℝ) (N : ℕ) (hN : 2 ≤ N) (hev : N % 2 = 0) :
    Cx.normSq (Model.fftnoiseSpectrum f rot N (N / 2)) = (f (N / 2)).re ^ 2 := by
  rw [fftnoiseSpectrum_nyquist f rot hN hev, Cx.normSq_ofReal]

/-- zero stays zero: a bin whose prescribed magnitude (and its mirror partner's) is zero is exactly
    zero after synthesis -/
theorem fftnoise_zero_bins (f rot : ℕ → Cx ℝ) (N k : ℕ) (hN : 2 ≤ N) (hk : k < N)
    (hz : f k = ⟨0, 0⟩) (hzm : f (N - k) = ⟨0, 0⟩) : Model.fftnoiseSpectrum f rot N k = ⟨0, 0⟩ := by
  rcases Nat.eq_zero_or_pos k with rfl | hk0
  · rw [fftnoiseSpectrum_dc, hz, Cx.ofReal_re_mk_zero]
  rcases fftnoise_cases hk0 hk with h | ⟨hev, rfl⟩ | ⟨h0, h⟩
  · rw [fftnoiseSpectrum_pos f rot hk0 h, hz, Cx.mk_zero_mul]
  · rw [fftnoiseSpectrum_nyquist f rot hN hev, hz, Cx.ofReal_re_mk_zero]
  · rw [fftnoiseSpectrum_neg f rot (Nat.add_sub_cancel' hk.le) h0 h, hzm, Cx.mk_zero_mul, Cx.conj_mk_zero]

/-- the twiddle factor of the mirror bin is the conjugate one: the argument at `N − k` is minus the one at `k`, plus `n` full turns -/
theorem twiddle_mirror {N k : ℕ} (hk : k < N) (n : ℕ) :
    Complex.exp (2 * Real.pi * Complex.I * ((N - k : ℕ) : ℂ) * (n : ℂ) / (N : ℂ))
      = (starRingEnd ℂ) (Complex.exp (2 * Real.pi * Complex.I * (k : ℂ) * (n : ℂ) / (N : ℂ))) := by
  have hN : (N : ℂ) ≠ 0 := Nat.cast_ne_zero.2 (Nat.ne_zero_of_lt hk)
  have harg (c : ℂ) : c * ((N : ℂ) - k) * n / N = n * c + -(c * k * n / N) := by
    rw [← mul_one (n * c), ← div_self hN]
    ring
  rw [← Complex.exp_conj, Nat.cast_sub hk.le, harg, Complex.exp_add, Complex.exp_nat_mul_two_pi_mul_I, one_mul]
  simp only [map_div₀, map_mul, Complex.conj_ofReal, Complex.conj_I, Complex.conj_natCast, map_ofNat, mul_neg, neg_mul,
    neg_div]

theorem hermitian_idft_real (N : ℕ) (hN : 0 < N) (F : ℕ → ℂ) (h0 : (F 0).im = 0)
    (hH : ∀ k, 0 < k → k < N → F (N - k) = (starRingEnd ℂ) (F k)) (n : ℕ) :
    (∑ k ∈ range N,
      F k * Complex.exp (2 * Real.pi * Complex.I * (k : ℂ) * (n : ℂ) / (N : ℂ))).im = 0 := by
  -- the conjugate of the sum is the sum again: bin 0 is real, bins `1..N−1` are reflected
  rw [← Complex.conj_eq_iff_im, map_sum, Finset.range_eq_Ico, Finset.sum_eq_sum_Ico_succ_bot hN,
    Finset.sum_eq_sum_Ico_succ_bot hN]
  congr 1
  · rw [map_mul, Complex.conj_eq_iff_im.mpr h0, Nat.cast_zero, mul_zero, zero_mul, zero_div, Complex.exp_zero, map_one]
  · have h := Finset.sum_Ico_reflect
      (fun k => F k * Complex.exp (2 * Real.pi * Complex.I * (k : ℂ) * (n : ℂ) / (N : ℂ))) 1 N.le_succ
    rw [Nat.add_sub_cancel_left, Nat.add_sub_cancel] at h
    rw [← h]
    refine Finset.sum_congr rfl fun k hk => ?_
    obtain ⟨hk0, hk⟩ := Finset.mem_Ico.1 hk
    rw [map_mul, ← hH k hk0 hk, ← twiddle_mirror hk]

theorem fftnoise_series_real (f rot : ℕ → Cx ℝ) (N : ℕ) (hN : 2 ≤ N) (n : ℕ) :
    (∑ k ∈ range N, Cx.toC (Model.fftnoiseSpectrum f rot N k) *
      Complex.exp (2 * Real.pi * Complex.I * (k : ℂ) * (n : ℂ) / (N : ℂ))).im = 0 :=
  hermitian_idft_real N (by omega) (fun k => Cx.toC (Model.fftnoiseSpectrum f rot N k))
    (by simpa using fftnoise_dc_real f rot N)
    (fun k hk0 hk => fftnoise_hermitian f rot N k hN hk0 hk) n

theorem fftfreqAbs_real (N : ℕ) (fs : ℝ) (k : ℕ) :
    Model.fftfreqAbs N fs k
      = |((if 2 * k < N then (k : ℤ) else (k : ℤ) - (N : ℤ) : ℤ) : ℝ)
          * (1 / ((N : ℝ) * (1 / fs)))| := by
  simp only [Model.fftfreqAbs, RL.abs_eq, RL.ofInt_eq, RL.one_eq, RL.ofNat_eq]

theorem fftfreqAbs_eq_abs (N : ℕ) (fs : ℝ) (k : ℕ) (hk : k < N) :
    Model.fftfreqAbs N fs k = (min k (N - k) : ℕ) * |fs| / N := by
  have hNr : (0 : ℝ) < N := by exact_mod_cast Nat.zero_lt_of_lt hk
  have hscale : (1 / ((N : ℝ) * (1 / fs))) = fs / N := by
    rw [one_div, mul_inv, one_div, inv_inv, mul_comm, div_eq_mul_inv]
  have : |(if 2 * k < N then (k : ℤ) else (k : ℤ) - (N : ℤ))| = ((min k (N - k) : ℕ) : ℤ) := by
    split_ifs with h
    · rw [min_eq_left (by omega), abs_of_nonneg (by omega)]
    · rw [min_eq_right (by omega), abs_of_nonpos (by omega)]
      omega
  rw [fftfreqAbs_real, hscale, abs_mul, abs_div, abs_of_pos hNr, ← Int.cast_abs, this, Int.cast_natCast]
  ring

-- `hfs`, `hN`, `hf`, `hnum` are not used from here on (`fftfreqAbs_eq_abs` needs no sign, `sectionCorners_real` no positivity); the
-- checks list these statements (`vk/props/C18.py: THEOREMS`)
section
set_option linter.unusedVariables false

theorem fftfreqAbs_symm (N : ℕ) (fs : ℝ) (hfs : 0 < fs) (k : ℕ) (hk0 : 0 < k) (hk : k < N) :
    Model.fftfreqAbs N fs (N - k) = Model.fftfreqAbs N fs k := by
  rw [fftfreqAbs_eq_abs N fs k hk, fftfreqAbs_eq_abs N fs (N - k) (by omega), Nat.sub_sub_self hk.le, min_comm]

/-- band mask is symmetric under k ↦ N−k, so band-limited spectra are Hermitian-compatible -/
theorem bandMask_symm (N : ℕ) (fs lo hi : ℝ) (hfs : 0 < fs) (k : ℕ) (hk0 : 0 < k) (hk : k < N) :
    Model.bandMask N fs lo hi (N - k) = Model.bandMask N fs lo hi k := by
  simp only [Model.bandMask, fftfreqAbs_symm N fs hfs k hk0 hk]

theorem fftfreqAbs_eq (N : ℕ) (hN : 0 < N) (fs : ℝ) (hfs : 0 < fs) (k : ℕ) (hk : k < N) :
    Model.fftfreqAbs N fs k = (min k (N - k) : ℕ) * fs / N := by
  rw [fftfreqAbs_eq_abs N fs k hk, abs_of_pos hfs]

/-- the mask selects exactly the bins whose |frequency| = min(k, N−k)·fs/N lies in the band -/
theorem bandMask_iff (N : ℕ) (hN : 0 < N) (fs lo hi : ℝ) (hfs : 0 < fs) (k : ℕ) (hk : k < N) :
    Model.bandMask N fs lo hi k = true ↔
      lo ≤ (min k (N - k) : ℕ) * fs / N ∧ (min k (N - k) : ℕ) * fs / N ≤ hi := by
  simp only [Model.bandMask, fftfreqAbs_eq N hN fs hfs k hk, RL.ge_eq, RL.le_eq, Bool.and_eq_true,
    decide_eq_true_eq]

theorem sectionCorners_real (fmin fmax alpha : ℝ) (num i : ℕ) :
    let dp := (Real.logb 10 (2 * Real.pi * fmax) - Real.logb 10 (2 * Real.pi * fmin)) / num
    let lp := Real.logb 10 (2 * Real.pi * fmin) + dp * (1 / 2) * ((2 * (i : ℝ) + 1) - alpha / 2)
    Model.sectionCorners fmin fmax alpha num i = ((10 : ℝ) ^ lp / (2 * Real.pi), (10 : ℝ) ^ (lp + dp * alpha / 2) / (2 * Real.pi)) := by
  simp only [Model.sectionCorners, RL.two_eq, RL.one_eq, RL.pi_eq, RL.log10_eq, RL.ofNat_eq, RL.lit_half, RL.pow_eq, Nat.cast_ofNat]

/-- corner frequencies of the 1/f^alpha cascade are log-equispaced with ratio 10^(dp·alpha/2)
    inside each section -/
theorem sectionCorners_ratio (fmin fmax alpha : ℝ) (num i : ℕ) (hf : 0 < fmin) (hnum : 0 < num) :
    let c := Model.sectionCorners fmin fmax alpha num i
    let dp := (Real.logb 10 (2 * Real.pi * fmax) - Real.logb 10 (2 * Real.pi * fmin)) / num
    c.2 = c.1 * (10 : ℝ) ^ (dp * alpha / 2) := by
  intro c dp
  simp only [c, sectionCorners_real]
  rw [Real.rpow_add (by norm_num : (0 : ℝ) < 10)]
  ring

theorem sectionCorners_step (fmin fmax alpha : ℝ) (num i : ℕ) (hf : 0 < fmin) (hnum : 0 < num) :
    let dp := (Real.logb 10 (2 * Real.pi * fmax) - Real.logb 10 (2 * Real.pi * fmin)) / num
    (Model.sectionCorners fmin fmax alpha num (i + 1)).1
      = (Model.sectionCorners fmin fmax alpha num i).1 * (10 : ℝ) ^ dp := by
  intro dp
  simp only [sectionCorners_real]
  rw [div_mul_eq_mul_div (c := (10 : ℝ) ^ dp), ← Real.rpow_add (by norm_num : (0 : ℝ) < 10)]
  congr 2
  push_cast
  ring

end

#print axioms fftnoise_hermitian
#print axioms fftnoise_dc_real
#print axioms fftnoise_nyquist_real
#print axioms fftnoise_magnitude_pos
#print axioms fftnoise_magnitude_neg
#print axioms fftnoise_dc_magnitude
#print axioms fftnoise_nyquist_magnitude
#print axioms fftnoise_zero_bins
#print axioms hermitian_idft_real
#print axioms fftnoise_series_real
#print axioms bandMask_symm
#print axioms fftfreqAbs_symm
#print axioms fftfreqAbs_eq
#print axioms bandMask_iff
#print axioms sectionCorners_ratio
#print axioms sectionCorners_step
