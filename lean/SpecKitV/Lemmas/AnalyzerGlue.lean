/-
  SpecKitV.Lemmas.AnalyzerGlue — the glue code of the analyzer object (`Model/Analyzer.lean`):
  cached per-bin loop = plain map (C05), band restriction, call-history independence as long as no call failed (C14b),
  lazy attribute cache (C14c), layout / sanitising / buffer aliasing (C13),
  single-bin segmentation and the Kaiser window (at ℝ).
-/
import SpecKitV.RealInst
import SpecKitV.Model.Analyzer
import SpecKitV.Lemmas.Starts

namespace Model

theorem lookup_nil_ok {κ ν : Type} [DecidableEq κ] (P : κ → ν → Prop) : ∀ k v, lookup k ([] : List (κ × ν)) = some v → P k v :=
  fun _ _ h => by cases h

theorem lookup_cons_ok {κ ν : Type} [DecidableEq κ] (f : κ → ν) (l : List (κ × ν))
    (h : ∀ k v, lookup k l = some v → v = f k) (k0 : κ) :
    ∀ k v, lookup k ((k0, f k0) :: l) = some v → v = f k := by
  intro k v hk
  simp only [lookup] at hk
  split_ifs at hk with hkk
  · subst hkk
    simp only [Option.some.injEq] at hk
    exact hk.symm
  · exact h _ _ hk

theorem coreStep_spec {W Qt Out B : Type} (mkWin : ℕ → W) (mkQ : ℕ → ℤ → Qt) (order : ℤ) (lenOf : B → ℕ)
    (kern : B → W → Option Qt → Out) (c : Caches W Qt) (hc : CachesOk mkWin mkQ c) (b : B) :
    (coreStep mkWin mkQ order lenOf kern c b).1
        = kern b (mkWin (lenOf b)) (if order = 1 ∨ order = 2 then some (mkQ (lenOf b) order) else none) ∧
    CachesOk mkWin mkQ (coreStep mkWin mkQ order lenOf kern c b).2 := by
  obtain ⟨hw, hq⟩ := hc
  have hw' := lookup_cons_ok mkWin c.win hw (lenOf b)
  have hq' := lookup_cons_ok (fun k : ℕ × ℤ => mkQ k.1 k.2) c.q hq (lenOf b, order)
  unfold coreStep
  dsimp only
  by_cases ho : order = 1 ∨ order = 2
  · simp only [if_pos ho]
    cases hl : lookup (lenOf b) c.win with
    | some w =>
      obtain rfl := hw _ _ hl
      dsimp only
      cases hl2 : lookup (lenOf b, order) c.q with
      | some q =>
        obtain rfl := hq _ _ hl2
        exact ⟨rfl, hw, hq⟩
      | none => exact ⟨rfl, hw, hq'⟩
    | none =>
      dsimp only
      cases hl2 : lookup (lenOf b, order) c.q with
      | some q =>
        obtain rfl := hq _ _ hl2
        exact ⟨rfl, hw', hq⟩
      | none => exact ⟨rfl, hw', hq'⟩
  · simp only [if_neg ho]
    cases hl : lookup (lenOf b) c.win with
    | some w =>
      obtain rfl := hw _ _ hl
      exact ⟨rfl, hw, hq⟩
    | none => exact ⟨rfl, hw', hq⟩

theorem coreLoop_eq_map {W Qt Out B : Type} (mkWin : ℕ → W) (mkQ : ℕ → ℤ → Qt) (order : ℤ) (lenOf : B → ℕ)
    (kern : B → W → Option Qt → Out) (c : Caches W Qt) (hc : CachesOk mkWin mkQ c) (bins : List B) :
    coreLoop mkWin mkQ order lenOf kern c bins
      = bins.map (fun b => kern b (mkWin (lenOf b)) (if order = 1 ∨ order = 2 then some (mkQ (lenOf b) order) else none)) := by
  induction bins generalizing c with
  | nil => rfl
  | cons b bs ih =>
    obtain ⟨h1, h2⟩ := coreStep_spec mkWin mkQ order lenOf kern c hc b
    simp only [coreLoop, List.map_cons]
    rw [h1, ih _ h2]

theorem cachesOk_empty {W Qt : Type} (mkWin : ℕ → W) (mkQ : ℕ → ℤ → Qt) : CachesOk mkWin mkQ ⟨[], []⟩ :=
  ⟨lookup_nil_ok _, lookup_nil_ok _⟩

theorem band_commutes {α : Type} [RealLike α] {W Qt Out B : Type} (mkWin : ℕ → W) (mkQ : ℕ → ℤ → Qt) (order : ℤ) (lenOf : B → ℕ)
    (kern : B → W → Option Qt → Out) (fOf : B → α) (lo hi : α) (bins : List B) :
    coreLoop mkWin mkQ order lenOf kern ⟨[], []⟩ (bandFilter fOf lo hi bins)
      = ((bins.filter (fun b => RealLike.ge (fOf b) lo && RealLike.le (fOf b) hi)).map
          (fun b => kern b (mkWin (lenOf b)) (if order = 1 ∨ order = 2 then some (mkQ (lenOf b) order) else none))) := by
  rw [coreLoop_eq_map mkWin mkQ order lenOf kern _ (cachesOk_empty mkWin mkQ)]
  rfl

theorem filter_map_eq_zip {B Out : Type} (g : B → Out) (p : B → Bool) (bs : List B) :
    (bs.filter p).map g = ((bs.zip (bs.map g)).filter (fun bo => p bo.1)).map Prod.snd := by
  induction bs with
  | nil => rfl
  | cons b bs ih =>
    simp only [List.filter_cons, List.map_cons, List.zip_cons_cons]
    cases hp : p b with
    | true => simp only [if_true, List.map_cons, ih]
    | false => simpa using ih

/-- `band_commutes` in the form "compute everything, then mask": the outputs on the filtered plan are
    the outputs of the full plan at the positions kept by the mask -/
theorem band_commutes_zip {α : Type} [RealLike α] {W Qt Out B : Type} (mkWin : ℕ → W) (mkQ : ℕ → ℤ → Qt) (order : ℤ) (lenOf : B → ℕ)
    (kern : B → W → Option Qt → Out) (fOf : B → α) (lo hi : α) (bins : List B) :
    coreLoop mkWin mkQ order lenOf kern ⟨[], []⟩ (bandFilter fOf lo hi bins)
      = ((bins.zip (coreLoop mkWin mkQ order lenOf kern ⟨[], []⟩ bins)).filter
          (fun bo => RealLike.ge (fOf bo.1) lo && RealLike.le (fOf bo.1) hi)).map Prod.snd := by
  rw [band_commutes, coreLoop_eq_map mkWin mkQ order lenOf kern _ (cachesOk_empty mkWin mkQ)]
  exact filter_map_eq_zip _ (fun b => RealLike.ge (fOf b) lo && RealLike.le (fOf b) hi) bins

theorem bandFilter_sublist {α : Type} [RealLike α] {B : Type} (fOf : B → α) (lo hi : α) (bins : List B) :
    (bandFilter fOf lo hi bins).Sublist bins := by
  unfold bandFilter
  exact List.filter_sublist

/-- the state invariant: the cache, if filled, holds the plan a fresh analyzer would build -/
def AInv {P : Type} (force : Bool) (search : ℕ → Option ℕ) (build : ℕ → Option P) (j0 : ℕ) (s : AState P) : Prop :=
  (s.cache = none ∧ s.jdes = j0) ∨
  (∃ p, s.cache = some p ∧ (planStep force search build ⟨none, j0⟩).1 = some p)

theorem plan_cached_unchanged {P : Type} (force : Bool) (search : ℕ → Option ℕ) (build : ℕ → Option P) (s : AState P) (p : P)
    (h : s.cache = some p) : planStep force search build s = (some p, s) := by
  unfold planStep
  rw [h]

/-- `plan()` on an empty cache: what it returns is what it caches -/
theorem planStep_none {P : Type} (force : Bool) (search : ℕ → Option ℕ) (build : ℕ → Option P) (n : ℕ) :
    planStep force search build ⟨none, n⟩ =
      if force then (search n).elim (none, ⟨none, n⟩) fun J => (build J, ⟨build J, J⟩) else (build n, ⟨build n, n⟩) := by
  unfold planStep
  cases force with
  | false => cases build n <;> rfl
  | true =>
    cases search n with
    | none => rfl
    | some J => cases hb : build J <;> simp [hb]

/-- a successful `plan()` leaves the plan it returns in the cache -/
theorem planStep_cache {P : Type} {force : Bool} {search : ℕ → Option ℕ} {build : ℕ → Option P} {s : AState P} :
    ∀ {p}, (planStep force search build s).1 = some p → (planStep force search build s).2.cache = some p := by
  obtain ⟨c, j⟩ := s
  cases c with
  | some p' => exact id
  | none =>
    rw [planStep_none]
    cases force with
    | false => exact id
    | true =>
      cases search j with
      | none => exact nofun
      | some J => exact id

theorem planStep_fresh_ok {P : Type} (force : Bool) (search : ℕ → Option ℕ) (build : ℕ → Option P) (j0 : ℕ) (s : AState P)
    (hs : AInv force search build j0 s) (p : P) (h : (planStep force search build s).1 = some p) :
    (planStep force search build ⟨none, j0⟩).1 = some p ∧ AInv force search build j0 (planStep force search build s).2 := by
  rcases hs with ⟨hc, hj⟩ | ⟨p', hc, hp'⟩
  · obtain ⟨c, j⟩ := s
    simp only at hc hj
    subst hc hj
    exact ⟨h, Or.inr ⟨p, planStep_cache h, h⟩⟩
  · rw [plan_cached_unchanged force search build s p' hc] at h ⊢
    simp only [Option.some.injEq] at h
    subst h
    exact ⟨hp', Or.inr ⟨p', hc, hp'⟩⟩

theorem aStep_fresh_ok {P R S Q : Type} {force : Bool} {search : ℕ → Option ℕ} {build : ℕ → Option P}
    {comp : P → R} {single : Q → S} {j0 : ℕ} {s : AState P} (hs : AInv force search build j0 s) (op : AOp Q)
    (hne : (aStep force search build comp single s op).1 ≠ AOut.error) :
    (aStep force search build comp single s op).1 = (aStep force search build comp single ⟨none, j0⟩ op).1 ∧
    AInv force search build j0 (aStep force search build comp single s op).2 := by
  cases op with
  | single q => exact ⟨rfl, hs⟩
  | _ =>
    -- `plan` and `compute` differ only in what they wrap around the plan that `planStep` returns
    simp only [aStep] at hne ⊢
    rcases hps : planStep force search build s with ⟨o, s'⟩
    rw [hps] at hne
    cases o with
    | none => exact absurd rfl hne
    | some p =>
      obtain ⟨h1, h2⟩ := planStep_fresh_ok force search build j0 s hs p (by rw [hps])
      rw [hps] at h2
      rcases hpf : planStep force search build ⟨none, j0⟩ with ⟨o0, s0⟩
      rw [hpf] at h1
      simp only at h1
      subst h1
      exact ⟨rfl, h2⟩

theorem aRun_eq_map_of_inv {P R S Q : Type} {force : Bool} {search : ℕ → Option ℕ} {build : ℕ → Option P}
    {comp : P → R} {single : Q → S} {j0 : ℕ} {s : AState P} (hs : AInv force search build j0 s) (ops : List (AOp Q))
    (hok : ∀ o ∈ aRun force search build comp single s ops, o ≠ AOut.error) :
    aRun force search build comp single s ops
      = ops.map (fun op => (aStep force search build comp single ⟨none, j0⟩ op).1) := by
  induction ops generalizing s with
  | nil => rfl
  | cons op ops ih =>
    simp only [aRun, List.map_cons] at hok ⊢
    have hne : (aStep force search build comp single s op).1 ≠ AOut.error :=
      hok _ List.mem_cons_self
    obtain ⟨h1, h2⟩ := aStep_fresh_ok hs op hne
    rw [h1, ih h2 (fun o ho => hok o (List.mem_cons_of_mem _ ho))]

theorem history_independent_list {P R S Q : Type} (force : Bool) (search : ℕ → Option ℕ) (build : ℕ → Option P)
    (comp : P → R) (single : Q → S) (j0 : ℕ) (ops : List (AOp Q))
    (hok : ∀ o ∈ aRun force search build comp single ⟨none, j0⟩ ops, o ≠ AOut.error) :
    aRun force search build comp single ⟨none, j0⟩ ops
      = ops.map (fun op => (aStep force search build comp single ⟨none, j0⟩ op).1) :=
  aRun_eq_map_of_inv (Or.inl ⟨rfl, rfl⟩) ops hok

/-- every successful output in any history equals the output of the same operation on a fresh analyzer -/
theorem history_independent {P R S Q : Type} (force : Bool) (search : ℕ → Option ℕ) (build : ℕ → Option P)
    (comp : P → R) (single : Q → S) (j0 : ℕ) (ops : List (AOp Q)) (i : ℕ) (hi : i < ops.length)
    (hok : ∀ o ∈ aRun force search build comp single ⟨none, j0⟩ ops, o ≠ AOut.error) :
    (aRun force search build comp single ⟨none, j0⟩ ops)[i]? =
      some (aStep force search build comp single ⟨none, j0⟩ ops[i]).1 := by
  rw [history_independent_list force search build comp single j0 ops hok, List.getElem?_map,
    List.getElem?_eq_getElem hi]
  rfl

def LazyOk {V : Type} (eval : String → V) (cache : List (String × V)) : Prop :=
  ∀ n v, lookup n cache = some v → v = eval n

theorem LazyOk_touched {V : Type} (eval : String → V) (l : List String) (cache : List (String × V))
    (h : LazyOk eval cache) : LazyOk eval (l.map (fun n => (n, eval n)) ++ cache) := by
  induction l with
  | nil => simpa using h
  | cons m l ih =>
    simp only [List.map_cons, List.cons_append]
    exact lookup_cons_ok eval _ ih m

theorem lazyGet_sound {V : Type} (eval : String → V) (touched : String → List String) (cache : List (String × V))
    (h : LazyOk eval cache) (name : String) :
    (lazyGet eval touched cache name).1 = eval name ∧ LazyOk eval (lazyGet eval touched cache name).2 := by
  unfold lazyGet
  cases hl : lookup name cache with
  | some v => exact ⟨h _ _ hl, h⟩
  | none => exact ⟨rfl, lookup_cons_ok eval _ (LazyOk_touched eval _ _ h) name⟩

theorem lazyRun_sound {V : Type} (eval : String → V) (touched : String → List String) (cache : List (String × V))
    (h : LazyOk eval cache) (names : List String) : lazyRun eval touched cache names = names.map eval := by
  induction names generalizing cache with
  | nil => rfl
  | cons n ns ih =>
    obtain ⟨h1, h2⟩ := lazyGet_sound eval touched cache h n
    simp only [lazyRun, List.map_cons]
    rw [h1, ih _ h2]

theorem lazyRun_empty {V : Type} (eval : String → V) (touched : String → List String) (ms : List String) :
    lazyRun eval touched [] ms = ms.map eval :=
  lazyRun_sound eval touched [] (lookup_nil_ok _) ms

/-- in particular every permutation of an access sequence gives the same value for each name -/
theorem lazy_order_independent {V : Type} (eval : String → V) (touched : String → List String) (ns ms : List String)
    (hperm : ns.Perm ms) (n : String) (hn : n ∈ ns) :
    ∃ i j : ℕ, (lazyRun eval touched [] ns)[i]? = some (eval n) ∧ (lazyRun eval touched [] ms)[j]? = some (eval n) := by
  have hm : n ∈ ms := hperm.mem_iff.mp hn
  obtain ⟨i, hi⟩ := List.mem_iff_getElem?.mp hn
  obtain ⟨j, hj⟩ := List.mem_iff_getElem?.mp hm
  refine ⟨i, j, ?_, ?_⟩
  · rw [lazyRun_empty, List.getElem?_map, hi]; rfl
  · rw [lazyRun_empty, List.getElem?_map, hj]; rfl

theorem lazy_order_perm {V : Type} (eval : String → V) (touched : String → List String) (ns ms : List String)
    (hperm : ns.Perm ms) : (lazyRun eval touched [] ns).Perm (lazyRun eval touched [] ms) := by
  rw [lazyRun_empty, lazyRun_empty]
  exact hperm.map eval

theorem lazyGet_cached {V : Type} (eval : String → V) (touched : String → List String) (cache : List (String × V)) (n : String) (v : V)
    (h : lookup n cache = some v) : lazyGet eval touched cache n = (v, cache) := by
  unfold lazyGet
  rw [h]

theorem channelOf_transpose {α : Type} [RealLike α] (r c : ℕ) (h22 : ¬ (r = 2 ∧ c = 2)) (hshape : r = 2 ∨ c = 2)
    (a : ℕ → ℕ → α) (ch i : ℕ) :
    channelOf c r (fun i j => a j i) ch i = channelOf r c a ch i := by
  unfold channelOf
  by_cases hr : r = 2
  · have hc : c ≠ 2 := fun hc => h22 ⟨hr, hc⟩
    simp [hr, hc]
  · have hc : c = 2 := hshape.resolve_left hr
    simp [hr, hc]

theorem sanitise_idem {α : Type} [RealLike α] (bad : α → Bool) (hz : bad (RealLike.zero) = false) (x : α) :
    sanitise bad (sanitise bad x) = sanitise bad x := by
  unfold sanitise
  cases hb : bad x with
  | true => simp [hz]
  | false => simp [hb]

theorem sanitise_eq_zero_fill {α : Type} [RealLike α] (bad : α → Bool) (x : ℕ → α) (n : ℕ) :
    sanitise bad (x n) = (fun m => if bad (x m) then RealLike.zero else x m) n := rfl

theorem heapFold_written (ops : List HeapOp) (h : HeapOp.nanToNumInPlace ∉ ops) (s : HeapSt) :
    (ops.foldl heapStep s).written = s.written := by
  induction ops generalizing s with
  | nil => rfl
  | cons op ops ih =>
    simp only [List.foldl_cons]
    have h1 : HeapOp.nanToNumInPlace ≠ op := fun e => h (e ▸ List.mem_cons_self)
    have h2 : HeapOp.nanToNumInPlace ∉ ops := fun e => h (List.mem_cons_of_mem _ e)
    rw [ih h2]
    cases op with
    | asarray | ascontig64 =>
      simp only [heapStep]
      split_ifs <;> rfl
    | nanToNumInPlace => exact absurd rfl h1
    | _ => rfl

theorem ctor_copy_no_write (input : ArrDesc) (ops : List HeapOp) (h : HeapOp.nanToNumInPlace ∉ ops) :
    (heapRun ops input).written = [] := by
  unfold heapRun
  rw [heapFold_written ops h]

/-- the constructor with a copying sanitiser never writes a buffer it did not allocate: for EVERY input descriptor -/
theorem ctor_copy_no_foreign_write (input : ArrDesc) (twoD : Bool) :
    ∀ b ∈ (heapRun ((if twoD then [HeapOp.asarray, .transposeView, .ascontig64, .nanToNumCopy]
                      else [HeapOp.asarray, .ascontig64, .nanToNumCopy])) input).written, input.buf < b := by
  intro b hb
  rw [ctor_copy_no_write] at hb
  · simp at hb
  · cases twoD <;> simp

/-- ids grow with allocation: `b0 ≤ b` reads "`b` is not older than `b0`" -/
theorem heapStep_inv (b0 : ℕ) (s : HeapSt) (op : HeapOp) (hcur : b0 ≤ s.cur.buf ∧ s.cur.buf < s.next) (hw : ∀ b ∈ s.written, b0 ≤ b) :
    (b0 ≤ (heapStep s op).cur.buf ∧ (heapStep s op).cur.buf < (heapStep s op).next) ∧ s.next ≤ (heapStep s op).next ∧
      ∀ b ∈ (heapStep s op).written, b0 ≤ b := by
  have fresh : (b0 ≤ s.next ∧ s.next < s.next + 1) ∧ s.next ≤ s.next + 1 ∧ ∀ b ∈ s.written, b0 ≤ b :=
    ⟨⟨hcur.1.trans hcur.2.le, Nat.lt_succ_self _⟩, Nat.le_succ _, hw⟩
  cases op with
  | asarray | ascontig64 =>
    simp only [heapStep]
    split_ifs
    · exact ⟨hcur, le_rfl, hw⟩
    · exact fresh
  | transposeView => exact ⟨hcur, le_rfl, hw⟩
  | nanToNumInPlace =>
    refine ⟨hcur, le_rfl, fun b hb => ?_⟩
    rcases List.mem_cons.mp hb with rfl | hb
    · exact hcur.1
    · exact hw b hb
  | nanToNumCopy => exact fresh

theorem heapFold_inv (b0 : ℕ) (ops : List HeapOp) (s : HeapSt)
    (hcur : b0 ≤ s.cur.buf ∧ s.cur.buf < s.next) (hw : ∀ b ∈ s.written, b0 ≤ b) :
    s.next ≤ (ops.foldl heapStep s).next ∧ ∀ b ∈ (ops.foldl heapStep s).written, b0 ≤ b := by
  induction ops generalizing s with
  | nil => exact ⟨le_rfl, hw⟩
  | cons op ops ih =>
    obtain ⟨h1, h2, h3⟩ := heapStep_inv b0 s op hcur hw
    obtain ⟨h4, h5⟩ := ih (heapStep s op) h1 h3
    exact ⟨h2.trans h4, h5⟩

/-- a run that ends with the copying sanitiser stores a buffer allocated after the caller's -/
theorem heapRun_copy_last (pre : List HeapOp) (input : ArrDesc) :
    input.buf < (heapRun (pre ++ [.nanToNumCopy]) input).cur.buf := by
  unfold heapRun
  rw [List.foldl_append]
  exact (heapFold_inv input.buf pre ⟨input, input.buf + 1, []⟩ ⟨le_rfl, Nat.lt_succ_self _⟩ (fun _ hb => absurd hb List.not_mem_nil)).1

/-- for EVERY op sequence (in-place sanitiser included) and every input: a written buffer is the caller's
    or a fresh one (`input.buf ≤ b`); buffers below the caller's id are never touched -/
theorem heapRun_written_ge (ops : List HeapOp) (input : ArrDesc) :
    ∀ b ∈ (heapRun ops input).written, input.buf ≤ b := by
  exact (heapFold_inv input.buf ops _ ⟨le_rfl, Nat.lt_succ_self _⟩ (fun _ hb => absurd hb List.not_mem_nil)).2

/-- …whereas the in-place variant does write the caller's buffer for a C-contiguous float64 array (negative witness) -/
theorem ctor_inplace_writes_caller :
    (0 : ℕ) ∈ (heapRun [HeapOp.asarray, .ascontig64, .nanToNumInPlace] ⟨0, true, false, true, true⟩).written := by
  decide

/-- and a non-contiguous / non-float64 / list input is copied first, so even the in-place variant spares it -/
theorem ctor_inplace_spares_copied (input : ArrDesc) (h : ¬ (input.isArray = true ∧ input.contig = true ∧ input.f64 = true)) :
    input.buf ∉ (heapRun [HeapOp.asarray, .ascontig64, .nanToNumInPlace] input).written := by
  obtain ⟨buf, contig, fcontig, f64, isArray⟩ := input
  cases contig <;> cases f64 <;> cases isArray <;> simp [heapRun, heapStep] at h ⊢ <;> omega

end Model

namespace AnalyzerGlue

theorem RLneg (a : ℝ) : @Neg.neg ℝ instRealLikeReal.toNeg a = -a := rfl

/-- a decimal literal of the translated source is Lean's decimal literal -/
theorem ofSci_true (m e : ℕ) : (RealLike.ofSci m true e : ℝ) = (OfScientific.ofScientific m true e : ℝ) := by
  rw [RL.ofSci_eq, if_pos rfl]
  show _ = ((Rat.ofScientific m true e : ℚ) : ℝ)
  rw [Rat.ofScientific_true_def, Rat.mkRat_eq_div]
  push_cast
  rfl

/-- the grid points `i·(M/k)`, `0 ≤ i ≤ k`, round into `[0, M]` -/
theorem roundEven_grid_mem_Icc (M k : ℤ) (i : ℕ) (hM : 0 ≤ M) (hk : 0 < k) (hik : (i : ℤ) ≤ k) :
    0 ≤ RealLike.roundEven ((i : ℝ) * ((M : ℝ) / (k : ℝ))) ∧ RealLike.roundEven ((i : ℝ) * ((M : ℝ) / (k : ℝ))) ≤ M := by
  have hk' : (0 : ℝ) < k := Int.cast_pos.mpr hk
  have hs : (0 : ℝ) ≤ (M : ℝ) / k := div_nonneg (Int.cast_nonneg hM) hk'.le
  have hi' : (i : ℝ) ≤ k := by exact_mod_cast hik
  have a := roundEven_nearest.mono (mul_nonneg i.cast_nonneg hs)
  have b := roundEven_nearest.mono ((mul_le_mul_of_nonneg_right hi' hs).trans_eq (mul_div_cancel₀ _ hk'.ne'))
  rw [roundEven_zero] at a
  rw [roundEven_int] at b
  exact ⟨a, b⟩

/-- the shape of `singleBinStarts` at ℝ, with the segment count abstracted -/
theorem singleBinStarts_shape (N L : ℕ) (olap : ℝ) :
    ∃ K : ℤ, Model.singleBinStarts (α := ℝ) N L olap =
      if N = L then [0]
      else if K ≤ 1 then [0]
      else (List.range K.toNat).map
        (fun i : ℕ => RealLike.roundEven ((i : ℝ) * ((((N : ℤ) - (L : ℤ) : ℤ) : ℝ) / ((K - 1 : ℤ) : ℝ)))) :=
  ⟨_, rfl⟩

end AnalyzerGlue

open AnalyzerGlue

theorem singleBinStarts_whole (N : ℕ) (olap : ℝ) : Model.singleBinStarts (α := ℝ) N N olap = [0] := by
  unfold Model.singleBinStarts
  rw [if_pos rfl]

-- `hL1 ho0 ho1` are not needed; the checks list this statement (`vk/props/C05.py`)
set_option linter.unusedVariables false in
theorem singleBinStarts_in_range (N L : ℕ) (olap : ℝ) (hL1 : 1 ≤ L) (hL : L ≤ N) (ho0 : 0 ≤ olap) (ho1 : olap < 1) :
    ∀ d ∈ Model.singleBinStarts (α := ℝ) N L olap, 0 ≤ d ∧ d + L ≤ N := by
  have hLN : (L : ℤ) ≤ N := Int.ofNat_le.mpr hL
  have h0 : ∀ d ∈ [(0 : ℤ)], 0 ≤ d ∧ d + L ≤ N :=
    List.forall_mem_singleton.mpr ⟨Int.le_refl 0, (Int.zero_add _).symm ▸ hLN⟩
  obtain ⟨K, hK⟩ := singleBinStarts_shape N L olap
  rw [hK]
  split_ifs with h1 h2
  · exact h0
  · exact h0
  · refine List.forall_mem_map.mpr fun i hi => ?_
    obtain ⟨r0, r1⟩ := roundEven_grid_mem_Icc _ (K - 1) i (Int.sub_nonneg_of_le hLN) (Int.sub_pos_of_lt (Int.not_le.mp h2))
      (Int.le_sub_one_of_lt (Int.lt_toNat.mp (List.mem_range.mp hi)))
    exact ⟨r0, Int.add_le_of_le_sub_right r1⟩

theorem singleBinStarts_head (N L : ℕ) (olap : ℝ) : (Model.singleBinStarts (α := ℝ) N L olap).head? = some 0 := by
  obtain ⟨K, hK⟩ := singleBinStarts_shape N L olap
  rw [hK]
  split_ifs with h1 h2
  · rfl
  · rfl
  · obtain ⟨m, hm⟩ : ∃ m, K.toNat = m + 1 := ⟨K.toNat - 1, by omega⟩
    rw [hm, List.range_succ_eq_map]
    simp only [List.map_cons, List.head?_cons, Nat.cast_zero, zero_mul, roundEven_zero]

theorem besselI0_ge_one (terms : ℕ) (x : ℝ) : 1 ≤ Model.besselI0 (α := ℝ) terms x := by
  unfold Model.besselI0
  refine (forRange_inv (fun _ (s : ℝ × ℝ) => 1 ≤ s.1 ∧ 0 ≤ s.2) terms _ _ ⟨RL.one_eq.ge, RL.one_eq ▸ zero_le_one⟩ ?_).1
  rintro i ⟨a, t⟩ _ ⟨h1, h2⟩
  have ht : 0 ≤ t * (x / RealLike.two / RealLike.ofNat (i + 1)) * (x / RealLike.two / RealLike.ofNat (i + 1)) :=
    (mul_assoc t _ _).symm ▸ mul_nonneg h2 (mul_self_nonneg _)
  exact ⟨le_add_of_le_of_nonneg h1 ht, ht⟩

theorem besselI0_pos (terms : ℕ) (x : ℝ) : 0 < Model.besselI0 (α := ℝ) terms x :=
  lt_of_lt_of_le one_pos (besselI0_ge_one terms x)

/-- the window at ℝ: `I0(β·√(1 − u²)) / I0(β)` with `u = (n − L/2)/(L/2)`, `I0` the model's 80-term partial sum -/
theorem kaiserWin_eq (L : ℕ) (beta : ℝ) (n : ℕ) :
    Model.kaiserWin L beta n =
      Model.besselI0 80 (beta * √(1 - (((n : ℝ) - L / 2) / (L / 2)) ^ 2)) / Model.besselI0 80 beta := by
  unfold Model.kaiserWin
  simp only [RL.ofNat_eq, RL.two_eq, RL.one_eq, RL.sqrt_eq, RLsub, RLmul, RLdiv, sq]

-- `hn0` is not needed (listed likewise)
set_option linter.unusedVariables false in
theorem kaiserWin_dft_even (L : ℕ) (beta : ℝ) (n : ℕ) (hn0 : 0 < n) (hn : n < L) :
    Model.kaiserWin (α := ℝ) L beta n = Model.kaiserWin (α := ℝ) L beta (L - n) := by
  have h : (((L - n : ℕ) : ℝ) - L / 2) / (L / 2) = -(((n : ℝ) - L / 2) / (L / 2)) := by
    rw [Nat.cast_sub hn.le]
    ring
  rw [kaiserWin_eq, kaiserWin_eq, h, neg_sq]

theorem kaiserWin_nonneg (L : ℕ) (beta : ℝ) (n : ℕ) : 0 ≤ Model.kaiserWin (α := ℝ) L beta n := by
  rw [kaiserWin_eq]
  exact div_nonneg (besselI0_pos _ _).le (besselI0_pos _ _).le

theorem kaiserWin_center (L : ℕ) (hL : 0 < L) (hev : L % 2 = 0) (beta : ℝ) : Model.kaiserWin (α := ℝ) L beta (L / 2) = 1 := by
  obtain ⟨k, rfl⟩ : ∃ k, L = 2 * k := ⟨L / 2, by omega⟩
  have h0 : ((2 * k / 2 : ℕ) : ℝ) - (2 * k : ℕ) / 2 = 0 := by
    rw [Nat.mul_div_cancel_left k two_pos, Nat.cast_mul, Nat.cast_two, mul_div_cancel_left₀ _ two_ne_zero, sub_self]
  rw [kaiserWin_eq, h0, zero_div, sq, mul_zero, sub_zero, Real.sqrt_one, mul_one]
  exact div_self (besselI0_pos _ _).ne'

theorem kaiserAlpha_cubic (p : ℝ) :
    Model.kaiserAlpha p = ((0.0889732 * (p / 100) + (-0.493285)) * (p / 100) + 4.71469) * (p / 100) + (-0.0821377) := by
  unfold Model.kaiserAlpha
  simp only [ofSci_true, RL.ofNat_eq, RLadd, RLmul, RLdiv, RLneg, Nat.cast_ofNat]

#print axioms Model.coreStep_spec
#print axioms Model.coreLoop_eq_map
#print axioms Model.cachesOk_empty
#print axioms Model.band_commutes
#print axioms Model.band_commutes_zip
#print axioms Model.bandFilter_sublist
#print axioms Model.planStep_fresh_ok
#print axioms Model.history_independent
#print axioms Model.history_independent_list
#print axioms Model.plan_cached_unchanged
#print axioms Model.lazyGet_sound
#print axioms Model.lazyRun_sound
#print axioms Model.lazyRun_empty
#print axioms Model.lazy_order_independent
#print axioms Model.lazy_order_perm
#print axioms Model.lazyGet_cached
#print axioms Model.channelOf_transpose
#print axioms Model.sanitise_idem
#print axioms Model.sanitise_eq_zero_fill
#print axioms Model.ctor_copy_no_foreign_write
#print axioms Model.ctor_copy_no_write
#print axioms Model.heapFold_inv
#print axioms Model.heapRun_written_ge
#print axioms Model.ctor_inplace_writes_caller
#print axioms Model.ctor_inplace_spares_copied
#print axioms singleBinStarts_whole
#print axioms singleBinStarts_in_range
#print axioms singleBinStarts_head
#print axioms kaiserWin_dft_even
#print axioms besselI0_pos
#print axioms kaiserWin_nonneg
#print axioms kaiserWin_center
#print axioms kaiserAlpha_cubic
