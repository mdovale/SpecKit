/-
  SpecKitV.Lemmas.Starts — rounding, segment counts and segment start positions of the
  schedulers (`Model.startsEven`, `Model.startsAccum`).
  The schedulers round in three ways (`round_half_up`, `np.round`, `int(x + 0.5)`); what the
  theorems use of any of them is `Nearest`: the result is within 1/2 of the argument.
-/
import SpecKitV.RealInst
import SpecKitV.Model.Sched

open RealLike

def Nearest (rd : ℝ → ℤ) : Prop := ∀ x, |((rd x : ℤ) : ℝ) - x| ≤ 1 / 2

namespace Nearest
variable {rd : ℝ → ℤ} (h : Nearest rd)
include h

theorem le_add (x : ℝ) : ((rd x : ℤ) : ℝ) ≤ x + 1 / 2 :=
  sub_le_iff_le_add'.mp (abs_sub_le_iff.mp (h x)).1

theorem sub_le (x : ℝ) : x - 1 / 2 ≤ ((rd x : ℤ) : ℝ) := sub_le_comm.mp (abs_sub_le_iff.mp (h x)).2

theorem lt_of_add_one_lt {a b : ℝ} (hab : a + 1 < b) : rd a < rd b := by
  have : ((rd a : ℤ) : ℝ) < ((rd b : ℤ) : ℝ) := by linarith [h.le_add a, h.sub_le b]
  exact_mod_cast this

theorem mono : Monotone rd := by
  intro a b hab
  rcases hab.eq_or_lt with rfl | hlt
  · exact le_rfl
  · have : ((rd a : ℤ) : ℝ) < ((rd b + 1 : ℤ) : ℝ) := by
      push_cast; linarith [h.le_add a, h.sub_le b]
    exact Int.lt_add_one_iff.mp (Int.cast_lt.mp this)

theorem int (z : ℤ) : rd (z : ℝ) = z := by
  have : |rd (z : ℝ) - z| < 1 := by exact_mod_cast (h z).trans_lt one_half_lt_one
  exact sub_eq_zero.mp (Int.abs_lt_one_iff.mp this)

theorem nat (n : ℕ) : rd (n : ℝ) = n := by exact_mod_cast h.int n

theorem zero : rd 0 = 0 := by exact_mod_cast h.int 0

/-- on a grid of spacing `s ≥ 1` the rounded points are distinct: for `s > 1` by the gap, for
    `s = 1` because the grid points are integers -/
theorem strictMono_mul {s : ℝ} (hs : 1 ≤ s) : StrictMono fun i : ℕ => rd ((i : ℝ) * s) := by
  refine strictMono_nat_of_lt_succ fun n => ?_
  rcases hs.eq_or_lt with rfl | hlt
  · rw [mul_one, mul_one, h.nat, h.nat]
    exact_mod_cast n.lt_succ_self
  · apply h.lt_of_add_one_lt
    push_cast
    linarith

end Nearest

theorem roundEven_cases (x : ℝ) :
    (x - ⌊x⌋ ≤ 1 / 2 ∧ RealLike.roundEven x = ⌊x⌋) ∨
    (1 / 2 ≤ x - ⌊x⌋ ∧ RealLike.roundEven x = ⌊x⌋ + 1) := by
  rw [RL.roundEven_eq]
  dsimp only
  split_ifs with h1 h2 h3
  · exact Or.inl ⟨h1.le, rfl⟩
  · exact Or.inr ⟨h2.le, rfl⟩
  · exact Or.inl ⟨not_lt.mp h2, rfl⟩
  · exact Or.inr ⟨not_lt.mp h1, rfl⟩

theorem roundEven_abs_sub_le (x : ℝ) : |((RealLike.roundEven x : ℤ) : ℝ) - x| ≤ 1 / 2 := by
  rcases roundEven_cases x with ⟨h, e⟩ | ⟨h, e⟩
  · rw [e, abs_sub_comm, abs_of_nonneg (sub_nonneg.mpr (Int.floor_le x))]
    exact h
  · rw [e, Int.cast_add, Int.cast_one, abs_of_nonneg (sub_nonneg.mpr (Int.lt_floor_add_one x).le)]
    linarith

theorem roundEven_nearest : Nearest RealLike.roundEven := roundEven_abs_sub_le

theorem roundEven_int (z : ℤ) : RealLike.roundEven (z : ℝ) = z := roundEven_nearest.int z

theorem roundEven_zero : RealLike.roundEven (0 : ℝ) = 0 := roundEven_nearest.zero

theorem roundHalfUp_eq (v : ℝ) : Model.roundHalfUp v = ⌊v + 1 / 2⌋ := by
  -- `round_half_up` is Mathlib's `round` with the test on the fractional part turned round, and
  -- below one half `roundEven` is the floor
  rw [← round_eq, round, Int.fract]
  unfold Model.roundHalfUp
  simp only [RL.ge_eq, RL.floor_eq, RL.ceil_eq, RL.ofInt_eq, RL.lit_half, RLsub, decide_eq_true_eq]
  by_cases h : 1 / 2 ≤ v - ⌊v⌋
  · rw [if_pos h, if_neg (by linarith)]
  · rw [if_neg h, if_pos (by linarith), RL.roundEven_eq]
    exact if_pos (not_le.mp h)

theorem roundHalfUp_nearest : Nearest (Model.roundHalfUp (α := ℝ)) := fun x => by
  rw [roundHalfUp_eq, ← round_eq, abs_sub_comm]
  exact abs_sub_round x

theorem capK_eq (N L : ℕ) (k : ℤ) : Model.capK N L k = min k ((N : ℤ) - L + 1) := by
  unfold Model.capK
  dsimp only
  split_ifs <;> omega

theorem capK_le (N L : ℕ) (k : ℤ) : Model.capK N L k ≤ (N : ℤ) - L + 1 := by
  rw [capK_eq]
  exact min_le_right _ _

theorem capK_ge_one (N L : ℕ) (hL : L ≤ N) (k : ℤ) (hk : 1 ≤ k) : 1 ≤ Model.capK N L k := by
  rw [capK_eq]
  omega

theorem capK_anti {N L1 L2 : ℕ} {k1 k2 : ℤ} (hL : L1 ≤ L2) (hk : k2 ≤ k1) :
    Model.capK N L2 k2 ≤ Model.capK N L1 k1 := by
  rw [capK_eq, capK_eq]
  exact min_le_min hk (by omega)

namespace Sched

theorem ratio_anti {N : ℕ} {xov : ℝ} (hx : 0 < xov) {L1 L2 : ℕ} (h1 : 1 ≤ L1) (h12 : L1 ≤ L2) :
    (((N : ℤ) - (L2 : ℤ) : ℤ) : ℝ) / (xov * (L2 : ℝ))
      ≤ (((N : ℤ) - (L1 : ℤ) : ℤ) : ℝ) / (xov * (L1 : ℝ)) := by
  have hL1 : (0 : ℝ) < (L1 : ℝ) := by exact_mod_cast h1
  have hL12 : (L1 : ℝ) ≤ (L2 : ℝ) := by exact_mod_cast h12
  -- `(N − L)/(xov·L) = (N/L − 1)/xov`, and `N/L` falls as `L` grows
  have key : ∀ L : ℝ, 0 < L → ((N : ℝ) - L) / (xov * L) = ((N : ℝ) / L - 1) / xov := fun L hL => by
    rw [mul_comm, ← div_div, sub_div, div_self hL.ne']
  push_cast
  rw [key _ (hL1.trans_le hL12), key _ hL1]
  exact div_le_div_of_nonneg_right
    (sub_le_sub_right (div_le_div_of_nonneg_left (Nat.cast_nonneg N) hL1 hL12) 1) hx.le

/-- the segment count for length `L` before the cap, `rd(1 + (N−L)/(xov·L))`
    (schedulers.py:200, :335, :447), for the rounding `rd` the scheduler uses: `round_half_up` in
    `ltf_plan`, `np.round` / `round` in the other two -/
noncomputable def cnt (rd : ℝ → ℤ) (N : ℕ) (xov : ℝ) (L : ℕ) : ℤ :=
  rd ((((N : ℤ) - (L : ℤ) : ℤ) : ℝ) / (xov * (L : ℝ)) + 1)

theorem cnt_fold (rd : ℝ → ℤ) (N : ℕ) (xov : ℝ) (L : ℕ) :
    rd (RealLike.ofInt ((N : ℤ) - (L : ℤ)) / (xov * RealLike.ofNat L) + RealLike.one)
      = cnt rd N xov L := by
  unfold cnt
  rw [RL.one_eq]
  rfl

theorem nsegRaw_eq_cnt (N : ℕ) (xov : ℝ) (L : ℕ) :
    Model.nsegRaw N xov L = cnt Model.roundHalfUp N xov L :=
  cnt_fold Model.roundHalfUp N xov L

variable {rd : ℝ → ℤ} (h : Nearest rd)
include h

theorem cnt_self (N : ℕ) (xov : ℝ) : cnt rd N xov N = 1 := by
  unfold cnt
  rw [sub_self, Int.cast_zero, zero_div, zero_add]
  exact_mod_cast h.int 1

theorem cnt_anti {N : ℕ} {xov : ℝ} (hx : 0 < xov) {L1 L2 : ℕ} (h1 : 1 ≤ L1) (h12 : L1 ≤ L2) :
    cnt rd N xov L2 ≤ cnt rd N xov L1 :=
  h.mono ((add_le_add_iff_right 1).mpr (ratio_anti hx h1 h12))

theorem cnt_ge_one {N : ℕ} {xov : ℝ} (hx : 0 < xov) {L : ℕ} (h1 : 1 ≤ L) (hL : L ≤ N) :
    1 ≤ cnt rd N xov L := by
  have := cnt_anti h (N := N) hx h1 hL
  rwa [cnt_self h] at this

end Sched

theorem nsegRaw_eq (N L : ℕ) (xov : ℝ) :
    Model.nsegRaw N xov L = ⌊((N : ℝ) - L) / (xov * L) + 1 + 1 / 2⌋ := by
  rw [Sched.nsegRaw_eq_cnt, Sched.cnt, roundHalfUp_eq]
  push_cast
  rfl

theorem nsegRaw_ge_one (N L : ℕ) (xov : ℝ) (hx : 0 < xov) (hL1 : 1 ≤ L) (hL : L ≤ N) :
    1 ≤ Model.nsegRaw N xov L := by
  rw [Sched.nsegRaw_eq_cnt]
  exact Sched.cnt_ge_one roundHalfUp_nearest hx hL1 hL

/-- under the cap the starts are at least one sample apart -/
theorem startShift_ge_one {N L : ℕ} {K : ℤ} (hK2 : 2 ≤ K) (hKcap : K ≤ (N : ℤ) - L + 1) :
    1 ≤ ((N : ℝ) - L) / ((K : ℝ) - 1) := by
  have h2 := (Int.cast_le (R := ℝ)).mpr hK2
  have hc := (Int.cast_le (R := ℝ)).mpr hKcap
  push_cast at h2 hc
  rw [le_div_iff₀ (by linarith)]
  linarith

/-- a count `K ≥ 2` is `m + 2`: so many starts, `m + 1` gaps between them -/
theorem exists_toNat_eq_add_two {K : ℤ} (hK2 : 2 ≤ K) :
    ∃ m : ℕ, K.toNat = m + 2 ∧ (K : ℝ) - 1 = (m : ℝ) + 1 := by
  obtain ⟨m, rfl⟩ : ∃ m : ℕ, K = (m : ℤ) + 2 := ⟨(K - 2).toNat, by omega⟩
  exact ⟨m, by omega, by push_cast; ring⟩

theorem starts_safe_gen {rd : ℝ → ℤ} (h : Nearest rd)
    {N L : ℕ} {K : ℤ} (hK2 : 2 ≤ K) (hKcap : K ≤ (N : ℤ) - L + 1)
    {D : List ℤ}
    (hD : D = (List.range K.toNat).map
      (fun i : ℕ => rd ((i : ℝ) * (((N : ℝ) - L) / ((K : ℝ) - 1))))) :
    D.length = K.toNat ∧ D.head? = some 0 ∧ D.getLast? = some ((N : ℤ) - L) ∧
    D.Pairwise (· < ·) ∧ (∀ d ∈ D, 0 ≤ d ∧ d + L ≤ N) ∧
    (∀ i (hi : i < D.length),
      |((D.get ⟨i, hi⟩ : ℤ) : ℝ) - i * (((N : ℝ) - L) / ((K : ℝ) - 1))| ≤ 1 / 2) := by
  subst hD
  have hs1 := startShift_ge_one hK2 hKcap
  obtain ⟨m, htn, hden⟩ := exists_toNat_eq_add_two hK2
  rw [hden] at hs1
  rw [htn, hden]
  have hm : (m : ℝ) + 1 ≠ 0 := by positivity
  -- the spacing `s` is at least 1; `m + 1` steps reach `N - L` exactly
  generalize hs : ((N : ℝ) - L) / ((m : ℝ) + 1) = s at hs1
  have hend : ((m + 1 : ℕ) : ℝ) * s = (((N : ℤ) - L : ℤ) : ℝ) := by
    rw [← hs, Nat.cast_succ, mul_div_cancel₀ _ hm, Int.cast_sub, Int.cast_natCast, Int.cast_natCast]
  have hsm := h.strictMono_mul hs1
  have h0 : rd (((0 : ℕ) : ℝ) * s) = 0 := by rw [Nat.cast_zero, zero_mul, h.zero]
  have hlast : rd (((m + 1 : ℕ) : ℝ) * s) = (N : ℤ) - L := by rw [hend, h.int]
  refine ⟨by rw [List.length_map, List.length_range], ?_, ?_,
    (List.pairwise_lt_range).map _ fun _ _ hij => hsm hij, ?_, ?_⟩
  · rw [List.range_succ_eq_map, List.map_cons, List.head?_cons, h0]
  · rw [List.range_succ, List.map_append, List.map_singleton, List.getLast?_concat, hlast]
  · intro d hd
    obtain ⟨i, hi, rfl⟩ := List.mem_map.mp hd
    have hi' : i ≤ m + 1 := Nat.lt_succ_iff.mp (List.mem_range.mp hi)
    have hlo := hsm.monotone i.zero_le
    have hhi := hsm.monotone hi'
    rw [h0] at hlo
    rw [hlast] at hhi
    exact ⟨hlo, by omega⟩
  · intro i hi
    simp only [List.get_eq_getElem, List.getElem_map, List.getElem_range]
    exact h _

theorem startShift_cast (N L : ℕ) (K : ℤ) :
    (RealLike.ofInt ((N : ℤ) - (L : ℤ)) / RealLike.ofInt (K - 1) : ℝ)
      = ((N : ℝ) - L) / ((K : ℝ) - 1) := by
  simp only [RL.ofInt_eq]
  push_cast
  rfl

theorem shiftOf_eq (N L : ℕ) (K : ℤ) (hK2 : 2 ≤ K) :
    Model.shiftOf (α := ℝ) N L K = ((N : ℝ) - L) / ((K : ℝ) - 1) := by
  unfold Model.shiftOf
  rw [if_pos (by omega : K > 1)]
  exact startShift_cast N L K

theorem startsEven_eq (N L : ℕ) (K : ℤ) (hK2 : 2 ≤ K) :
    Model.startsEven (α := ℝ) N L K = (List.range K.toNat).map
      (fun i : ℕ => RealLike.roundEven ((i : ℝ) * (((N : ℝ) - L) / ((K : ℝ) - 1)))) := by
  unfold Model.startsEven
  simp only [shiftOf_eq N L K hK2, RL.ofNat_eq, RLmul]

theorem startsEven_one (N L : ℕ) : Model.startsEven (α := ℝ) N L 1 = [0] := by
  unfold Model.startsEven Model.shiftOf
  simp [List.range_succ, roundEven_zero]

/-- the `ltf_plan` loop body: `int(start + 0.5)` of a non-negative running sum is `round_half_up` of it -/
theorem startsAccum_loop (s : ℝ) (hs : 0 ≤ s) (n : ℕ) :
    forRange n (([] : List Int), (RealLike.zero : ℝ)) (fun _ (acc : List Int × ℝ) =>
      let start := acc.2
      let istart := if ge start zero then trunc (start + ofSci 5 true 1)
                    else trunc (start - ofSci 5 true 1)
      (acc.1 ++ [istart], start + s))
    = ((List.range n).map (fun i : ℕ => Model.roundHalfUp ((i : ℝ) * s)), (n : ℝ) * s) := by
  induction n with
  | zero => simp [forRange_zero]
  | succ k ih =>
    rw [forRange_succ, ih]
    have hk : (0 : ℝ) ≤ (k : ℝ) * s := mul_nonneg (Nat.cast_nonneg k) hs
    simp only [RL.ge_eq, RL.zero_eq, RL.lit_half, decide_eq_true_eq, if_pos hk, RL.trunc_eq]
    rw [if_pos (by linarith : (0 : ℝ) ≤ (k : ℝ) * s + 1 / 2)]
    rw [List.range_succ, List.map_append, List.map_singleton, roundHalfUp_eq]
    refine Prod.ext rfl ?_
    simp only
    push_cast
    ring

theorem startsAccum_eq (N L : ℕ) (K : ℤ) (hK2 : 2 ≤ K) (hKcap : K ≤ (N : ℤ) - L + 1) :
    Model.startsAccum (α := ℝ) N L K = (List.range K.toNat).map
      (fun i : ℕ => Model.roundHalfUp ((i : ℝ) * (((N : ℝ) - L) / ((K : ℝ) - 1)))) := by
  have hK1 : (K == 1) = false := by
    rw [beq_eq_false_iff_ne]; omega
  -- under the cap the source's `if shift < 1: shift = 1.0` never fires
  have hs1 := startShift_ge_one hK2 hKcap
  unfold Model.startsAccum
  simp only [hK1, Bool.false_eq_true, if_false, startShift_cast, RL.lt_eq, RL.one_eq,
    decide_eq_true_eq, if_neg (not_lt.mpr hs1)]
  rw [startsAccum_loop _ (by linarith)]

theorem startsAccum_one (N L : ℕ) : Model.startsAccum (α := ℝ) N L 1 = [0] := by
  unfold Model.startsAccum
  simp only [beq_self_eq_true, if_true, RL.lt_eq, RL.one_eq, lt_irrefl, decide_false,
    Bool.false_eq_true, if_false]
  rw [show (1 : ℤ).toNat = 1 from rfl, startsAccum_loop 1 zero_le_one 1]
  simp only [List.range_one, List.map_cons, List.map_nil, Nat.cast_zero, zero_mul,
    roundHalfUp_nearest.zero]

section
-- `hL1`, `hL` are unused (the cap gives `L < N`); the checks list both (`vk/props/C02.py`)
set_option linter.unusedVariables false

theorem startsEven_safe (N L : ℕ) (K : ℤ) (hL1 : 1 ≤ L) (hL : L ≤ N) (hK2 : 2 ≤ K)
    (hKcap : K ≤ (N : ℤ) - L + 1) :
    let D := Model.startsEven (α := ℝ) N L K
    D.length = K.toNat ∧ D.head? = some 0 ∧ D.getLast? = some ((N : ℤ) - L) ∧
    D.Pairwise (· < ·) ∧ (∀ d ∈ D, 0 ≤ d ∧ d + L ≤ N) ∧
    (∀ i (hi : i < D.length),
      |((D.get ⟨i, hi⟩ : ℤ) : ℝ) - i * (((N : ℝ) - L) / ((K : ℝ) - 1))| ≤ 1 / 2) := by
  intro D
  exact starts_safe_gen roundEven_nearest hK2 hKcap (startsEven_eq N L K hK2)

theorem startsAccum_safe (N L : ℕ) (K : ℤ) (hL1 : 1 ≤ L) (hL : L ≤ N) (hK2 : 2 ≤ K)
    (hKcap : K ≤ (N : ℤ) - L + 1) :
    let D := Model.startsAccum (α := ℝ) N L K
    D.length = K.toNat ∧ D.head? = some 0 ∧ D.getLast? = some ((N : ℤ) - L) ∧
    D.Pairwise (· < ·) ∧ (∀ d ∈ D, 0 ≤ d ∧ d + L ≤ N) ∧
    (∀ i (hi : i < D.length),
      |((D.get ⟨i, hi⟩ : ℤ) : ℝ) - i * (((N : ℝ) - L) / ((K : ℝ) - 1))| ≤ 1 / 2) := by
  intro D
  exact starts_safe_gen roundHalfUp_nearest hK2 hKcap (startsAccum_eq N L K hK2 hKcap)

end

theorem sum_overlap_terms (L : ℕ) (l : List ℤ) :
    (l.map (fun df : ℤ => ((((L : ℤ) - df : ℤ) : ℝ)) / (L : ℝ))).sum
      = ((l.length : ℝ) * L - ((l.sum : ℤ) : ℝ)) / L := by
  induction l with
  | nil => simp
  | cons a t ih =>
    rw [List.map_cons, List.sum_cons, ih, List.length_cons, List.sum_cons]
    push_cast
    ring

theorem sum_zip_diffs (d0 : ℤ) (rest : List ℤ) :
    ((List.zip (d0 :: rest) rest).map (fun (p : ℤ × ℤ) => p.2 - p.1)).sum
      = rest.getLast?.getD d0 - d0 := by
  induction rest generalizing d0 with
  | nil => simp
  | cons d1 r ih =>
    rw [List.zip_cons_cons, List.map_cons, List.sum_cons, ih d1, List.getLast?_cons]
    simp only [Option.getD_some]
    ring

theorem overlapMean_cons_cons (L : ℕ) (d0 d1 : ℤ) (rest : List ℤ) :
    Model.overlapMean (α := ℝ) L (d0 :: d1 :: rest) =
      ((List.zip (d0 :: d1 :: rest) (d1 :: rest)).map
        (fun p : ℤ × ℤ => ((((L : ℤ) - (p.2 - p.1) : ℤ)) : ℝ) / (L : ℝ))).sum
        / ((rest.length + 1 : ℕ) : ℝ) := by
  unfold Model.overlapMean
  simp only [RL.zero_eq, ← List.sum_eq_foldl, RL.ofInt_eq, RL.ofNat_eq, List.map_map, List.length_map,
    List.length_zip, List.length_cons, Nat.min_eq_right (Nat.le_succ _)]
  rfl

theorem overlapMean_of_ends (L : ℕ) {D : List ℤ} {a b : ℤ} {n : ℕ}
    (hlen : D.length = n + 2) (hh : D.head? = some a) (hl : D.getLast? = some b) :
    Model.overlapMean (α := ℝ) L D
      = (((n : ℝ) + 1) * L - ((b : ℝ) - a)) / L / ((n : ℝ) + 1) := by
  match D, hlen, hh, hl with
  | d0 :: d1 :: rest, hlen, hh, hl =>
    obtain rfl := Option.some.inj hh
    rw [List.getLast?_cons_cons] at hl
    have hlen' : rest.length = n := by simpa using hlen
    have e := sum_overlap_terms L ((List.zip (d0 :: d1 :: rest) (d1 :: rest)).map
      (fun (p : ℤ × ℤ) => p.2 - p.1))
    rw [sum_zip_diffs d0 (d1 :: rest), hl, Option.getD_some, List.map_map, List.length_map, List.length_zip,
      List.length_cons, List.length_cons, Nat.min_eq_right (Nat.le_succ _), hlen'] at e
    rw [overlapMean_cons_cons, hlen']
    simp only [Function.comp_def] at e
    push_cast at e ⊢
    exact congrArg (· / ((n : ℝ) + 1)) e

theorem overlapClosed_eq (N L : ℕ) (K : ℤ) (hK2 : 2 ≤ K) :
    Model.overlapClosed (α := ℝ) N L K
      = ((L : ℝ) - ((N : ℝ) - L) / ((K : ℝ) - 1)) / L := by
  unfold Model.overlapClosed
  have hK : K > 1 := by omega
  rw [if_pos hK, shiftOf_eq N L K hK2]
  rfl

theorem overlapMean_eq_of_safe {N L : ℕ} {K : ℤ} (hL1 : 1 ≤ L) (hK2 : 2 ≤ K) {D : List ℤ}
    (hlen : D.length = K.toNat) (hh : D.head? = some 0)
    (hl : D.getLast? = some ((N : ℤ) - L)) :
    Model.overlapMean (α := ℝ) L D = Model.overlapClosed (α := ℝ) N L K := by
  obtain ⟨m, htn, hden⟩ := exists_toNat_eq_add_two hK2
  rw [htn] at hlen
  rw [overlapMean_of_ends L hlen hh hl, overlapClosed_eq N L K hK2, hden]
  have hLr : (L : ℝ) ≠ 0 := Nat.cast_ne_zero.mpr (by omega)
  have hm1 : (m : ℝ) + 1 ≠ 0 := by positivity
  push_cast
  field_simp
  ring

/-- the overlap the closed-form schedulers report is the realised mean overlap of the starts -/
theorem overlapMean_eq_closed (N L : ℕ) (K : ℤ) (hL1 : 1 ≤ L) (hL : L ≤ N) (hK2 : 2 ≤ K)
    (hKcap : K ≤ (N : ℤ) - L + 1) :
    Model.overlapMean (α := ℝ) L (Model.startsEven (α := ℝ) N L K)
      = Model.overlapClosed (α := ℝ) N L K := by
  have h := startsEven_safe N L K hL1 hL hK2 hKcap
  exact overlapMean_eq_of_safe hL1 hK2 h.1 h.2.1 h.2.2.1

theorem overlapMean_accum_eq_closed (N L : ℕ) (K : ℤ) (hL1 : 1 ≤ L) (hL : L ≤ N) (hK2 : 2 ≤ K)
    (hKcap : K ≤ (N : ℤ) - L + 1) :
    Model.overlapMean (α := ℝ) L (Model.startsAccum (α := ℝ) N L K)
      = Model.overlapClosed (α := ℝ) N L K := by
  have h := startsAccum_safe N L K hL1 hL hK2 hKcap
  exact overlapMean_eq_of_safe hL1 hK2 h.1 h.2.1 h.2.2.1

theorem overlapMean_single (L : ℕ) (d : ℤ) : Model.overlapMean (α := ℝ) L [d] = 0 := RL.zero_eq

theorem overlapClosed_one (N L : ℕ) : Model.overlapClosed (α := ℝ) N L 1 = 0 := by
  unfold Model.overlapClosed
  rw [if_neg (by omega), RL.zero_eq]

theorem roundEven_half : RealLike.roundEven (1 / 2 : ℝ) = 0 := by
  have hf : ⌊(1 / 2 : ℝ)⌋ = 0 := by rw [Int.floor_eq_iff]; norm_num
  rw [RL.roundEven_eq]
  simp only [hf]
  norm_num

/-- a cap that is necessary: without K ≤ N-L+1 the starts collide (concrete witness:
    N = 10, L = 9, K = 3 gives shift 1/2 and starts [0, 0, 1]) -/
theorem startsEven_uncapped_collide :
    ¬ (Model.startsEven (α := ℝ) 10 9 3).Pairwise (· < ·) := by
  rw [startsEven_eq 10 9 3 (by norm_num)]
  have h3 : (3 : ℤ).toNat = 3 := rfl
  have hs : (((10 : ℕ) : ℝ) - ((9 : ℕ) : ℝ)) / (((3 : ℤ) : ℝ) - 1) = 1 / 2 := by norm_num
  rw [h3, hs]
  have e : List.range 3 = [0, 1, 2] := rfl
  rw [e]
  simp only [List.map_cons, List.map_nil, Nat.cast_zero, zero_mul, Nat.cast_one, one_mul,
    roundEven_zero, roundEven_half]
  intro h
  rw [List.pairwise_cons] at h
  exact lt_irrefl (0 : ℤ) (h.1 0 (by simp))

#print axioms roundHalfUp_eq
#print axioms roundEven_abs_sub_le
#print axioms roundEven_int
#print axioms capK_le
#print axioms capK_ge_one
#print axioms nsegRaw_ge_one
#print axioms nsegRaw_eq
#print axioms startsEven_one
#print axioms startsAccum_one
#print axioms startsEven_safe
#print axioms startsAccum_safe
#print axioms overlapMean_eq_closed
#print axioms overlapMean_accum_eq_closed
#print axioms startsEven_uncapped_collide
