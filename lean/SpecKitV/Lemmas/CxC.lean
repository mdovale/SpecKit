/-
  SpecKitV.Lemmas.CxC — the model's complex pairs `Cx ℝ` read as Mathlib's `ℂ` through `toC` (injective; commutes with the operations).
-/
import SpecKitV.RealInst
import Mathlib.Analysis.Complex.Basic

attribute [ext] Cx

namespace Cx

theorem mul_re (a b : Cx ℝ) : (a * b).re = a.re * b.re - a.im * b.im := rfl
theorem mul_im (a b : Cx ℝ) : (a * b).im = a.re * b.im + a.im * b.re := rfl
theorem ofReal_re (a : ℝ) : (Cx.ofReal a).re = a := rfl
theorem ofReal_im (a : ℝ) : (Cx.ofReal a).im = RealLike.ofNat 0 := rfl

theorem normSq_nonneg (z : Cx ℝ) : 0 ≤ Cx.normSq z :=
  add_nonneg (mul_self_nonneg _) (mul_self_nonneg _)

theorem abs_nonneg (z : Cx ℝ) : 0 ≤ Cx.abs z := Real.sqrt_nonneg _

theorem abs_mul_abs (z : Cx ℝ) : Cx.abs z * Cx.abs z = Cx.normSq z :=
  Real.mul_self_sqrt (normSq_nonneg z)

theorem normSq_smul (c : ℝ) (z : Cx ℝ) : Cx.normSq (Cx.smul c z) = c ^ 2 * Cx.normSq z := by
  simp only [Cx.normSq, Cx.smul]; ring

def toC (z : Cx ℝ) : ℂ := ⟨z.re, z.im⟩

@[simp] theorem toC_re (z : Cx ℝ) : (toC z).re = z.re := rfl
@[simp] theorem toC_im (z : Cx ℝ) : (toC z).im = z.im := rfl
@[simp] theorem toC_mk (a b : ℝ) : toC ⟨a, b⟩ = ⟨a, b⟩ := rfl

theorem toC_injective : Function.Injective toC :=
  fun _ _ h => Cx.ext (congrArg Complex.re h) (congrArg Complex.im h)

@[simp] theorem toC_add (a b : Cx ℝ) : toC (a + b) = toC a + toC b := Complex.ext rfl rfl

@[simp] theorem toC_sub (a b : Cx ℝ) : toC (a - b) = toC a - toC b := Complex.ext rfl rfl

@[simp] theorem toC_mul (a b : Cx ℝ) : toC (a * b) = toC a * toC b := Complex.ext rfl rfl

@[simp] theorem toC_conj (a : Cx ℝ) : toC (Cx.conj a) = (starRingEnd ℂ) (toC a) := Complex.ext rfl rfl

@[simp] theorem toC_ofReal (a : ℝ) : toC (Cx.ofReal a) = (a : ℂ) := by
  apply Complex.ext <;> simp [Cx.ofReal]

theorem normSq_eq (a : Cx ℝ) : Cx.normSq a = Complex.normSq (toC a) := by
  simp [Cx.normSq, Complex.normSq_apply]

theorem normSq_conj (a : Cx ℝ) : Cx.normSq (Cx.conj a) = Cx.normSq a := by
  simp only [Cx.normSq, Cx.conj, neg_mul_neg]

theorem abs_eq (a : Cx ℝ) : Cx.abs a = ‖toC a‖ := by
  rw [Cx.abs, normSq_eq, RL.sqrt_eq, Complex.norm_def]

@[simp] theorem toC_smul (c : ℝ) (a : Cx ℝ) : toC (Cx.smul c a) = (c : ℂ) * toC a := by
  apply Complex.ext <;> simp [Cx.smul]

@[simp] theorem toC_divReal (a : Cx ℝ) (c : ℝ) : toC (Cx.divReal a c) = toC a / (c : ℂ) := by
  apply Complex.ext
  · rw [Complex.div_ofReal_re]; rfl
  · rw [Complex.div_ofReal_im]; rfl

/-- `0 + f 0 + … + f (n-1)`, as `np.sum`, builtin `sum` and `@` accumulate it -/
theorem _root_.forRange_cx_toC (n : ℕ) (f : ℕ → Cx ℝ) :
    Cx.toC (forRange n (Cx.ofReal RealLike.zero) (fun i acc => acc + f i)) = ∑ i ∈ Finset.range n, Cx.toC (f i) := by
  rw [forRange_sum Cx.toC _ n _ _ fun i acc _ => Cx.toC_add acc (f i), Cx.toC_ofReal, RL.zero_eq, Complex.ofReal_zero, zero_add]

end Cx
