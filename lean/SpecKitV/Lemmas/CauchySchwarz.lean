/-
  SpecKitV.Lemmas.CauchySchwarz — Cauchy–Schwarz facts behind "coherence ∈ [0,1]" for
  segment-averaged cross-spectra, for an arbitrary number of segments K.
-/
import Mathlib.Analysis.Complex.Basic
import Mathlib.Algebra.Order.BigOperators.Ring.Finset
import Mathlib.Analysis.Normed.Group.Basic

open Finset

theorem cross_cs_complex (K : ℕ) (X Y : ℕ → ℂ) :
    Complex.normSq (∑ k ∈ range K, X k * (starRingEnd ℂ) (Y k))
      ≤ (∑ k ∈ range K, Complex.normSq (X k)) * (∑ k ∈ range K, Complex.normSq (Y k)) := by
  simp only [Complex.normSq_eq_norm_sq]
  calc ‖∑ k ∈ range K, X k * (starRingEnd ℂ) (Y k)‖ ^ 2
      ≤ (∑ k ∈ range K, ‖X k‖ * ‖Y k‖) ^ 2 :=
        pow_le_pow_left₀ (norm_nonneg _) ((norm_sum_le _ _).trans_eq
          (sum_congr rfl fun k _ => by rw [norm_mul, Complex.norm_conj])) 2
    _ ≤ _ := sum_mul_sq_le_sq_mul_sq _ _ _

/-- real-component form: per-segment DFT values X_k = r1 k + i·i1 k, Y_k = r2 k + i·i2 k;
    Re(X conj Y) = r1 r2 + i1 i2, Im(X conj Y) = i1 r2 − r1 i2. -/
theorem cross_cs_real (K : ℕ) (r1 i1 r2 i2 : ℕ → ℝ) :
    (∑ k ∈ range K, (r1 k * r2 k + i1 k * i2 k)) ^ 2 + (∑ k ∈ range K, (i1 k * r2 k - r1 k * i2 k)) ^ 2
      ≤ (∑ k ∈ range K, (r1 k * r1 k + i1 k * i1 k)) * (∑ k ∈ range K, (r2 k * r2 k + i2 k * i2 k)) := by
  simpa only [Complex.normSq_apply, Complex.re_sum, Complex.im_sum, Complex.mul_re, Complex.mul_im, Complex.conj_re, Complex.conj_im,
    mul_neg, sub_neg_eq_add, neg_add_eq_sub, sq] using cross_cs_complex K (fun k => ⟨r1 k, i1 k⟩) (fun k => ⟨r2 k, i2 k⟩)

section
set_option linter.unusedVariables false  -- `hK`: at `K = 0` both sides are 0

/-- the same inequality for the MEANS (each sum divided by K), which is what the code stores -/
theorem cross_cs_means (K : ℕ) (hK : 0 < K) (r1 i1 r2 i2 : ℕ → ℝ) :
    ((∑ k ∈ range K, (r1 k * r2 k + i1 k * i2 k)) / K) ^ 2 + ((∑ k ∈ range K, (i1 k * r2 k - r1 k * i2 k)) / K) ^ 2
      ≤ ((∑ k ∈ range K, (r1 k * r1 k + i1 k * i1 k)) / K) * ((∑ k ∈ range K, (r2 k * r2 k + i2 k * i2 k)) / K) := by
  rw [div_pow, div_pow, ← add_div, div_mul_div_comm, ← sq]
  exact div_le_div_of_nonneg_right (cross_cs_real K r1 i1 r2 i2) (sq_nonneg _)

end

theorem cross_cs_eq_one_segment (r1 i1 r2 i2 : ℝ) :
    (r1 * r2 + i1 * i2) ^ 2 + (i1 * r2 - r1 * i2) ^ 2 = (r1 * r1 + i1 * i1) * (r2 * r2 + i2 * i2) := by
  ring

/-- equality when the second channel is a real multiple g of the first (every segment) -/
theorem cross_cs_eq_dependent (K : ℕ) (g : ℝ) (r1 i1 : ℕ → ℝ) :
    (∑ k ∈ range K, (r1 k * (g * r1 k) + i1 k * (g * i1 k))) ^ 2 + (∑ k ∈ range K, (i1 k * (g * r1 k) - r1 k * (g * i1 k))) ^ 2
      = (∑ k ∈ range K, (r1 k * r1 k + i1 k * i1 k)) * (∑ k ∈ range K, ((g * r1 k) * (g * r1 k) + (g * i1 k) * (g * i1 k))) := by
  have e1 : ∀ k, r1 k * (g * r1 k) + i1 k * (g * i1 k) = g * (r1 k * r1 k + i1 k * i1 k) := fun k => by ring
  have e2 : ∀ k, i1 k * (g * r1 k) - r1 k * (g * i1 k) = 0 := fun k => by ring
  have e3 : ∀ k, (g * r1 k) * (g * r1 k) + (g * i1 k) * (g * i1 k) = g ^ 2 * (r1 k * r1 k + i1 k * i1 k) := fun k => by ring
  simp only [e1, e2, e3, ← mul_sum, sum_const_zero]
  ring

/-- swapping the channels conjugates the cross term and leaves its modulus unchanged -/
theorem cross_swap (K : ℕ) (r1 i1 r2 i2 : ℕ → ℝ) :
    (∑ k ∈ range K, (r2 k * r1 k + i2 k * i1 k)) = (∑ k ∈ range K, (r1 k * r2 k + i1 k * i2 k)) ∧
    (∑ k ∈ range K, (i2 k * r1 k - r2 k * i1 k)) = -(∑ k ∈ range K, (i1 k * r2 k - r1 k * i2 k)) :=
  ⟨sum_congr rfl fun k _ => by ring, (sum_congr rfl fun k _ => by ring).trans (sum_neg_distrib _)⟩

theorem cross_swap_modsq (K : ℕ) (r1 i1 r2 i2 : ℕ → ℝ) :
    (∑ k ∈ range K, (r2 k * r1 k + i2 k * i1 k)) ^ 2 + (∑ k ∈ range K, (i2 k * r1 k - r2 k * i1 k)) ^ 2
      = (∑ k ∈ range K, (r1 k * r2 k + i1 k * i2 k)) ^ 2 + (∑ k ∈ range K, (i1 k * r2 k - r1 k * i2 k)) ^ 2 := by
  have h := cross_swap K r1 i1 r2 i2
  rw [h.1, h.2, neg_sq]

#print axioms cross_cs_real
#print axioms cross_cs_complex
#print axioms cross_cs_means
#print axioms cross_cs_eq_one_segment
#print axioms cross_cs_eq_dependent
#print axioms cross_swap
#print axioms cross_swap_modsq

