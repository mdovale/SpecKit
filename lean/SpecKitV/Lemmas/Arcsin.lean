/-
  SpecKitV.Lemmas.Arcsin — phase error `arcsin(√(1−g))/√(2gn)` versus relative magnitude error
  `√(1−g)/√(2gn)` (Bendat–Piersol error bars).
-/
import Mathlib.Analysis.SpecialFunctions.Trigonometric.Bounds
import Mathlib.Analysis.SpecialFunctions.Trigonometric.InverseDeriv
import Mathlib.Analysis.Calculus.Deriv.Slope

open Real

theorem le_arcsin_of_nonneg {x : ℝ} (h0 : 0 ≤ x) (h1 : x ≤ 1) : x ≤ arcsin x := by
  have h := Real.sin_le (Real.arcsin_nonneg.2 h0)
  rwa [Real.sin_arcsin (neg_one_lt_zero.le.trans h0) h1] at h

theorem arcsin_le_half_pi_mul {x : ℝ} (h0 : 0 ≤ x) (h1 : x ≤ 1) : arcsin x ≤ π / 2 * x := by
  have h := Real.mul_le_sin (Real.arcsin_nonneg.2 h0) (Real.arcsin_le_pi_div_two x)
  rw [Real.sin_arcsin (neg_one_lt_zero.le.trans h0) h1, div_mul_eq_mul_div, div_le_iff₀ Real.pi_pos] at h
  linarith

theorem arcsin_div_self_tendsto_one :
    Filter.Tendsto (fun x : ℝ => arcsin x / x) (nhdsWithin 0 (Set.Ioi 0)) (nhds 1) := by
  have hd : HasDerivAt arcsin 1 0 := by
    have h := Real.hasDerivAt_arcsin (x := 0) (by norm_num) (by norm_num)
    simpa using h
  have ht := hd.tendsto_slope_zero_right
  refine ht.congr (fun t => ?_)
  simp [div_eq_inv_mul]

/-- the two error bars; the divisor's factors in the order of analysis.py (`coh * 2 * navg`), so that
    `Hxy_mag_error_formula` / `Hxy_rad_error_formula` (AttrsB) are an unfolding -/
noncomputable def magErr (g n : ℝ) : ℝ := sqrt |1 - g| / sqrt (g * 2 * n)
noncomputable def radErr (g n : ℝ) : ℝ := arcsin (sqrt |1 - g|) / sqrt (g * 2 * n)

theorem sqrt_abs_one_sub_mem {g : ℝ} (hg0 : 0 < g) (hg1 : g ≤ 1) :
    0 ≤ sqrt |1 - g| ∧ sqrt |1 - g| ≤ 1 := by
  refine ⟨Real.sqrt_nonneg _, Real.sqrt_le_one.2 ?_⟩
  rw [abs_of_nonneg (sub_nonneg.2 hg1)]
  exact sub_le_self 1 hg0.le

theorem sqrt_abs_one_sub_tendsto :
    Filter.Tendsto (fun g : ℝ => sqrt |1 - g|) (nhdsWithin 1 (Set.Iio 1))
      (nhdsWithin 0 (Set.Ioi 0)) := by
  refine tendsto_nhdsWithin_iff.2 ⟨?_, ?_⟩
  · have hc : Continuous (fun g : ℝ => sqrt |1 - g|) := by fun_prop
    have h := (hc.tendsto 1).mono_left (nhdsWithin_le_nhds (s := Set.Iio 1))
    simpa using h
  · filter_upwards [self_mem_nhdsWithin] with g hg
    exact Real.sqrt_pos.2 (abs_pos.2 (sub_pos.2 hg).ne')

/-- the ratio phase-error / magnitude-error tends to 1 as the coherence tends to 1 from below -/
theorem radErr_div_magErr_tendsto_one (n : ℝ) (hn : 1 ≤ n) :
    Filter.Tendsto (fun g : ℝ => radErr g n / magErr g n) (nhdsWithin 1 (Set.Iio 1)) (nhds 1) := by
  have hcomp := arcsin_div_self_tendsto_one.comp sqrt_abs_one_sub_tendsto
  refine hcomp.congr' ?_
  have hpos : ∀ᶠ g in nhdsWithin (1 : ℝ) (Set.Iio 1), 0 < g :=
    nhdsWithin_le_nhds (lt_mem_nhds (by norm_num : (0 : ℝ) < 1))
  filter_upwards [hpos] with g hg
  have hs : 0 < sqrt (g * 2 * n) := Real.sqrt_pos.2 (by positivity)
  simp only [Function.comp_apply, radErr, magErr]
  rw [div_div_div_cancel_right₀ hs.ne']

theorem radErr_one (n : ℝ) : radErr 1 n = 0 := by
  simp [radErr]

theorem magErr_one (n : ℝ) : magErr 1 n = 0 := by
  simp [magErr]

set_option linter.unusedVariables false  -- `hn` is not used in the last two statements

theorem magErr_le_radErr {g n : ℝ} (hg0 : 0 < g) (hg1 : g ≤ 1) (hn : 1 ≤ n) :
    magErr g n ≤ radErr g n := by
  obtain ⟨h0, h1⟩ := sqrt_abs_one_sub_mem hg0 hg1
  unfold magErr radErr
  exact div_le_div_of_nonneg_right (le_arcsin_of_nonneg h0 h1) (Real.sqrt_nonneg _)

theorem radErr_le_half_pi_magErr {g n : ℝ} (hg0 : 0 < g) (hg1 : g ≤ 1) (hn : 1 ≤ n) :
    radErr g n ≤ π / 2 * magErr g n := by
  obtain ⟨h0, h1⟩ := sqrt_abs_one_sub_mem hg0 hg1
  unfold magErr radErr
  rw [← mul_div_assoc]
  exact div_le_div_of_nonneg_right (arcsin_le_half_pi_mul h0 h1) (Real.sqrt_nonneg _)

#print axioms le_arcsin_of_nonneg
#print axioms arcsin_le_half_pi_mul
#print axioms arcsin_div_self_tendsto_one
#print axioms magErr_le_radErr
#print axioms radErr_le_half_pi_magErr
#print axioms radErr_div_magErr_tendsto_one
#print axioms radErr_one
#print axioms magErr_one
