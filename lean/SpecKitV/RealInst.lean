/-
  SpecKitV.RealInst — the `ℝ` reading of the numeric interface: all theorems are stated at it.
  Also the loop rules and the array/index facts every translated region meets.
-/
import SpecKitV.Num
import Mathlib.Analysis.SpecialFunctions.Trigonometric.Inverse
import Mathlib.Analysis.SpecialFunctions.Pow.Real
import Mathlib.Analysis.SpecialFunctions.Log.Base
import Mathlib.Algebra.Order.Floor.Ring
import Mathlib.Analysis.SpecialFunctions.Complex.Arg

open Classical in
noncomputable instance instRealLikeReal : RealLike ℝ where
  ofNat n := (n : ℝ)
  ofInt z := (z : ℝ)
  ofSci m s e := if s then (m : ℝ) / 10 ^ e else (m : ℝ) * 10 ^ e
  lt a b := decide (a < b)
  le a b := decide (a ≤ b)
  beq a b := decide (a = b)
  floor x := ⌊x⌋
  ceil x := ⌈x⌉
  roundEven x :=
    let f := ⌊x⌋
    let d := x - f
    if d < 1 / 2 then f else if 1 / 2 < d then f + 1 else if f % 2 = 0 then f else f + 1
  trunc x := if 0 ≤ x then ⌊x⌋ else ⌈x⌉
  sqrt := Real.sqrt
  exp := Real.exp
  log := Real.log
  log10 x := Real.logb 10 x
  sin := Real.sin
  cos := Real.cos
  arcsin := Real.arcsin
  atan2 y x := Complex.arg ⟨x, y⟩
  abs x := |x|
  pow := fun a b => a ^ b
  pi := Real.pi

namespace RL
/-! simp-normal forms: every interface operation at `ℝ` rewrites to the Mathlib one. -/
@[simp] theorem ofNat_eq (n : ℕ) : (RealLike.ofNat n : ℝ) = (n : ℝ) := rfl
@[simp] theorem ofInt_eq (z : ℤ) : (RealLike.ofInt z : ℝ) = (z : ℝ) := rfl
@[simp] theorem ofSci_eq (m : ℕ) (s : Bool) (e : ℕ) :
    (RealLike.ofSci m s e : ℝ) = if s then (m : ℝ) / 10 ^ e else (m : ℝ) * 10 ^ e := rfl
@[simp] theorem zero_eq : (RealLike.zero : ℝ) = 0 := by simp [RealLike.zero]
@[simp] theorem one_eq : (RealLike.one : ℝ) = 1 := by simp [RealLike.one]
@[simp] theorem two_eq : (RealLike.two : ℝ) = 2 := by simp [RealLike.two]
@[simp] theorem lt_eq (a b : ℝ) : RealLike.lt a b = decide (a < b) := rfl
@[simp] theorem le_eq (a b : ℝ) : RealLike.le a b = decide (a ≤ b) := rfl
@[simp] theorem beq_eq (a b : ℝ) : RealLike.beq a b = decide (a = b) := rfl
@[simp] theorem gt_eq (a b : ℝ) : RealLike.gt a b = decide (b < a) := rfl
@[simp] theorem ge_eq (a b : ℝ) : RealLike.ge a b = decide (b ≤ a) := rfl
@[simp] theorem bne_eq (a b : ℝ) : RealLike.bne a b = !decide (a = b) := rfl
@[simp] theorem floor_eq (a : ℝ) : RealLike.floor a = ⌊a⌋ := rfl
@[simp] theorem ceil_eq (a : ℝ) : RealLike.ceil a = ⌈a⌉ := rfl
@[simp] theorem sqrt_eq (a : ℝ) : RealLike.sqrt a = Real.sqrt a := rfl
@[simp] theorem exp_eq (a : ℝ) : RealLike.exp a = Real.exp a := rfl
@[simp] theorem log_eq (a : ℝ) : RealLike.log a = Real.log a := rfl
@[simp] theorem log10_eq (a : ℝ) : RealLike.log10 a = Real.logb 10 a := rfl
@[simp] theorem sin_eq (a : ℝ) : RealLike.sin a = Real.sin a := rfl
@[simp] theorem cos_eq (a : ℝ) : RealLike.cos a = Real.cos a := rfl
@[simp] theorem arcsin_eq (a : ℝ) : RealLike.arcsin a = Real.arcsin a := rfl
@[simp] theorem atan2_eq (y x : ℝ) : RealLike.atan2 y x = Complex.arg ⟨x, y⟩ := rfl
@[simp] theorem abs_eq (a : ℝ) : RealLike.abs a = |a| := rfl
@[simp] theorem pow_eq (a b : ℝ) : RealLike.pow a b = a ^ b := rfl
@[simp] theorem pi_eq : (RealLike.pi : ℝ) = Real.pi := rfl
theorem trunc_eq (a : ℝ) : RealLike.trunc a = if 0 ≤ a then ⌊a⌋ else ⌈a⌉ := rfl
theorem roundEven_eq (x : ℝ) : RealLike.roundEven x =
    (let f := ⌊x⌋
     let d := x - f
     if d < 1 / 2 then f else if 1 / 2 < d then f + 1 else if f % 2 = 0 then f else f + 1) := rfl

theorem trunc_intCast (z : ℤ) : RealLike.trunc ((z : ℝ)) = z := by
  rw [trunc_eq]
  split_ifs
  · exact Int.floor_intCast z
  · exact Int.ceil_intCast z

theorem max_eq (a b : ℝ) : RealLike.max a b = max a b := by
  simp only [RealLike.max, le_eq, max_def, decide_eq_true_eq]

theorem min_eq (a b : ℝ) : RealLike.min a b = min a b := by
  simp only [RealLike.min, le_eq, min_def, decide_eq_true_eq]

/-! the float literals `0.0`, `1.0`, `2.0`, `0.5` as the translator writes them -/
theorem lit_zero : (RealLike.ofSci 0 true 1 : ℝ) = 0 := by simp [ofSci_eq]
theorem lit_one : (RealLike.ofSci 10 true 1 : ℝ) = 1 := by simp [ofSci_eq]
theorem lit_two : (RealLike.ofSci 20 true 1 : ℝ) = 2 := by simp [ofSci_eq]; norm_num
theorem lit_half : (RealLike.ofSci 5 true 1 : ℝ) = 1 / 2 := by simp [ofSci_eq]; norm_num
end RL

/-! `+ − * /` of the interface at `ℝ` are Mathlib's already, up to the path of the instance: these four rewrite the path
  (negation: `AnalyzerGlue.RLneg`) -/
theorem RLadd (a b : ℝ) : @HAdd.hAdd ℝ ℝ ℝ (@instHAdd ℝ instRealLikeReal.toAdd) a b = a + b := rfl
theorem RLsub (a b : ℝ) : @HSub.hSub ℝ ℝ ℝ (@instHSub ℝ instRealLikeReal.toSub) a b = a - b := rfl
theorem RLmul (a b : ℝ) : @HMul.hMul ℝ ℝ ℝ (@instHMul ℝ instRealLikeReal.toMul) a b = a * b := rfl
theorem RLdiv (a b : ℝ) : @HDiv.hDiv ℝ ℝ ℝ (@instHDiv ℝ instRealLikeReal.toDiv) a b = a / b := rfl

theorem forRange_zero {σ : Type} (init : σ) (f : Nat → σ → σ) : forRange 0 init f = init := by
  simp [forRange]

theorem forRange_succ {σ : Type} (n : Nat) (init : σ) (f : Nat → σ → σ) :
    forRange (n+1) init f = f n (forRange n init f) := by
  simp [forRange, Nat.fold_succ]

/-- loop-invariant rule; the step obligation is about the body as a function, so it does not
    depend on how the generated body is spelled. -/
theorem forRange_inv {σ : Type} (P : Nat → σ → Prop) (n : Nat) (init : σ) (f : Nat → σ → σ)
    (h0 : P 0 init) (hs : ∀ i s, i < n → P i s → P (i+1) (f i s)) : P n (forRange n init f) := by
  induction n with
  | zero => simpa [forRange_zero] using h0
  | succ k ih =>
    rw [forRange_succ]
    exact hs k _ (Nat.lt_succ_self k) (ih (fun i s hi hp => hs i s (Nat.lt_succ_of_lt hi) hp))

/-- a loop whose `j`-th iteration adds `g j` to an additive reading `φ` of the state -/
theorem forRange_sum {σ M : Type} [AddCommMonoid M] (φ : σ → M) (g : ℕ → M) (n : ℕ) (init : σ) (body : ℕ → σ → σ)
    (h : ∀ j st, j < n → φ (body j st) = φ st + g j) : φ (forRange n init body) = φ init + ∑ j ∈ Finset.range n, g j := by
  induction n with
  | zero => rw [forRange_zero, Finset.sum_range_zero, add_zero]
  | succ m ih =>
    rw [forRange_succ, h m _ (Nat.lt_succ_self m), ih fun j st hj => h j st (Nat.lt_succ_of_lt hj), Finset.sum_range_succ, add_assoc]

theorem sumRange_eq_sum (n : ℕ) (f : ℕ → ℝ) : sumRange n f = ∑ i ∈ Finset.range n, f i :=
  (forRange_sum id f n _ _ fun _ _ _ => rfl).trans (by rw [id, RL.ofNat_eq, Nat.cast_zero, zero_add])

/-- `I` is an invariant; "item `s` is done" (`Q s`) is kept by every iteration, and iteration `i` does the items `w i`.  The conclusion
    has the shape of the hypothesis on the body, so that an inner loop's rule is the outer loop's step. -/
theorem forRange_items {σ ι : Type} (I : σ → Prop) (Q : ι → σ → Prop) (w : ℕ → ι → Prop) (n : ℕ) (body : ℕ → σ → σ)
    (hstep : ∀ i st, i < n → I st → I (body i st) ∧ ∀ s, Q s st ∨ w i s → Q s (body i st))
    (init : σ) (h0 : I init) :
    I (forRange n init body) ∧ ∀ s, (Q s init ∨ ∃ i, i < n ∧ w i s) → Q s (forRange n init body) := by
  induction n with
  | zero =>
    rw [forRange_zero]
    exact ⟨h0, fun s h => h.resolve_right fun ⟨i, hi, _⟩ => Nat.not_lt_zero i hi⟩
  | succ m ih =>
    obtain ⟨hI, hQ⟩ := ih fun i st hi => hstep i st (Nat.lt_succ_of_lt hi)
    obtain ⟨hI', hQ'⟩ := hstep m _ (Nat.lt_succ_self m) hI
    rw [forRange_succ]
    refine ⟨hI', fun s h => hQ' s ?_⟩
    rcases h with h | ⟨i, hi, hw⟩
    · exact Or.inl (hQ s (Or.inl h))
    · rcases Nat.lt_succ_iff_lt_or_eq.mp hi with hi | rfl
      · exact Or.inl (hQ s (Or.inr ⟨i, hi, hw⟩))
      · exact Or.inr hw

theorem whileFuel_succ {σ : Type} (n : ℕ) (c : σ → Bool) (b : σ → σ) (s : σ) :
    whileFuel (n + 1) c b s = if c s then whileFuel n c b (b s) else (s, true) := rfl

theorem whileFuel_stop {σ : Type} (n : ℕ) (c : σ → Bool) (b : σ → σ) (s : σ) (h : c s = false) :
    (whileFuel n c b s).1 = s := by
  cases n with
  | zero => rfl
  | succ k => rw [whileFuel_succ, h]; rfl

theorem whileFuel_inv {σ : Type} (P : σ → Prop) (c : σ → Bool) (b : σ → σ)
    (hs : ∀ s, c s = true → P s → P (b s)) (n : ℕ) (s : σ) (h : P s) : P (whileFuel n c b s).1 := by
  induction n generalizing s with
  | zero => exact h
  | succ k ih =>
    rw [whileFuel_succ]
    cases hc : c s with
    | false => exact h
    | true => exact ih _ (hs s hc h)

/-- `Arr.memo` (eager evaluation) is extensionally the identity -/
theorem Arr.memo_eq {β : Type} (a : Arr β) : Arr.memo a = a := by
  obtain ⟨n, get⟩ := a
  unfold Arr.memo
  simp only [Arr.mk.injEq, true_and]
  funext i
  split
  · simp only [Array.getElem_map, Array.getElem_range]
  · rfl

theorem Np.pyIndex_nonneg (n : ℕ) (i : ℤ) (hi : 0 ≤ i) : Np.pyIndex n i = i.toNat := by
  unfold Np.pyIndex
  rw [if_neg (by omega)]

theorem Np.pyIndex_neg_one (n : ℕ) : Np.pyIndex n (-1) = n - 1 := by
  unfold Np.pyIndex
  rw [if_pos (by omega)]
  omega

theorem List.range_map_getD {β : Type} (l : List β) (d : β) : (List.range l.length).map (fun i => l.getD i d) = l := by
  refine List.ext_getElem (by simp) (fun i h1 _ => ?_)
  simp only [List.length_map, List.length_range] at h1
  simp [h1]

theorem Int.fdiv_two (a : ℤ) : Int.fdiv a 2 = a / 2 := Int.fdiv_eq_ediv_of_nonneg a (by norm_num)
theorem Int.fmod_two (a : ℤ) : Int.fmod a 2 = a % 2 := Int.fmod_eq_emod_of_nonneg a (by norm_num)
