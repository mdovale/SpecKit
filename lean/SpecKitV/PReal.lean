/-
  SpecKitV.PReal — the STRICT partial reading of the numeric interface.

  `PReal := Option ℝ`; `none` stands for "not a finite number" (IEEE NaN / ±Inf).
  Division by zero, `sqrt` of a negative number, `log`/`log10` of a non-positive number,
  `arcsin` outside [-1, 1] and `pow` of a negative base give `none`; `none` propagates through
  every operation; comparisons involving `none` are `false` (so `bne` is `true`, as IEEE `!=`).

  At the total instance `ℝ` (`SpecKitV.RealInst`, where `x / 0 = 0`) a claim "the result is finite"
  is vacuous; at this instance it is exactly "no guarded operation left its domain".
-/
import SpecKitV.Lemmas.CxC
import SpecKitV.Gen.Attrs

abbrev PReal := Option ℝ

namespace PReal

def ofReal (r : ℝ) : PReal := some r

def map1 (f : ℝ → ℝ) : PReal → PReal
  | some a => some (f a)
  | none => none

def map2 (f : ℝ → ℝ → ℝ) : PReal → PReal → PReal
  | some a, some b => some (f a b)
  | _, _ => none

noncomputable def part1 (dom : ℝ → Prop) [DecidablePred dom] (f : ℝ → ℝ) : PReal → PReal
  | some a => if dom a then some (f a) else none
  | none => none

noncomputable def div : PReal → PReal → PReal
  | some a, some b => if b = 0 then none else some (a / b)
  | _, _ => none

noncomputable def pow : PReal → PReal → PReal
  | some a, some b => if a < 0 then none else some (a ^ b)
  | _, _ => none

def cmp (r : ℝ → ℝ → Bool) : PReal → PReal → Bool
  | some a, some b => r a b
  | _, _ => false

def toInt (f : ℝ → Int) : PReal → Int
  | some a => f a
  | none => 0

end PReal

noncomputable instance instRealLikePReal : RealLike PReal where
  add := PReal.map2 (· + ·)
  sub := PReal.map2 (· - ·)
  mul := PReal.map2 (· * ·)
  div := PReal.div
  neg := PReal.map1 (fun a => -a)
  ofNat n := some (RealLike.ofNat n : ℝ)
  ofInt z := some (RealLike.ofInt z : ℝ)
  ofSci m s e := some (RealLike.ofSci m s e : ℝ)
  lt := PReal.cmp (fun a b => decide (a < b))
  le := PReal.cmp (fun a b => decide (a ≤ b))
  beq := PReal.cmp (fun a b => decide (a = b))
  floor := PReal.toInt (RealLike.floor (α := ℝ))
  ceil := PReal.toInt (RealLike.ceil (α := ℝ))
  roundEven := PReal.toInt (RealLike.roundEven (α := ℝ))
  trunc := PReal.toInt (RealLike.trunc (α := ℝ))
  sqrt := PReal.part1 (fun a => 0 ≤ a) Real.sqrt
  exp := PReal.map1 Real.exp
  log := PReal.part1 (fun a => 0 < a) Real.log
  log10 := PReal.part1 (fun a => 0 < a) (Real.logb 10)
  sin := PReal.map1 Real.sin
  cos := PReal.map1 Real.cos
  arcsin := PReal.part1 (fun a => |a| ≤ 1) Real.arcsin
  atan2 := PReal.map2 (fun y x => Complex.arg ⟨x, y⟩)
  abs := PReal.map1 (fun a => |a|)
  pow := PReal.pow
  pi := some Real.pi

namespace PReal

@[simp] theorem add_some (a b : ℝ) : (some a + some b : PReal) = some (a + b) := rfl
@[simp] theorem sub_some (a b : ℝ) : (some a - some b : PReal) = some (a - b) := rfl
@[simp] theorem mul_some (a b : ℝ) : (some a * some b : PReal) = some (a * b) := rfl
@[simp] theorem neg_some (a : ℝ) : (-(some a) : PReal) = some (-a) := rfl
theorem div_some (a b : ℝ) : (some a / some b : PReal) = if b = 0 then none else some (a / b) := rfl
@[simp] theorem div_some_of_ne (a : ℝ) {b : ℝ} (h : b ≠ 0) : (some a / some b : PReal) = some (a / b) :=
  if_neg h
@[simp] theorem div_some_zero (a : ℝ) : (some a / some 0 : PReal) = none :=
  if_pos rfl

@[simp] theorem ofNat_eq (n : ℕ) : (RealLike.ofNat n : PReal) = some (n : ℝ) := rfl
@[simp] theorem ofInt_eq (z : ℤ) : (RealLike.ofInt z : PReal) = some (z : ℝ) := rfl
@[simp] theorem ofSci_eq (m : ℕ) (s : Bool) (e : ℕ) :
    (RealLike.ofSci m s e : PReal) = some (if s then (m : ℝ) / 10 ^ e else (m : ℝ) * 10 ^ e) := rfl
@[simp] theorem zero_eq : (RealLike.zero : PReal) = some 0 := by simp [RealLike.zero]
@[simp] theorem one_eq : (RealLike.one : PReal) = some 1 := by simp [RealLike.one]
@[simp] theorem two_eq : (RealLike.two : PReal) = some 2 := by simp [RealLike.two]
@[simp] theorem pi_eq : (RealLike.pi : PReal) = some Real.pi := rfl

@[simp] theorem lt_some (a b : ℝ) : RealLike.lt (some a : PReal) (some b) = decide (a < b) := rfl
@[simp] theorem le_some (a b : ℝ) : RealLike.le (some a : PReal) (some b) = decide (a ≤ b) := rfl
@[simp] theorem beq_some (a b : ℝ) : RealLike.beq (some a : PReal) (some b) = decide (a = b) := rfl
@[simp] theorem gt_some (a b : ℝ) : RealLike.gt (some a : PReal) (some b) = decide (b < a) := rfl
@[simp] theorem ge_some (a b : ℝ) : RealLike.ge (some a : PReal) (some b) = decide (b ≤ a) := rfl
@[simp] theorem bne_some (a b : ℝ) : RealLike.bne (some a : PReal) (some b) = !decide (a = b) := rfl

theorem sqrt_some (a : ℝ) : RealLike.sqrt (some a : PReal) = if 0 ≤ a then some (Real.sqrt a) else none := rfl
@[simp] theorem sqrt_some_of_nonneg {a : ℝ} (h : 0 ≤ a) : RealLike.sqrt (some a : PReal) = some (Real.sqrt a) :=
  if_pos h
@[simp] theorem sqrt_some_of_neg {a : ℝ} (h : a < 0) : RealLike.sqrt (some a : PReal) = none :=
  if_neg (not_le.mpr h)
theorem log_some (a : ℝ) : RealLike.log (some a : PReal) = if 0 < a then some (Real.log a) else none := rfl
@[simp] theorem log_some_of_pos {a : ℝ} (h : 0 < a) : RealLike.log (some a : PReal) = some (Real.log a) :=
  if_pos h
@[simp] theorem log_some_of_nonpos {a : ℝ} (h : a ≤ 0) : RealLike.log (some a : PReal) = none :=
  if_neg (not_lt.mpr h)
theorem log10_some (a : ℝ) :
    RealLike.log10 (some a : PReal) = if 0 < a then some (Real.logb 10 a) else none := rfl
@[simp] theorem log10_some_of_pos {a : ℝ} (h : 0 < a) :
    RealLike.log10 (some a : PReal) = some (Real.logb 10 a) :=
  if_pos h
@[simp] theorem log10_some_of_nonpos {a : ℝ} (h : a ≤ 0) : RealLike.log10 (some a : PReal) = none :=
  if_neg (not_lt.mpr h)
theorem arcsin_some (a : ℝ) :
    RealLike.arcsin (some a : PReal) = if |a| ≤ 1 then some (Real.arcsin a) else none := rfl
@[simp] theorem arcsin_some_of_abs_le {a : ℝ} (h : |a| ≤ 1) :
    RealLike.arcsin (some a : PReal) = some (Real.arcsin a) :=
  if_pos h
@[simp] theorem arcsin_some_of_one_lt {a : ℝ} (h : 1 < |a|) : RealLike.arcsin (some a : PReal) = none :=
  if_neg (not_le.mpr h)
@[simp] theorem exp_some (a : ℝ) : RealLike.exp (some a : PReal) = some (Real.exp a) := rfl
@[simp] theorem sin_some (a : ℝ) : RealLike.sin (some a : PReal) = some (Real.sin a) := rfl
@[simp] theorem cos_some (a : ℝ) : RealLike.cos (some a : PReal) = some (Real.cos a) := rfl
@[simp] theorem abs_some (a : ℝ) : RealLike.abs (some a : PReal) = some |a| := rfl
@[simp] theorem atan2_some (y x : ℝ) :
    RealLike.atan2 (some y : PReal) (some x) = some (Complex.arg ⟨x, y⟩) := rfl
theorem pow_some (a b : ℝ) : RealLike.pow (some a : PReal) (some b) = if a < 0 then none else some (a ^ b) := rfl
@[simp] theorem pow_some_of_nonneg {a : ℝ} (h : 0 ≤ a) (b : ℝ) :
    RealLike.pow (some a : PReal) (some b) = some (a ^ b) :=
  if_neg (not_lt.mpr h)
@[simp] theorem pow_some_of_neg {a : ℝ} (h : a < 0) (b : ℝ) :
    RealLike.pow (some a : PReal) (some b) = none :=
  if_pos h
@[simp] theorem floor_some (a : ℝ) : RealLike.floor (some a : PReal) = ⌊a⌋ := rfl
@[simp] theorem ceil_some (a : ℝ) : RealLike.ceil (some a : PReal) = ⌈a⌉ := rfl

@[simp] theorem none_add (b : PReal) : (none + b : PReal) = none := rfl
@[simp] theorem add_none (a : PReal) : (a + none : PReal) = none := by cases a <;> rfl
@[simp] theorem none_sub (b : PReal) : (none - b : PReal) = none := rfl
@[simp] theorem sub_none (a : PReal) : (a - none : PReal) = none := by cases a <;> rfl
@[simp] theorem none_mul (b : PReal) : (none * b : PReal) = none := rfl
@[simp] theorem mul_none (a : PReal) : (a * none : PReal) = none := by cases a <;> rfl
@[simp] theorem none_div (b : PReal) : (none / b : PReal) = none := rfl
@[simp] theorem div_none (a : PReal) : (a / none : PReal) = none := by cases a <;> rfl
@[simp] theorem neg_none : (-(none) : PReal) = none := rfl
@[simp] theorem sqrt_none : RealLike.sqrt (none : PReal) = none := rfl
@[simp] theorem exp_none : RealLike.exp (none : PReal) = none := rfl
@[simp] theorem log_none : RealLike.log (none : PReal) = none := rfl
@[simp] theorem log10_none : RealLike.log10 (none : PReal) = none := rfl
@[simp] theorem sin_none : RealLike.sin (none : PReal) = none := rfl
@[simp] theorem cos_none : RealLike.cos (none : PReal) = none := rfl
@[simp] theorem arcsin_none : RealLike.arcsin (none : PReal) = none := rfl
@[simp] theorem abs_none : RealLike.abs (none : PReal) = none := rfl
@[simp] theorem none_atan2 (x : PReal) : RealLike.atan2 (none : PReal) x = none := rfl
@[simp] theorem atan2_none (y : PReal) : RealLike.atan2 y (none : PReal) = none := by cases y <;> rfl
@[simp] theorem none_pow (b : PReal) : RealLike.pow (none : PReal) b = none := rfl
@[simp] theorem pow_none (a : PReal) : RealLike.pow a (none : PReal) = none := by cases a <;> rfl
@[simp] theorem none_lt (b : PReal) : RealLike.lt (none : PReal) b = false := rfl
@[simp] theorem lt_none (a : PReal) : RealLike.lt a (none : PReal) = false := by cases a <;> rfl
@[simp] theorem none_le (b : PReal) : RealLike.le (none : PReal) b = false := rfl
@[simp] theorem le_none (a : PReal) : RealLike.le a (none : PReal) = false := by cases a <;> rfl
@[simp] theorem none_beq (b : PReal) : RealLike.beq (none : PReal) b = false := rfl
@[simp] theorem beq_none (a : PReal) : RealLike.beq a (none : PReal) = false := by cases a <;> rfl
@[simp] theorem none_bne (b : PReal) : RealLike.bne (none : PReal) b = true := rfl
@[simp] theorem bne_none (a : PReal) : RealLike.bne a (none : PReal) = true := by cases a <;> rfl
@[simp] theorem floor_none : RealLike.floor (none : PReal) = 0 := rfl
@[simp] theorem ceil_none : RealLike.ceil (none : PReal) = 0 := rfl
@[simp] theorem roundEven_none : RealLike.roundEven (none : PReal) = 0 := rfl
@[simp] theorem trunc_none : RealLike.trunc (none : PReal) = 0 := rfl

/-- `x` is a number.  Inside `namespace PReal` the name shadows the type `Fin`; under `open PReal` the two are overloaded -/
def Fin (x : PReal) : Prop := x ≠ none

def CFin (z : Cx PReal) : Prop := Fin z.re ∧ Fin z.im

@[simp] theorem fin_some (r : ℝ) : Fin (some r) := Option.some_ne_none r
@[simp] theorem fin_ofReal (r : ℝ) : Fin (ofReal r) := fin_some r
@[simp] theorem not_fin_none : ¬ Fin none := fun h => h rfl
theorem fin_iff {x : PReal} : Fin x ↔ ∃ r, x = some r := Option.ne_none_iff_exists'

/-- the arithmetic and the elementary functions of the instance, `div` and `pow` apart, are these three liftings -/
theorem fin_map1 (f : ℝ → ℝ) {a : PReal} : Fin (map1 f a) ↔ Fin a := by
  cases a <;> simp [map1]
theorem fin_map2 (f : ℝ → ℝ → ℝ) {a b : PReal} : Fin (map2 f a b) ↔ Fin a ∧ Fin b := by
  cases a <;> cases b <;> simp [map2]
theorem fin_part1 (dom : ℝ → Prop) [DecidablePred dom] (f : ℝ → ℝ) {a : PReal} :
    Fin (part1 dom f a) ↔ ∃ r : ℝ, dom r ∧ a = some r := by
  rcases a with _ | a
  · simp [part1]
  · by_cases h : dom a <;> simp [part1, h]

theorem fin_add {a b : PReal} : Fin (a + b) ↔ Fin a ∧ Fin b := fin_map2 _
theorem fin_sub {a b : PReal} : Fin (a - b) ↔ Fin a ∧ Fin b := fin_map2 _
theorem fin_mul {a b : PReal} : Fin (a * b) ↔ Fin a ∧ Fin b := fin_map2 _
theorem fin_neg {a : PReal} : Fin (-a) ↔ Fin a := fin_map1 _
theorem fin_div {a b : PReal} : Fin (a / b) ↔ Fin a ∧ Fin b ∧ b ≠ some 0 := by
  rcases a with _ | a
  · simp
  rcases b with _ | b
  · simp
  by_cases h : b = 0 <;> simp [div_some, h]
theorem fin_sqrt {a : PReal} : Fin (RealLike.sqrt a) ↔ ∃ r : ℝ, 0 ≤ r ∧ a = some r := fin_part1 _ _
theorem fin_log {a : PReal} : Fin (RealLike.log a) ↔ ∃ r : ℝ, 0 < r ∧ a = some r := fin_part1 _ _
theorem fin_log10 {a : PReal} : Fin (RealLike.log10 a) ↔ ∃ r : ℝ, 0 < r ∧ a = some r := fin_part1 _ _
theorem fin_arcsin {a : PReal} : Fin (RealLike.arcsin a) ↔ ∃ r : ℝ, |r| ≤ 1 ∧ a = some r := fin_part1 _ _
theorem fin_abs {a : PReal} : Fin (RealLike.abs a) ↔ Fin a := fin_map1 _
theorem fin_exp {a : PReal} : Fin (RealLike.exp a) ↔ Fin a := fin_map1 _
theorem fin_sin {a : PReal} : Fin (RealLike.sin a) ↔ Fin a := fin_map1 _
theorem fin_cos {a : PReal} : Fin (RealLike.cos a) ↔ Fin a := fin_map1 _
theorem fin_atan2 {y x : PReal} : Fin (RealLike.atan2 y x) ↔ Fin y ∧ Fin x := fin_map2 _
theorem fin_pow {a b : PReal} : Fin (RealLike.pow a b) ↔ (∃ r : ℝ, 0 ≤ r ∧ a = some r) ∧ Fin b := by
  rcases a with _ | a <;> rcases b with _ | b <;> simp
  by_cases h : 0 ≤ a
  · simp [h]
  · simp [pow_some_of_neg (not_le.mp h), h]
theorem fin_ofNat (n : ℕ) : Fin (RealLike.ofNat n) := by simp
theorem fin_ofInt (z : ℤ) : Fin (RealLike.ofInt z) := by simp
theorem fin_ofSci (m : ℕ) (s : Bool) (e : ℕ) : Fin (RealLike.ofSci m s e) := by simp
theorem fin_pi : Fin (RealLike.pi : PReal) := by simp

/-- a complex number over ℝ read at the strict instance -/
def cx (z : Cx ℝ) : Cx PReal := ⟨some z.re, some z.im⟩

@[simp] theorem cx_re (z : Cx ℝ) : (cx z).re = some z.re := rfl
@[simp] theorem cx_im (z : Cx ℝ) : (cx z).im = some z.im := rfl
@[simp] theorem cfin_cx (z : Cx ℝ) : CFin (cx z) := ⟨fin_some _, fin_some _⟩
theorem cfin_iff {z : Cx PReal} : CFin z ↔ ∃ w : Cx ℝ, z = cx w := by
  rcases z with ⟨re, im⟩
  constructor
  · rintro ⟨h1, h2⟩
    obtain ⟨a, rfl⟩ := fin_iff.mp h1
    obtain ⟨b, rfl⟩ := fin_iff.mp h2
    exact ⟨⟨a, b⟩, rfl⟩
  · rintro ⟨w, hw⟩; rw [hw]; exact cfin_cx w

@[simp] theorem cx_add (a b : Cx ℝ) : cx a + cx b = cx (a + b) := rfl
@[simp] theorem cx_sub (a b : Cx ℝ) : cx a - cx b = cx (a - b) := rfl
@[simp] theorem cx_mul (a b : Cx ℝ) : cx a * cx b = cx (a * b) := rfl
@[simp] theorem cx_conj (a : Cx ℝ) : Cx.conj (cx a) = cx (Cx.conj a) := rfl
@[simp] theorem cx_smul (c : ℝ) (a : Cx ℝ) : Cx.smul (some c : PReal) (cx a) = cx (Cx.smul c a) := rfl
@[simp] theorem cx_ofReal (a : ℝ) : Cx.ofReal (some a : PReal) = cx (Cx.ofReal a) := rfl
@[simp] theorem cx_normSq (a : Cx ℝ) : Cx.normSq (cx a) = some (Cx.normSq a) := rfl
@[simp] theorem cx_divReal (a : Cx ℝ) {c : ℝ} (h : c ≠ 0) :
    Cx.divReal (cx a) (some c : PReal) = cx (Cx.divReal a c) := by
  simp [Cx.divReal, cx, h]
@[simp] theorem cx_abs (a : Cx ℝ) : Cx.abs (cx a) = some (Cx.abs a) := by
  simp [Cx.abs, Cx.normSq_nonneg]

/-! Behind a guard that excludes a zero divisor, strict evaluation succeeds with the value of the total one. -/

theorem bne_some_zero (s : ℝ) :
    RealLike.bne (some s : PReal) (RealLike.ofNat 0) = RealLike.bne s (RealLike.ofNat 0) := by simp
theorem gt_some_zero (s : ℝ) :
    RealLike.gt (some s : PReal) (RealLike.ofNat 0) = RealLike.gt s (RealLike.ofNat 0) := by simp

/-- `h`: where the guard holds the divisor is not 0 (at ℝ, `AttrsA.guard_div` needs the converse: `x / 0 = 0` there) -/
theorem guard_div {c : Bool} {a b : ℝ} (h : c = true → b ≠ 0) :
    (if c then (some a / some b : PReal) else RealLike.zero)
      = some (if c then a / b else RealLike.zero) := by
  cases c
  · rfl
  · rw [if_pos rfl, if_pos rfl, div_some_of_ne _ (h rfl)]

theorem guard_divReal {c : Bool} {z : Cx ℝ} {b : ℝ} (h : c = true → b ≠ 0) :
    (if c then Cx.divReal (cx z) (some b) else Cx.ofReal RealLike.zero)
      = cx (if c then Cx.divReal z b else Cx.ofReal RealLike.zero) := by
  cases c
  · rfl
  · rw [if_pos rfl, if_pos rfl, cx_divReal _ (h rfl)]

end PReal

/-- a finite per-bin record read at the strict instance -/
def BinData.lift (d : Gen.BinData ℝ) : Gen.BinData PReal where
  XX := some d.XX
  YY := some d.YY
  XY := PReal.cx d.XY
  S12 := some d.S12
  S2 := some d.S2
  M2 := some d.M2
  navg := some d.navg
  fs := some d.fs

namespace BinData
@[simp] theorem lift_XX (d : Gen.BinData ℝ) : (lift d).XX = some d.XX := rfl
@[simp] theorem lift_YY (d : Gen.BinData ℝ) : (lift d).YY = some d.YY := rfl
@[simp] theorem lift_XY (d : Gen.BinData ℝ) : (lift d).XY = PReal.cx d.XY := rfl
@[simp] theorem lift_S12 (d : Gen.BinData ℝ) : (lift d).S12 = some d.S12 := rfl
@[simp] theorem lift_S2 (d : Gen.BinData ℝ) : (lift d).S2 = some d.S2 := rfl
@[simp] theorem lift_M2 (d : Gen.BinData ℝ) : (lift d).M2 = some d.M2 := rfl
@[simp] theorem lift_navg (d : Gen.BinData ℝ) : (lift d).navg = some d.navg := rfl
@[simp] theorem lift_fs (d : Gen.BinData ℝ) : (lift d).fs = some d.fs := rfl
end BinData
